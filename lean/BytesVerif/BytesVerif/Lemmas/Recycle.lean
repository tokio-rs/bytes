/- Lemmas about the recycling model (C18): what `reserve` and `step` do, branch by branch. -/
import BytesVerif.Model.Recycle
namespace BytesVerif.Recycle

/-- what the handle-level invariants of M1 give for the recycling view -/
structure RInv (r : Rec) : Prop where
  len_le : r.len ≤ r.cap
  in_alloc : r.off + r.cap ≤ r.A
  vec_exact : r.arc = false → r.off + r.cap = r.A

theorem arc_absurd {r : Rec} {P : Prop} (ht : r.arc = true) (hf : r.arc = false) : P :=
  Bool.noConfusion (ht.symm.trans hf)

theorem origCap_origRepr_le (c : Nat) : origCap (origRepr c) ≤ c := by
  unfold origRepr bitWidth
  by_cases hq : c / 1024 = 0
  · simp [hq, origCap]
  · simp only [hq, if_false]
    have h1 : 2 ^ Nat.log2 (c / 1024) ≤ c / 1024 := Nat.log2_self_le hq
    have h2 : c / 1024 * 1024 ≤ c := Nat.div_mul_le_self c 1024
    have hne : min (Nat.log2 (c / 1024) + 1) 7 ≠ 0 := by omega
    have h3 : (2 : Nat) ^ (min (Nat.log2 (c / 1024) + 1) 7 + 9) ≤ 2 ^ (Nat.log2 (c / 1024) + 10) :=
      Nat.pow_le_pow_right (by decide) (by omega)
    have h4 : (2 : Nat) ^ (Nat.log2 (c / 1024) + 10) = 2 ^ Nat.log2 (c / 1024) * 1024 := by
      rw [Nat.pow_add]
    unfold origCap
    rw [if_neg hne]
    omega

theorem growCap_eq (c n : Nat) : growCap c n = max (max (c * 2) n) 8 := rfl

theorem le_growCap (c n : Nat) : c * 2 ≤ growCap c n ∧ n ≤ growCap c n ∧ 8 ≤ growCap c n :=
  ⟨Nat.le_trans (Nat.le_max_left _ _) (Nat.le_max_left _ _),
   Nat.le_trans (Nat.le_max_right _ _) (Nat.le_max_left _ _), Nat.le_max_right _ _⟩

theorem growCap_le {c n b : Nat} (hc : c * 2 ≤ b) (hn : n ≤ b) (h8 : 8 ≤ b) : growCap c n ≤ b :=
  Nat.max_le.2 ⟨Nat.max_le.2 ⟨hc, hn⟩, h8⟩

/-- asking for at least twice the capacity changes nothing: `Vec::reserve` doubles anyway -/
theorem growCap_max_double (c n : Nat) : growCap c (max (c * 2) n) = growCap c n := by
  rw [growCap, growCap, ← Nat.max_assoc, Nat.max_self]

theorem reserve_noop (r : Rec) (k : Nat) (h0 : k ≤ r.cap - r.len) : reserve r k = r := by
  simp [reserve, h0]

theorem reserve_vec_front (r : Rec) (k : Nat) (h0 : ¬ k ≤ r.cap - r.len) (ha : r.arc = false)
    (h1 : r.cap - r.len + r.off ≥ k ∧ r.off ≥ r.len) :
    reserve r k = { r with off := 0, cap := r.cap + r.off } := by
  simp [reserve, h0, ha, h1]

theorem reserve_vec_grow (r : Rec) (k : Nat) (h0 : ¬ k ≤ r.cap - r.len) (ha : r.arc = false)
    (h1 : ¬ (r.cap - r.len + r.off ≥ k ∧ r.off ≥ r.len)) :
    reserve r k =
      { r with A := growCap (r.off + r.cap) (r.off + r.len + k),
               cap := growCap (r.off + r.cap) (r.off + r.len + k) - r.off,
               allocs := r.allocs + 1 } := by
  simp only [reserve, h0, ha, h1]; simp

theorem reserve_arc_inplace (r : Rec) (k : Nat) (h0 : ¬ k ≤ r.cap - r.len) (ha : r.arc = true)
    (hp : r.parts = 0) (h2 : r.A ≥ r.len + k + r.off) :
    reserve r k = { r with cap := r.len + k } := by
  simp [reserve, h0, ha, hp, h2]

theorem reserve_arc_front (r : Rec) (k : Nat) (h0 : ¬ k ≤ r.cap - r.len) (ha : r.arc = true)
    (hp : r.parts = 0) (h2 : ¬ r.A ≥ r.len + k + r.off) (h3 : r.A ≥ r.len + k ∧ r.off ≥ r.len) :
    reserve r k = { r with off := 0, cap := r.A } := by
  simp only [reserve, h0, ha, hp, h2, h3]; simp

theorem reserve_arc_grow (r : Rec) (k : Nat) (h0 : ¬ k ≤ r.cap - r.len) (ha : r.arc = true)
    (hp : r.parts = 0) (h2 : ¬ r.A ≥ r.len + k + r.off) (h3 : ¬ (r.A ≥ r.len + k ∧ r.off ≥ r.len)) :
    reserve r k =
      { r with A := growCap r.A (max (r.A * 2) (r.len + k + r.off)),
               cap := growCap r.A (max (r.A * 2) (r.len + k + r.off)) - r.off,
               allocs := r.allocs + 1 } := by
  simp only [reserve, h0, ha, hp, h2, h3]; simp

theorem reserve_arc_shared (r : Rec) (k : Nat) (h0 : ¬ k ≤ r.cap - r.len) (ha : r.arc = true)
    (hp : r.parts ≠ 0) :
    reserve r k =
      { r with A := max (r.len + k) (origCap r.orig), off := 0,
               cap := max (r.len + k) (origCap r.orig), arc := false, parts := 0,
               pinned := r.A :: r.pinned,
               allocs := if max (r.len + k) (origCap r.orig) = 0 then r.allocs
                         else r.allocs + 1 } := by
  simp only [reserve, h0, ha, hp]; simp

/-- **What `reserve` does to a record that satisfies the layout invariant**: room for `k` more bytes
in a record that satisfies it again, and the allocation is kept, or grown (under the invariant KIND_VEC
and unique KIND_ARC take the same decisions and grow to the same size), or — parts outstanding — left
to them for a fresh vector. -/
theorem reserve_spec {r r' : Rec} (k : Nat) (h : reserve r k = r') (hi : RInv r) :
    r'.len = r.len ∧ r'.orig = r.orig ∧ r.len + k ≤ r'.cap ∧ r'.off + r'.cap ≤ r'.A ∧
    (r'.arc = false → r'.off + r'.cap = r'.A) ∧
    ((r'.A = r.A ∧ r'.allocs = r.allocs ∧ r'.pinned = r.pinned ∧ r'.parts = r.parts) ∨
     (r'.A = growCap r.A (r.len + k + r.off) ∧ r'.allocs = r.allocs + 1 ∧
        r'.pinned = r.pinned ∧ r'.parts = r.parts ∧
        r.A < r.len + k + r.off ∧ ¬ (r.len + k ≤ r.A ∧ r.len ≤ r.off)) ∨
     (r.parts ≠ 0 ∧ r'.arc = false ∧ r'.A = max (r.len + k) (origCap r.orig) ∧
        r'.pinned = r.A :: r.pinned)) := by
  obtain ⟨hlen, hin, hvec⟩ := hi
  -- the grown allocation `G`: all that matters is that the request fits
  have grown : ∀ G, r.len + k + r.off ≤ G → r.off + (G - r.off) = G := fun G hG =>
    Nat.add_sub_cancel' (Nat.le_trans (Nat.le_add_left _ _) hG)
  by_cases h0 : k ≤ r.cap - r.len
  · rw [reserve_noop r k h0] at h; subst h
    exact ⟨rfl, rfl, Nat.add_le_of_le_sub' hlen h0, hin, hvec, .inl ⟨rfl, rfl, rfl, rfl⟩⟩
  rcases Bool.eq_false_or_eq_true r.arc with ha | ha
  · by_cases hp : r.parts = 0
    · by_cases h2 : r.A ≥ r.len + k + r.off
      · rw [reserve_arc_inplace r k h0 ha hp h2] at h; subst h
        exact ⟨rfl, rfl, Nat.le_refl _, Nat.add_comm _ _ ▸ h2, arc_absurd ha, .inl ⟨rfl, rfl, rfl, rfl⟩⟩
      by_cases h3 : r.A ≥ r.len + k ∧ r.off ≥ r.len
      · rw [reserve_arc_front r k h0 ha hp h2 h3] at h; subst h
        exact ⟨rfl, rfl, h3.1, Nat.le_of_eq (Nat.zero_add _), arc_absurd ha, .inl ⟨rfl, rfl, rfl, rfl⟩⟩
      · rw [reserve_arc_grow r k h0 ha hp h2 h3, growCap_max_double] at h
        have hG := (le_growCap r.A (r.len + k + r.off)).2.1
        generalize growCap r.A (r.len + k + r.off) = G at h hG
        subst h
        exact ⟨rfl, rfl, Nat.le_sub_of_add_le hG, Nat.le_of_eq (grown G hG), arc_absurd ha,
          .inr (.inl ⟨rfl, rfl, rfl, rfl, Nat.lt_of_not_le h2, h3⟩)⟩
    · rw [reserve_arc_shared r k h0 ha hp] at h; subst h
      exact ⟨rfl, rfl, Nat.le_max_left _ _, Nat.le_of_eq (Nat.zero_add _), fun _ => Nat.zero_add _,
        .inr (.inr ⟨hp, rfl, rfl, rfl⟩)⟩
  · have hA := hvec ha
    by_cases h1 : r.cap - r.len + r.off ≥ k ∧ r.off ≥ r.len
    · have hA' : 0 + (r.cap + r.off) = r.A := by rw [Nat.zero_add, Nat.add_comm]; exact hA
      rw [reserve_vec_front r k h0 ha h1] at h; subst h
      exact ⟨rfl, rfl, by dsimp only; omega, Nat.le_of_eq hA', fun _ => hA', .inl ⟨rfl, rfl, rfl, rfl⟩⟩
    · have hfit : r.A < r.len + k + r.off := by omega
      have hfront : ¬ (r.len + k ≤ r.A ∧ r.len ≤ r.off) := by omega
      rw [reserve_vec_grow r k h0 ha h1, hA, show r.off + r.len + k = r.len + k + r.off from
        (Nat.add_assoc _ _ _).trans (Nat.add_comm _ _)] at h
      have hG := (le_growCap r.A (r.len + k + r.off)).2.1
      generalize growCap r.A (r.len + k + r.off) = G at h hG
      subst h
      exact ⟨rfl, rfl, Nat.le_sub_of_add_le hG, Nat.le_of_eq (grown G hG), fun _ => grown G hG,
        .inr (.inl ⟨rfl, rfl, rfl, rfl, hfit, hfront⟩)⟩

/-- a request that fits neither behind the offset nor after moving the contents to the front: the
allocation is smaller than twice the bound `M` on contents + request -/
theorem grow_below {A off len k M : Nat} (h1 : A < len + k + off) (h2 : ¬ (len + k ≤ A ∧ len ≤ off))
    (hoff : off ≤ A) (hk : len + k ≤ M) : A < 2 * M ∧ A * 2 ≤ 4 * M ∧ len + k + off ≤ 4 * M := by
  omega

/-- a refill with no outstanding parts: either nothing is allocated, or the allocation at least
doubles, reaches 8 bytes, was below `2M` before and is at most `max (4M) 8` after -/
theorem reserve_refill (r : Rec) (k M : Nat) (hi : RInv r) (hk : r.len + k ≤ M) (hparts : r.parts = 0) :
    (reserve r k).pinned = r.pinned ∧
    (((reserve r k).allocs = r.allocs ∧ (reserve r k).A = r.A) ∨
     ((reserve r k).allocs = r.allocs + 1 ∧ 2 * r.A ≤ (reserve r k).A ∧ 8 ≤ (reserve r k).A ∧
        r.A < 2 * M ∧ (reserve r k).A ≤ max (4 * M) 8)) := by
  obtain ⟨_, _, _, _, _, ⟨eA, ea, ep, _⟩ | ⟨eA, ea, ep, _, h1, h2⟩ | ⟨hp0, _⟩⟩ := reserve_spec k rfl hi
  · exact ⟨ep, .inl ⟨ea, eA⟩⟩
  · obtain ⟨hM, g2, gn⟩ := grow_below h1 h2 (Nat.le_trans (Nat.le_add_right _ _) hi.in_alloc) hk
    obtain ⟨l2, _, l8⟩ := le_growCap r.A (r.len + k + r.off)
    rw [eA]
    exact ⟨ep, .inr ⟨ea, Nat.mul_comm _ _ ▸ l2, l8, hM, growCap_le (Nat.le_trans g2 (Nat.le_max_left _ _))
      (Nat.le_trans gn (Nat.le_max_left _ _)) (Nat.le_max_right _ _)⟩⟩
  · exact absurd hparts hp0

theorem promote_eq (r : Rec) : promote r = { r with arc := true } := by
  unfold promote; cases h : r.arc
  · rfl
  · cases r; cases h; rfl

theorem step_advance (r : Rec) (n : Nat) (h : n ≤ r.len) :
    step r (.advance n) = { r with off := r.off + n, len := r.len - n, cap := r.cap - n } :=
  if_neg (Nat.not_lt.mpr h)

theorem step_advance_noop (r : Rec) (n : Nat) (h : ¬ n ≤ r.len) : step r (.advance n) = r :=
  if_pos (Nat.lt_of_not_le h)

theorem step_truncate (r : Rec) (n : Nat) (h : n ≤ r.len) : step r (.truncate n) = { r with len := n } :=
  if_pos h

theorem step_truncate_noop (r : Rec) (n : Nat) (h : ¬ n ≤ r.len) : step r (.truncate n) = r := if_neg h

theorem step_splitTo (r : Rec) (n : Nat) (h : n ≤ r.len) :
    step r (.splitTo n) =
      { r with arc := true, off := r.off + n, len := r.len - n, cap := r.cap - n, parts := r.parts + 1 } := by
  simp only [step, if_neg (Nat.not_lt.mpr h), promote_eq]

theorem step_splitTo_noop (r : Rec) (n : Nat) (h : ¬ n ≤ r.len) : step r (.splitTo n) = r :=
  if_pos (Nat.lt_of_not_le h)

theorem step_split (r : Rec) : step r .split = step r (.splitTo r.len) := by
  rw [step_splitTo r _ (Nat.le_refl _)]; simp only [step, promote_eq, Nat.sub_self]

theorem step_splitOffTail (r : Rec) :
    step r .splitOffTail = { r with arc := true, cap := r.len, parts := r.parts + 1 } := by
  simp only [step, promote_eq]

theorem step_dropPinned (r : Rec) : step r .dropPinned = { r with pinned := r.pinned.dropLast } := rfl

theorem step_unsplitLast_empty (r : Rec) (n c : Nat) (h0 : r.len = 0) :
    step r (.unsplitLast n c) = { r with len := n, cap := c, parts := r.parts - 1 } := if_pos h0

theorem step_unsplitLast_drop (r : Rec) (n c : Nat) (h0 : r.len ≠ 0) (hc : c = 0) :
    step r (.unsplitLast n c) = { r with parts := r.parts - 1 } := (if_neg h0).trans (if_pos hc)

theorem step_unsplitLast_merge (r : Rec) (n c : Nat) (h0 : r.len ≠ 0) (hc : c ≠ 0) (hl : r.len = r.cap) :
    step r (.unsplitLast n c) = { r with len := r.len + n, cap := r.cap + c, parts := r.parts - 1 } :=
  (if_neg h0).trans ((if_neg hc).trans (if_pos hl))

theorem step_unsplitLast_copy (r : Rec) (n c : Nat) (h0 : r.len ≠ 0) (hc : c ≠ 0) (hl : r.len ≠ r.cap) :
    step r (.unsplitLast n c) =
      { step r (.append n) with parts := (step r (.append n)).parts - 1 } :=
  (if_neg h0).trans ((if_neg hc).trans (if_neg hl))

theorem step_roundTrip_copy (r : Rec) (hp : r.parts ≠ 0) :
    step r .roundTrip =
      { r with A := r.len, off := 0, cap := r.len, arc := false, orig := origRepr r.len, parts := 0,
               pinned := r.A :: r.pinned, allocs := if r.len = 0 then r.allocs else r.allocs + 1 } :=
  if_pos hp

theorem step_roundTrip_vec (r : Rec) (hp : r.parts = 0) (ha : r.arc = false) :
    step r .roundTrip = { r with orig := origRepr r.A } := by
  simp only [step, hp, ha]; rfl

theorem step_roundTrip_arc (r : Rec) (hp : r.parts = 0) (ha : r.arc = true) :
    step r .roundTrip = { r with cap := r.A - r.off } := by
  simp only [step, hp, ha]; rfl

theorem unsplitLast_cases (r : Rec) (n c : Nat) :
    (r.len = 0 ∧ step r (.unsplitLast n c) = { r with len := n, cap := c, parts := r.parts - 1 }) ∨
    (r.len ≠ 0 ∧ c = 0 ∧ step r (.unsplitLast n c) = { r with parts := r.parts - 1 }) ∨
    (r.len ≠ 0 ∧ c ≠ 0 ∧ r.len = r.cap ∧
      step r (.unsplitLast n c) = { r with len := r.len + n, cap := r.cap + c, parts := r.parts - 1 }) ∨
    (r.len ≠ 0 ∧ c ≠ 0 ∧ r.len ≠ r.cap ∧
      step r (.unsplitLast n c) =
        { step r (.append n) with parts := (step r (.append n)).parts - 1 }) := by
  by_cases h0 : r.len = 0
  · exact .inl ⟨h0, step_unsplitLast_empty r n c h0⟩
  by_cases hc : c = 0
  · exact .inr (.inl ⟨h0, hc, step_unsplitLast_drop r n c h0 hc⟩)
  by_cases hf : r.len = r.cap
  · exact .inr (.inr (.inl ⟨h0, hc, hf, step_unsplitLast_merge r n c h0 hc hf⟩))
  · exact .inr (.inr (.inr ⟨h0, hc, hf, step_unsplitLast_copy r n c h0 hc hf⟩))

/-- the operations that can allocate or re-record the original capacity (`unsplitLast` because of its
fall-back to `extend_from_slice` when the halves cannot be merged) -/
def Op.refills : Op → Bool
  | .reserve _ | .append _ | .roundTrip | .unsplitLast _ _ => true
  | _ => false

/-- every other operation leaves the allocation, the count and `orig` alone and can only shrink
the pinned list -/
theorem step_frame (r : Rec) (op : Op) (h : op.refills = false) :
    (step r op).A = r.A ∧ (step r op).allocs = r.allocs ∧ (step r op).orig = r.orig ∧
      ∀ a ∈ (step r op).pinned, a ∈ r.pinned := by
  cases op with
  | reserve k => cases h
  | append m => cases h
  | roundTrip => cases h
  | unsplitLast n c => cases h
  | splitTo n =>
    by_cases hn : n ≤ r.len
    · rw [step_splitTo r n hn]; exact ⟨rfl, rfl, rfl, fun _ h => h⟩
    · rw [step_splitTo_noop r n hn]; exact ⟨rfl, rfl, rfl, fun _ h => h⟩
  | split => rw [step_split, step_splitTo r _ (Nat.le_refl _)]; exact ⟨rfl, rfl, rfl, fun _ h => h⟩
  | advance n =>
    by_cases hn : n ≤ r.len
    · rw [step_advance r n hn]; exact ⟨rfl, rfl, rfl, fun _ h => h⟩
    · rw [step_advance_noop r n hn]; exact ⟨rfl, rfl, rfl, fun _ h => h⟩
  | truncate n =>
    by_cases hn : n ≤ r.len
    · rw [step_truncate r n hn]; exact ⟨rfl, rfl, rfl, fun _ h => h⟩
    · rw [step_truncate_noop r n hn]; exact ⟨rfl, rfl, rfl, fun _ h => h⟩
  | dropPart => exact ⟨rfl, rfl, rfl, fun _ h => h⟩
  | dropPinned => exact ⟨rfl, rfl, rfl, fun a ha => List.dropLast_subset _ ha⟩
  | dropOld => exact ⟨rfl, rfl, rfl, fun _ h => h⟩
  | splitOffTail => rw [step_splitOffTail]; exact ⟨rfl, rfl, rfl, fun _ h => h⟩

/-- an `unsplitLast` that does not fall back to copying leaves the allocation, the count, `orig` and
the pinned list alone -/
theorem unsplitLast_frame (r : Rec) (n c : Nat) (h : r.len = 0 ∨ c = 0 ∨ r.len = r.cap) :
    (step r (.unsplitLast n c)).A = r.A ∧ (step r (.unsplitLast n c)).allocs = r.allocs ∧
      (step r (.unsplitLast n c)).orig = r.orig ∧ (step r (.unsplitLast n c)).pinned = r.pinned := by
  rcases unsplitLast_cases r n c with ⟨_, e⟩ | ⟨_, _, e⟩ | ⟨_, _, _, e⟩ | ⟨h0, hc, hf, _⟩
  · rw [e]; exact ⟨rfl, rfl, rfl, rfl⟩
  · rw [e]; exact ⟨rfl, rfl, rfl, rfl⟩
  · rw [e]; exact ⟨rfl, rfl, rfl, rfl⟩
  · rcases h with h | h | h
    · exact absurd h h0
    · exact absurd h hc
    · exact absurd h hf

end BytesVerif.Recycle
