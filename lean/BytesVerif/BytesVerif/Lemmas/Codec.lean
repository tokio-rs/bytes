/-
Facts about the getter model (M3).  Each arm of the macros is characterised in terms of `den`
only (the fast path on `chunk` and the copying path agree), `rowOK` is inverted into the five
body shapes it accepts, and the shift-based `sign_extend` is related to `toSigned`.
-/
import BytesVerif.Model.Codec
import BytesVerif.Props.C09
namespace BytesVerif.Codec
open BytesVerif.Buf

theorem leVal_append_zeros (k : Nat) (bs : Bs) : leVal (bs ++ List.replicate k 0) = leVal bs := by
  induction bs with
  | nil =>
    induction k with
    | zero => simp [leVal]
    | succ k ih => simp_all [List.replicate_succ, leVal]
  | cons x r ih => simp [leVal, ih]

theorem leVal_lt (bs : Bs) (h : ∀ x ∈ bs, x < 256) : leVal bs < 256 ^ bs.length := by
  induction bs with
  | nil => simp [leVal]
  | cons x r ih =>
    have hx : x < 256 := h x (by simp)
    have hr := ih (fun y hy => h y (by simp [hy]))
    simp only [leVal, List.length_cons, Nat.pow_succ]
    omega

theorem beVal_append_singleton (l : Bs) (x : Nat) : beVal (l ++ [x]) = beVal l * 256 + x := by
  induction l with
  | nil => simp [beVal]
  | cons b r ih =>
    simp only [List.cons_append, beVal, ih, List.length_append, List.length_cons, List.length_nil,
      Nat.pow_succ]
    rw [Nat.add_mul, Nat.mul_assoc]; omega

theorem beVal_reverse (l : Bs) : beVal l.reverse = leVal l := by
  induction l with
  | nil => rfl
  | cons b r ih => simp only [List.reverse_cons, beVal_append_singleton, ih, leVal]; omega

theorem beVal_replicate_zero (k : Nat) (bs : Bs) : beVal (List.replicate k 0 ++ bs) = beVal bs := by
  rw [← List.reverse_reverse (List.replicate k 0 ++ bs), beVal_reverse, List.reverse_append,
    List.reverse_replicate, leVal_append_zeros, ← beVal_reverse, List.reverse_reverse]

theorem beVal_lt (bs : Bs) (h : ∀ x ∈ bs, x < 256) : beVal bs < 256 ^ bs.length := by
  rw [← List.reverse_reverse bs, beVal_reverse, List.length_reverse]
  exact List.length_reverse ▸ leVal_lt bs.reverse fun x hx => h x (List.mem_reverse.mp hx)

theorem unsignedVal_lt (e : Endian) (bs : Bs) (h : ∀ x ∈ bs, x < 256) :
    unsignedVal e bs < 256 ^ bs.length := by
  cases e <;> simp only [unsignedVal] <;> first | exact beVal_lt bs h | exact leVal_lt bs h

theorem unsignedVal_singleton (e : Endian) (x : Nat) : unsignedVal e [x] = x := by
  cases e <;> simp [unsignedVal, beVal, leVal]

theorem toSigned_shl (a s v : Nat) (ha : 0 < a) :
    toSigned (a + s) (v * 2 ^ s) = toSigned a v * (2 ^ s : Nat) := by
  have hp : 0 < 2 ^ s := Nat.two_pow_pos s
  have h1 : 2 ^ (a + s - 1) = 2 ^ (a - 1) * 2 ^ s := by
    rw [← Nat.pow_add]; congr 1; omega
  unfold toSigned
  rw [if_neg (show ¬ a + s = 0 by omega), if_neg (show ¬ a = 0 by omega), h1, Nat.pow_add]
  by_cases hv : v < 2 ^ (a - 1)
  · rw [if_pos hv, if_pos (Nat.mul_lt_mul_of_pos_right hv hp), Int.natCast_mul]
  · rw [if_neg hv, if_neg (fun h => hv (Nat.lt_of_mul_lt_mul_right h)), Int.sub_mul,
      Int.natCast_mul, Int.natCast_mul]

theorem tryGetFixed_ok (bytes : Nat) (signed : Bool) (conv : Endian) (b : BufT) (hb : wf b)
    (h : bytes ≤ remaining b) :
    ∃ b', tryGetFixed bytes signed conv b
        = .ok (.val (convFixed signed bytes conv ((den b).take bytes)), b') ∧
      den b' = (den b).drop bytes ∧ wf b' := by
  unfold tryGetFixed
  rw [if_neg (by omega)]
  split
  · next hc =>
    obtain ⟨b', h1, h2, h3⟩ := advance_ok b bytes hb h
    exact ⟨b', by rw [h1, chunk_take_eq b hb bytes hc]; rfl, h2, h3⟩
  · obtain ⟨b', h1, h2, h3⟩ := copyToSlice_ok b bytes hb h
    exact ⟨b', by rw [h1]; rfl, h2, h3⟩

theorem tryGetVar_ok (arm : Endian) (s64 : Bool) (n : Nat) (b : BufT) (hb : wf b)
    (h8 : n ≤ 8) (h : n ≤ remaining b) :
    ∃ b', tryGetVar arm s64 n b
        = .ok (.val (if s64 then toSigned 64 (unsignedVal arm ((den b).take n))
                      else unsignedVal arm ((den b).take n)), b') ∧
      den b' = (den b).drop n ∧ wf b' := by
  obtain ⟨b', h1, h2, h3⟩ := tryCopyToSlice_ok b n hb h
  refine ⟨b', ?_, h2, h3⟩
  unfold tryGetVar
  rw [if_neg (by omega), h1]
  cases arm <;> simp [unsignedVal, beVal_replicate_zero, leVal_append_zeros]

theorem orPanic_val (t : Bool) (v : Int) (b : BufT) :
    orPanic t (.ok (.val v, b)) = .ok (.val v, b) := rfl

theorem orPanic_err (t : Bool) (x y : Nat) (b : BufT) :
    orPanic t (.ok (.err x y, b)) = if t then .ok (.err x y, b) else .panic := rfl

theorem orPanic_panic (t : Bool) : orPanic t .panic = .panic := rfl

/-- `e` is free: one byte reads the same in every byte order (`unsignedVal_singleton`). -/
theorem evalBody_byteDirect_ok (c : Cfg) (form : SignExtForm) (s t : Bool) (e : Endian) (n : Nat)
    (b : BufT) (hb : wf b) (h : 1 ≤ remaining b) :
    ∃ b', evalBody c form (.byteDirect s t) n b
        = .ok (.val (convFixed s 1 e ((den b).take 1)), b') ∧
      den b' = (den b).drop 1 ∧ wf b' := by
  obtain ⟨b', h1, h2, h3⟩ := advance_ok b 1 hb h
  refine ⟨b', ?_, h2, h3⟩
  have hne : chunk b ≠ [] := fun hc => by
    have := (chunk_nil_iff b hb).1 hc; omega
  obtain ⟨tl, ht⟩ := chunk_prefix b hb
  rw [evalBody, if_neg (by omega)]
  cases hc : chunk b with
  | nil => exact absurd hc hne
  | cons x r =>
    rw [hc] at ht
    simp only [h1, Res.map, ← ht, List.cons_append, List.take_succ_cons, List.take_zero,
      convFixed, unsignedVal_singleton]

theorem evalBody_byteDirect_short (c : Cfg) (form : SignExtForm) (s t : Bool) (n : Nat)
    (b : BufT) (h : remaining b < 1) :
    evalBody c form (.byteDirect s t) n b
      = if t then .ok (.err 1 (remaining b), b) else .panic := by
  rw [evalBody, if_pos h]

theorem evalBody_fixed_ok (c : Cfg) (form : SignExtForm) (k : Nat) (s t : Bool) (e : Endian)
    (n : Nat) (b : BufT) (hb : wf b) (h : k ≤ remaining b) :
    ∃ b', evalBody c form (.fixed k s e t) n b
        = .ok (.val (convFixed s k e ((den b).take k)), b') ∧
      den b' = (den b).drop k ∧ wf b' := by
  obtain ⟨b', h1, h2, h3⟩ := tryGetFixed_ok k s e b hb h
  exact ⟨b', by rw [evalBody, h1, orPanic_val], h2, h3⟩

theorem evalBody_fixed_short (c : Cfg) (form : SignExtForm) (k : Nat) (s t : Bool) (e : Endian)
    (n : Nat) (b : BufT) (h : remaining b < k) :
    evalBody c form (.fixed k s e t) n b
      = if t then .ok (.err k (remaining b), b) else .panic := by
  rw [evalBody, tryGetFixed, if_pos h, orPanic_err]

theorem evalBody_var_ok (c : Cfg) (form : SignExtForm) (e : Endian) (t : Bool)
    (n : Nat) (b : BufT) (hb : wf b) (h8 : n ≤ 8) (h : n ≤ remaining b) :
    ∃ b', evalBody c form (.var e false t) n b
        = .ok (.val (unsignedVal e ((den b).take n)), b') ∧
      den b' = (den b).drop n ∧ wf b' := by
  obtain ⟨b', h1, h2, h3⟩ := tryGetVar_ok e false n b hb h8 h
  exact ⟨b', by rw [evalBody, h1, orPanic_val]; rfl, h2, h3⟩

theorem evalBody_var_short (c : Cfg) (form : SignExtForm) (e : Endian) (s64 t : Bool)
    (n : Nat) (b : BufT) (h8 : n ≤ 8) (h : remaining b < n) :
    evalBody c form (.var e s64 t) n b
      = if t then .ok (.err n (remaining b), b) else .panic := by
  rw [evalBody, tryGetVar, if_neg (by omega), tryCopyToSlice_err b n h, orPanic_err]

theorem evalBody_var_wide (c : Cfg) (form : SignExtForm) (e : Endian) (s64 t : Bool)
    (n : Nat) (b : BufT) (h8 : 8 < n) :
    evalBody c form (.var e s64 t) n b = .panic := by
  rw [evalBody, tryGetVar, if_pos h8, orPanic_panic]

/-- What `sign_extend` (checked form) computes from the zero-extended value. -/
def sxVal (v n : Nat) : Int :=
  if (8 - n) * 8 ≥ 64 then 0
  else Int.fdiv (toSigned 64 (v * 2 ^ ((8 - n) * 8) % 2 ^ 64)) (2 ^ ((8 - n) * 8) : Nat)

theorem signExtend_checked (c : Cfg) (v n : Nat) :
    signExtend c .checkedShift v n = .ok (sxVal v n) := by
  unfold signExtend sxVal
  simp only
  split <;> rfl

theorem evalBody_signExt_ok (c : Cfg) (e : Endian) (t t' : Bool)
    (n : Nat) (b : BufT) (hb : wf b) (h8 : n ≤ 8) (h : n ≤ remaining b) :
    ∃ b', evalBody c .checkedShift (.signExt (.var e false t) t') n b
        = .ok (.val (sxVal (unsignedVal e ((den b).take n)) n), b') ∧
      den b' = (den b).drop n ∧ wf b' := by
  obtain ⟨b', h1, h2, h3⟩ := evalBody_var_ok c .checkedShift e t n b hb h8 h
  refine ⟨b', ?_, h2, h3⟩
  rw [evalBody, h1]
  simp only [Int.toNat_natCast, signExtend_checked]

theorem evalBody_signExt_short (c : Cfg) (form : SignExtForm) (e : Endian) (s64 t t' : Bool)
    (n : Nat) (b : BufT) (h8 : n ≤ 8) (h : remaining b < n) :
    evalBody c form (.signExt (.var e s64 t) t') n b
      = if t then .ok (.err n (remaining b), b) else .panic := by
  rw [evalBody, evalBody_var_short c form e s64 t n b h8 h]
  cases t <;> rfl

theorem evalBody_signExt_wide (c : Cfg) (form : SignExtForm) (e : Endian) (s64 t t' : Bool)
    (n : Nat) (b : BufT) (h8 : 8 < n) :
    evalBody c form (.signExt (.var e s64 t) t') n b = .panic := by
  rw [evalBody, evalBody_var_wide c form e s64 t n b h8]

theorem isFixed_inv {k : Nat} {s : Bool} {e : Endian} {t : Bool} {body : Body}
    (h : isFixed k s e t body = true) : body = .fixed k s e t := by
  cases body <;> simp_all [isFixed]

theorem isVarU_inv {e : Endian} {t : Bool} {body : Body}
    (h : isVarU e t body = true) : body = .var e false t := by
  cases body <;> simp_all [isVarU]

theorem isSignExtVarU_inv {e : Endian} {t : Bool} {body : Body}
    (h : isSignExtVarU e t body = true) : body = .signExt (.var e false t) t := by
  cases body <;> simp_all [isSignExtVarU]
  exact isVarU_inv h.1

theorem evalBody_neDispatch (c : Cfg) (form : SignExtForm) (big little : Body) (n : Nat) (b : BufT) :
    evalBody c form (.neDispatch big little) n b = evalBody c form little n b := by
  rw [evalBody]

theorem tryGetVar_ne (s64 : Bool) (n : Nat) (b : BufT) :
    tryGetVar .ne s64 n b = tryGetVar .le s64 n b := by
  unfold tryGetVar; rfl

theorem evalBody_var_ne (c : Cfg) (form : SignExtForm) (s64 t : Bool) (n : Nat) (b : BufT) :
    evalBody c form (.var .ne s64 t) n b = evalBody c form (.var .le s64 t) n b := by
  rw [evalBody, evalBody, tryGetVar_ne]

theorem evalBody_signExt_var_ne (c : Cfg) (form : SignExtForm) (s64 t t' : Bool) (n : Nat) (b : BufT) :
    evalBody c form (.signExt (.var .ne s64 t) t') n b
      = evalBody c form (.signExt (.var .le s64 t) t') n b := by
  rw [evalBody, evalBody, evalBody, evalBody, tryGetVar_ne]

/-- The body shapes accepted by `rowOK`. -/
inductive Shape (form : SignExtForm) (r : Row) : Prop
  | byte (s : Bool) (hk : r.spec.kind = .int 1 s) (hb : r.body = .byteDirect s r.spec.isTry)
  | fixed (k : Nat) (s : Bool) (hk : r.spec.kind = .int k s)
      (hb : r.body = .fixed k s r.spec.endian r.spec.isTry)
  | float (k : Nat) (hk : r.spec.kind = .float k)
      (hb : r.body = .floatBits (.fixed k false r.spec.endian r.spec.isTry))
  | varU (hk : r.spec.kind = .varUint)
      (hb : ∀ c n b, evalBody c form r.body n b
        = evalBody c form (.var r.spec.endian false r.spec.isTry) n b)
  | varI (hk : r.spec.kind = .varInt) (hf : form = .checkedShift)
      (hb : ∀ c n b, evalBody c form r.body n b
        = evalBody c form (.signExt (.var r.spec.endian false r.spec.isTry) r.spec.isTry) n b)

theorem rowOK_shape (form : SignExtForm) (r : Row) (h : rowOK form r = true) : Shape form r := by
  unfold rowOK at h
  -- one bullet per alternative of the `match` in `rowOK`, in the order of its text
  split at h <;> simp only [Bool.and_eq_true, beq_iff_eq] at h
  · next s s' t' hk hb =>
    obtain ⟨rfl, rfl⟩ := h
    exact .byte s' hk hb
  · next n s hk _ => exact .fixed n s hk (isFixed_inv h.2)
  · next n inner hk hb => exact .float n hk (by rw [hb, isFixed_inv h.2])
  · next hk he => exact .varU hk (by rw [isVarU_inv h, he]; intros; rfl)
  · next hk he => exact .varU hk (by rw [isVarU_inv h, he]; intros; rfl)
  · next big little hk he hb =>
    refine .varU hk (fun c n b => ?_)
    rw [hb, he, isVarU_inv h.2, evalBody_neDispatch, evalBody_var_ne]
  · next hk he => exact .varI hk h.2 (by rw [isSignExtVarU_inv h.1, he]; intros; rfl)
  · next hk he => exact .varI hk h.2 (by rw [isSignExtVarU_inv h.1, he]; intros; rfl)
  · next big little hk he hb =>
    refine .varI hk h.2 (fun c n b => ?_)
    rw [hb, he, isSignExtVarU_inv h.1.2, evalBody_neDispatch, evalBody_signExt_var_ne]
  · cases h

/-- What a row accepted by `rowOK` computes from the next bytes (no assumption on byte range). -/
def rawVal (k : Kind) (e : Endian) (n : Nat) (bs : Bs) : Int :=
  match k with
  | .int w s => convFixed s w e bs
  | .float _ => unsignedVal e bs
  | .varUint => unsignedVal e bs
  | .varInt => sxVal (unsignedVal e bs) n

theorem get_ok_raw (c : Cfg) (form : SignExtForm) (r : Row) (hr : rowOK form r = true)
    (b : BufT) (hb : wf b) (nbytes : Nat) (hw : r.spec.kind = .varUint ∨ r.spec.kind = .varInt → nbytes ≤ 8)
    (hs : r.spec.size nbytes ≤ remaining b) :
    ∃ b', evalBody c form r.body nbytes b
        = .ok (.val (rawVal r.spec.kind r.spec.endian nbytes
            ((den b).take (r.spec.size nbytes))), b') ∧
      den b' = (den b).drop (r.spec.size nbytes) ∧ wf b' := by
  have hsh := rowOK_shape form r hr
  obtain ⟨name, ⟨t, kind, e⟩, body⟩ := r
  cases hsh with
  | byte s hk hbd =>
    simp only at hk hbd hs hw ⊢; subst hk hbd
    exact evalBody_byteDirect_ok c form s t e nbytes b hb hs
  | fixed k s hk hbd =>
    simp only at hk hbd hs hw ⊢; subst hk hbd
    exact evalBody_fixed_ok c form k s t e nbytes b hb hs
  | float k hk hbd =>
    simp only at hk hbd hs hw ⊢; subst hk hbd
    obtain ⟨b', h1, h2, h3⟩ := evalBody_fixed_ok c form k false t e nbytes b hb hs
    exact ⟨b', by rw [evalBody, h1]; rfl, h2, h3⟩
  | varU hk hbd =>
    simp only at hk hbd hs hw ⊢; subst hk
    rw [hbd]
    exact evalBody_var_ok c form e t nbytes b hb (hw (.inl rfl)) hs
  | varI hk hf hbd =>
    simp only at hk hbd hs hw ⊢; subst hk hf
    rw [hbd]
    exact evalBody_signExt_ok c e t t nbytes b hb (hw (.inr rfl)) hs

/-- The shift-based sign extension agrees with the two's-complement reading. -/
theorem sxVal_eq (n v : Nat) (h8 : n ≤ 8) (hv : v < 256 ^ n) : sxVal v n = toSigned (8 * n) v := by
  by_cases h0 : n = 0
  · subst h0; simp [sxVal, toSigned]
  · unfold sxVal
    rw [if_neg (by omega)]
    have h64 : 64 = 8 * n + (8 - n) * 8 := by omega
    generalize (8 - n) * 8 = s at h64
    have hp : 0 < 2 ^ s := Nat.two_pow_pos s
    have hv' : v < 2 ^ (8 * n) := by rwa [Nat.pow_mul]
    rw [h64, Nat.mod_eq_of_lt (by rw [Nat.pow_add]; exact Nat.mul_lt_mul_of_pos_right hv' hp),
      toSigned_shl _ _ _ (by omega), Int.fdiv_eq_ediv_of_nonneg _ (Int.natCast_nonneg _),
      Int.mul_ediv_cancel _ (by omega)]

theorem rawVal_eq_decode (s : Spec) (n : Nat) (bs : Bs) (hbytes : ∀ x ∈ bs, x < 256)
    (hlen : bs.length = s.size n) (hw : s.kind = .varUint ∨ s.kind = .varInt → n ≤ 8) :
    rawVal s.kind s.endian n bs = decode s bs := by
  obtain ⟨t, kind, e⟩ := s
  cases kind with
  | int w sg => rfl
  | float w => rfl
  | varUint => rfl
  | varInt =>
    simp only [Spec.size] at hlen
    simp only [rawVal, decode, hlen]
    have := unsignedVal_lt e bs hbytes
    rw [hlen] at this
    exact sxVal_eq n _ (hw (.inr rfl)) this

end BytesVerif.Codec
