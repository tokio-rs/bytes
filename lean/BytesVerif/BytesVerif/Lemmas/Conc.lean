/- Lemmas about the state transformers of the concurrency protocol model (M5): sums over threads, vector clocks, the
modification order, loads and RMWs.  The invariant of the protocol is that of M5p (Lemmas/ConcPromo.lean). -/
import BytesVerif.Model.Conc
namespace BytesVerif.Conc

def sumTo (f : Nat → Nat) : Nat → Nat
  | 0 => 0
  | n+1 => sumTo f n + f n

theorem sum_range_eq (f : Nat → Nat) (n : Nat) : ((List.range n).map f).sum = sumTo f n := by
  induction n with
  | zero => rfl
  | succ n ih => simp [List.range_succ, sumTo, ih]

theorem sumTo_congr {f g : Nat → Nat} {n : Nat} (h : ∀ u, u < n → f u = g u) :
    sumTo f n = sumTo g n := by
  induction n with
  | zero => rfl
  | succ n ih =>
    simp only [sumTo]
    rw [ih (fun u hu => h u (by omega)), h n (by omega)]

theorem sumTo_split (f : Nat → Nat) {n t : Nat} (ht : t < n) :
    sumTo f n = f t + sumTo (fun u => if u = t then 0 else f u) n := by
  induction n with
  | zero => omega
  | succ n ih =>
    simp only [sumTo]
    by_cases h : t = n
    · subst h
      have : sumTo (fun u => if u = t then 0 else f u) t = sumTo f t :=
        sumTo_congr (fun u hu => by
          have : ¬ u = t := by omega
          simp [this])
      simp [this]; omega
    · have := ih (by omega)
      have hn : ¬ n = t := fun e => h e.symm
      simp [hn]; omega

theorem le_sumTo (f : Nat → Nat) {n t : Nat} (ht : t < n) : f t ≤ sumTo f n := by
  rw [sumTo_split f ht]; omega

theorem sumTo_two (f : Nat → Nat) {n t u : Nat} (ht : t < n) (hu : u < n) (hne : u ≠ t) :
    f t + f u ≤ sumTo f n := by
  rw [sumTo_split f ht]
  have := le_sumTo (fun u => if u = t then 0 else f u) hu
  simp [hne] at this
  omega

theorem sumTo_update (f g : Nat → Nat) {n t : Nat} (ht : t < n)
    (h : ∀ u, u < n → u ≠ t → g u = f u) : sumTo g n + f t = sumTo f n + g t := by
  rw [sumTo_split f ht, sumTo_split g ht]
  have : sumTo (fun u => if u = t then 0 else g u) n = sumTo (fun u => if u = t then 0 else f u) n :=
    sumTo_congr (fun u hu => by
      by_cases e : u = t
      · simp [e]
      · simp [e, h u hu e])
  omega

theorem sumTo_update2 (f g : Nat → Nat) {n t u : Nat} (ht : t < n) (hu : u < n) (hne : t ≠ u)
    (h : ∀ w, w < n → w ≠ t → w ≠ u → g w = f w) :
    sumTo g n + f t + f u = sumTo f n + g t + g u := by
  -- go through the intermediate function that agrees with g at t and with f elsewhere
  let m : Nat → Nat := fun w => if w = t then g t else f w
  have h1 : sumTo m n + f t = sumTo f n + m t :=
    sumTo_update f m ht (fun w _ hw => by simp [m, hw])
  have h2 : sumTo g n + m u = sumTo m n + g u :=
    sumTo_update m g hu (fun w hw hwu => by
      by_cases e : w = t
      · subst e; simp [m]
      · simp [m, e, h w hw e hwu])
  have hmt : m t = g t := by simp [m]
  have hmu : m u = f u := by
    have : ¬ u = t := fun e => hne e.symm
    simp [m, this]
  omega

theorem sumTo_zero_fun (n : Nat) (f : Nat → Nat) (h : ∀ u, u < n → f u = 0) : sumTo f n = 0 := by
  induction n with
  | zero => rfl
  | succ n ih => simp [sumTo, ih (fun u hu => h u (by omega)), h n (by omega)]

theorem le_tick (t : Nat) (v : VC) (u : Nat) : v u ≤ tick t v u := by
  unfold tick; split <;> omega

theorem tick_self (t : Nat) (v : VC) : tick t v t = v t + 1 := by simp [tick]

theorem le_join_left (a b : VC) (u : Nat) : a u ≤ (a.join b) u := Nat.le_max_left _ _
theorem le_join_right (a b : VC) (u : Nat) : b u ≤ (a.join b) u := Nat.le_max_right _ _

/-- the clock `a` after reading a message with view `v`, acquiring or not -/
theorem le_acq (b : Bool) (a v : VC) (u : Nat) : a u ≤ (if b then a.join v else a) u := by
  split
  · exact le_join_left _ _ _
  · exact Nat.le_refl _

theorem view_le_acq {b : Bool} (hb : b = true) (a v : VC) (u : Nat) : v u ≤ (if b then a.join v else a) u := by
  rw [if_pos hb]; exact le_join_right _ _ _

def lastOf (l : List Msg) : Msg := l.getLast?.getD ⟨0, VC.zero⟩

theorem lastOf_append (l : List Msg) (m : Msg) : lastOf (l ++ [m]) = m := by
  simp [lastOf]

theorem getElem?_lt_or_last {l : List Msg} {k : Nat} {m : Msg} (h : l[k]? = some m) :
    k + 1 < l.length ∨ m = lastOf l := by
  have hk : k < l.length := (List.getElem?_eq_some_iff.mp h).1
  by_cases h2 : k + 1 < l.length
  · exact .inl h2
  · have hkk : l.length - 1 = k := by omega
    unfold lastOf
    rw [List.getLast?_eq_getElem?, hkk, h]
    exact .inr rfl

theorem load_spec {s t o k s' v} (hl : load s t o k = some (s', v)) :
    ∃ m, (s.th t).seen ≤ k ∧ s.mo[k]? = some m ∧ v = m.val ∧
      s' = { s with th := fun u => if u = t then
              { s.th t with vc := if o.isAcq then (s.th t).vc.join m.view else (s.th t).vc, seen := k }
            else s.th u } := by
  unfold load at hl
  simp only at hl
  split at hl
  · cases hl
  · split at hl
    · cases hl
    · rename_i m hm
      cases hl
      exact ⟨m, by omega, hm, rfl, rfl⟩

/-- the clock of `t` after an RMW; `rmwView` is the view of the message it writes -/
def rmwVc (s : St) (t : Nat) (od : Ord) : VC :=
  tick t (if od.isAcq then (s.th t).vc.join (latest s).view else (s.th t).vc)

def rmwView (s : St) (t : Nat) (od : Ord) : VC :=
  if od.isRel then (latest s).view.join (rmwVc s t od) else (latest s).view

theorem rmw_mo (s : St) (t : Nat) (od : Ord) (f : Nat → Nat) :
    (rmw s t od f).1.mo = s.mo ++ [⟨f (latest s).val, rmwView s t od⟩] := rfl

theorem rmw_val (s : St) (t : Nat) (od : Ord) (f : Nat → Nat) : (rmw s t od f).2 = (latest s).val := rfl

/-- the state after the decrement of the counter by `t` (`dropSub`, `toVecFailDrop`) -/
def subSt (s : St) (t : Nat) (od : Ord) : St :=
  let r := rmw s t od (· - 1)
  setTh r.1 t fun T => { T with handles := T.handles - 1, pc := if r.2 = 1 then .dropped else .idle }

theorem setTh_id_of {s : St} {t : Nat} {f : Thread → Thread} (h : f (s.th t) = s.th t) :
    setTh s t f = s := by
  unfold setTh
  have : (fun u => if u = t then f (s.th t) else s.th u) = s.th := by
    funext u; by_cases e : u = t
    · subst e; simp [h]
    · simp [e]
  rw [this]

/-- `dropLoad` with the result of the load left implicit -/
theorem Step.dropLoad' {o : Ords} {n : Nat} (s : St) (t k : Nat) (ht : t < n) (hp : (s.th t).pc = .dropped)
    (h : (load s t o.dropLoad k).isSome = true) :
    Step o n s (setTh ((load s t o.dropLoad k).get h).1 t fun T => { T with pc := .loadedFree }) :=
  Step.dropLoad s t k _ _ ht hp (Option.eq_some_of_isSome h)

/-- `uniqueOk` with the result of the load left implicit -/
theorem Step.uniqueOk' {o : Ords} {n : Nat} (s : St) (t k : Nat) (ht : t < n) (hh : 0 < (s.th t).handles) (hp : (s.th t).pc = .idle)
    (h : (load s t o.uniqueLoad k).isSome = true) (hv : ((load s t o.uniqueLoad k).get h).2 = 1) :
    Step o n s ({ (doWrite ((load s t o.uniqueLoad k).get h).1 t n false) with exclusiveCount := s.exclusiveCount + (if (s.th t).exclusive then 0 else 1) } |>
                  fun s2 => setTh s2 t fun T => { T with exclusive := true }) :=
  Step.uniqueOk s t k _ _ ht hh hp (Option.eq_some_of_isSome h) hv

theorem reach_zero {o : Ords} {s} (hr : Reach o 0 s) : s = init := by
  induction hr with
  | init => rfl
  | step _ hst _ => cases hst <;> omega

end BytesVerif.Conc
