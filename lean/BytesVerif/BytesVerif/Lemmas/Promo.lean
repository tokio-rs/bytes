/- Helper lemmas for the promotion protocol model (M5p): the ordering-independent invariant `Basic`,
the invariant `Inv` (for orderings satisfying `Sufficient`), their preservation, `reach_inv`. -/
import BytesVerif.Model.Promo
import BytesVerif.Lemmas.Conc
namespace BytesVerif.Promo
open BytesVerif.Conc (Ord VC Msg tick sumTo sumTo_congr le_sumTo sumTo_two sumTo_update sumTo_update2
  sumTo_zero_fun le_tick le_join_left le_join_right le_acq view_le_acq lastOf lastOf_append
  getElem?_lt_or_last)

instance (s : St) (t : Nat) : Decidable (canUseRoot s t) := by unfold canUseRoot; infer_instance

theorem latest_eq (s : St) : latest s = lastOf s.mo := rfl

@[simp] theorem setTh_th (s : St) (t : Nat) (f : Thread → Thread) (v : Nat) :
    (setTh s t f).th v = if v = t then f (s.th t) else s.th v := rfl

@[simp] theorem touchCtrl_th (s : St) (t : Nat) : (touchCtrl s t).th = s.th := rfl
@[simp] theorem touchCtrl_data (s : St) (t : Nat) : (touchCtrl s t).data = s.data := rfl
@[simp] theorem touchCtrl_mo (s : St) (t : Nat) : (touchCtrl s t).mo = s.mo := rfl
@[simp] theorem touchCtrl_owner (s : St) (t : Nat) : (touchCtrl s t).owner = s.owner := rfl
@[simp] theorem touchCtrl_rootLive (s : St) (t : Nat) : (touchCtrl s t).rootLive = s.rootLive := rfl
@[simp] theorem touchCtrl_promotions (s : St) (t : Nat) : (touchCtrl s t).promotions = s.promotions := rfl

/-- the clock of `t` after an RMW; `rmwView` is the view of the message it writes -/
def rmwVc (s : St) (t : Nat) (od : Ord) : VC :=
  tick t (if od.isAcq then (s.th t).vc.join (latest s).view else (s.th t).vc)

def rmwView (s : St) (t : Nat) (od : Ord) : VC :=
  if od.isRel then (latest s).view.join (rmwVc s t od) else (latest s).view

theorem rmw_th (s : St) (t : Nat) (od : Ord) (f : Nat → Nat) (v : Nat) :
    (rmw s t od f).1.th v = if v = t then { s.th t with vc := rmwVc s t od, seen := s.mo.length } else s.th v := rfl

theorem rmw_mo (s : St) (t : Nat) (od : Ord) (f : Nat → Nat) :
    (rmw s t od f).1.mo = s.mo ++ [⟨f (latest s).val, rmwView s t od⟩] := rfl

theorem rmw_val (s : St) (t : Nat) (od : Ord) (f : Nat → Nat) : (rmw s t od f).2 = (latest s).val := rfl

theorem touchCtrl_eq {s : St} {t : Nat} (hr : s.ctrlRace = false) (hu : s.uaf = false) (hf : s.ctrlFreed = false)
    (hi : ∃ w e, s.ctrlInit = some (w, e) ∧ e ≤ (s.th t).vc w) : touchCtrl s t = s := by
  obtain ⟨w, e, hi, hle⟩ := hi
  cases s
  simp only at hi hr hu hf hle
  subst hi hr hu hf
  simp [touchCtrl, hle]

theorem load_spec {s t o k s' v} (hl : load s t o k = some (s', v)) :
    ∃ m, (s.th t).seen ≤ k ∧ s.mo[k]? = some m ∧ v = m.val ∧
      s' = setTh (touchCtrl s t) t (fun T =>
              { T with vc := if o.isAcq then T.vc.join m.view else T.vc, seen := k }) := by
  unfold load at hl
  simp only at hl
  split at hl
  · cases hl
  · split at hl
    · cases hl
    · rename_i m hm
      cases hl
      exact ⟨m, by have : ((touchCtrl s t).th t).seen = (s.th t).seen := rfl; omega, hm, rfl, rfl⟩

theorem Sufficient.spec {o : POrds} (hs : Sufficient o = true) :
    o.dropSub.isRel = true ∧ o.dropLoad.isAcq = true ∧ o.toVecCasOk.isAcq = true ∧
      o.uniqueLoad.isAcq = true ∧ o.promLoad.isAcq = true ∧ o.promCasOk.isRel = true ∧
      o.promCasFail.isAcq = true := by
  simp only [Sufficient, Bool.and_eq_true] at hs
  obtain ⟨⟨⟨⟨⟨⟨a, b⟩, c⟩, d⟩, e⟩, f⟩, g⟩ := hs
  exact ⟨a, b, c, d, e, f, g⟩

theorem allBefore_of {s t n} (hr : ∀ u, u < n → s.readEpoch u ≤ (s.th t).vc u)
    (hw : ∀ w e, s.lastWrite = some (w, e) → e ≤ (s.th t).vc w) : allBefore s t n = true := by
  unfold allBefore
  simp only [Bool.and_eq_true, List.all_eq_true, List.mem_range, Bool.or_eq_true, decide_eq_true_eq]
  refine ⟨fun u hu => Or.inr (hr u hu), ?_⟩
  cases hl : s.lastWrite with
  | none => rfl
  | some p =>
    obtain ⟨w, e⟩ := p
    simp only [Bool.or_eq_true, decide_eq_true_eq]
    exact Or.inr (hw w e hl)

/-- the threads `th'` are the threads `th`, except that thread `t` has become `T'` -/
def ThUpd (th th' : Nat → Thread) (t : Nat) (T' : Thread) : Prop := ∀ v, th' v = if v = t then T' else th v

theorem ThUpd.refl (th : Nat → Thread) (t : Nat) : ThUpd th th t (th t) := fun v => by
  split
  · rename_i e; rw [e]
  · rfl

theorem ThUpd.self {th th' t T'} (h : ThUpd th th' t T') : th' t = T' := (h t).trans (if_pos rfl)

theorem ThUpd.ne {th th' t T' v} (h : ThUpd th th' t T') (e : v ≠ t) : th' v = th v := (h v).trans (if_neg e)

theorem ThUpd.elim {th th' t T'} {motive : Nat → Thread → Prop} (h : ThUpd th th' t T') (v : Nat)
    (ht : motive t T') (ho : v ≠ t → motive v (th v)) : motive v (th' v) := by
  rw [h v]
  split
  · rename_i e; subst e; exact ht
  · rename_i e; exact ho e

theorem ThUpd.vc_le {th th' t T'} (h : ThUpd th th' t T') (hT : ∀ u, (th t).vc u ≤ T'.vc u) (v u : Nat) :
    (th v).vc u ≤ (th' v).vc u :=
  h.elim v (motive := fun v T => (th v).vc u ≤ T.vc u) (hT u) fun _ => Nat.le_refl _

theorem ThUpd.canUseRoot_iff {s s' : St} {t T'} (h : ThUpd s.th s'.th t T') (hroot : s'.rootLive = s.rootLive)
    (howner : s'.owner = s.owner) (hb : T'.borrow = (s.th t).borrow) (v : Nat) :
    canUseRoot s' v ↔ canUseRoot s v := by
  have : (s'.th v).borrow = (s.th v).borrow :=
    h.elim v (motive := fun v T => T.borrow = (s.th v).borrow) hb fun _ => rfl
  unfold canUseRoot
  rw [hroot, howner, this]

/-- a further update of thread `t`; every state transformer of the model acts on the threads in this way -/
theorem ThUpd.upd {th th1 th2 t T1} (h : ThUpd th th1 t T1) (F : Thread → Thread)
    (h2 : ∀ v, th2 v = if v = t then F (th1 t) else th1 v) : ThUpd th th2 t (F T1) := fun v => by
  rw [h2 v, h.self]
  split
  · rfl
  · rename_i e; exact h.ne e

theorem ThUpd.setTh {th s1 t T1} {f : Thread → Thread} (h : ThUpd th s1.th t T1) :
    ThUpd th (setTh s1 t f).th t (f T1) :=
  h.upd f fun _ => rfl

theorem ThUpd.doRead {th s1 t T1} (h : ThUpd th s1.th t T1) :
    ThUpd th (doRead s1 t).th t { T1 with vc := tick t T1.vc } :=
  h.upd (fun T => { T with vc := tick t T.vc }) fun _ => rfl

theorem ThUpd.doWrite {th s1 t T1} {n : Nat} {b : Bool} (h : ThUpd th s1.th t T1) :
    ThUpd th (doWrite s1 t n b).th t { T1 with vc := tick t T1.vc } :=
  h.upd (fun T => { T with vc := tick t T.vc }) fun _ => rfl

theorem ThUpd.rmw {th s1 t T1} {od : Ord} {f : Nat → Nat} (h : ThUpd th s1.th t T1) :
    ThUpd th (rmw s1 t od f).1.th t { T1 with vc := rmwVc s1 t od, seen := s1.mo.length } :=
  h.upd (fun T => { T with vc := rmwVc s1 t od, seen := s1.mo.length }) fun _ => rfl

/-- `s'` arises from `s` by actions of thread `t` on the counter and on buffer memory: of the threads only `t` has
changed (to `T'`), and `data`, the control block's initialisation, the root and its owner are as they were -/
structure Upd (s s' : St) (t : Nat) (T' : Thread) : Prop where
  th : ThUpd s.th s'.th t T'
  data : s'.data = s.data
  ctrlInit : s'.ctrlInit = s.ctrlInit
  rootLive : s'.rootLive = s.rootLive
  owner : s'.owner = s.owner
  promotions : s'.promotions = s.promotions

theorem Upd.refl (s : St) (t : Nat) : Upd s s t (s.th t) := ⟨.refl _ _, rfl, rfl, rfl, rfl, rfl⟩

theorem Upd.touchCtrl {s s1 t T1} (h : Upd s s1 t T1) : Upd s (touchCtrl s1 t) t T1 :=
  ⟨h.th, h.data, h.ctrlInit, h.rootLive, h.owner, h.promotions⟩

theorem Upd.setTh {s s1 t T1} {f : Thread → Thread} (h : Upd s s1 t T1) : Upd s (setTh s1 t f) t (f T1) :=
  ⟨h.th.setTh, h.data, h.ctrlInit, h.rootLive, h.owner, h.promotions⟩

theorem Upd.doRead {s s1 t T1} (h : Upd s s1 t T1) : Upd s (doRead s1 t) t { T1 with vc := tick t T1.vc } :=
  ⟨h.th.doRead, h.data, h.ctrlInit, h.rootLive, h.owner, h.promotions⟩

/-- a write to buffer memory; the steps also record what becomes of the control block and who is exclusive -/
theorem Upd.doWrite {s s1 t T1} {n : Nat} {b c : Bool} {e : Nat} (h : Upd s s1 t T1) :
    Upd s { doWrite s1 t n b with ctrlFreed := c, exclusiveCount := e } t { T1 with vc := tick t T1.vc } :=
  ⟨h.th.doWrite (n := n) (b := b), h.data, h.ctrlInit, h.rootLive, h.owner, h.promotions⟩

theorem Upd.rmw {s s1 t T1} {od : Ord} {f : Nat → Nat} (h : Upd s s1 t T1) :
    Upd s (rmw s1 t od f).1 t { T1 with vc := rmwVc s1 t od, seen := s1.mo.length } :=
  ⟨h.th.rmw, h.data, h.ctrlInit, h.rootLive, h.owner, h.promotions⟩

/-- the threads `th'` are the threads `th`, except that threads `t ≠ u` have become `T'` and `U'` -/
def ThUpd2 (th th' : Nat → Thread) (t : Nat) (T' : Thread) (u : Nat) (U' : Thread) : Prop :=
  t ≠ u ∧ ∀ v, th' v = if v = u then U' else if v = t then T' else th v

theorem ThUpd2.of_setTh {s : St} {t u} {f g : Thread → Thread} (hne : t ≠ u) :
    ThUpd2 s.th (setTh (setTh s t f) u g).th t (f (s.th t)) u (g (s.th u)) :=
  ⟨hne, fun v => by
    show (if v = u then g (if u = t then f (s.th t) else s.th u) else if v = t then f (s.th t) else s.th v) = _
    rw [if_neg (Ne.symm hne)]⟩

/-- under the record update the unifier does not find `f` and `g` of `of_setTh` -/
theorem ThUpd2.of_setTh_owner {s : St} {t u o} {f g : Thread → Thread} (hne : t ≠ u) :
    ThUpd2 s.th ({ setTh (setTh s t f) u g with owner := o } : St).th t (f (s.th t)) u (g (s.th u)) :=
  ThUpd2.of_setTh hne

theorem ThUpd2.self_t {th th' t T' u U'} (h : ThUpd2 th th' t T' u U') : th' t = T' :=
  (h.2 t).trans ((if_neg h.1).trans (if_pos rfl))

theorem ThUpd2.self_u {th th' t T' u U'} (h : ThUpd2 th th' t T' u U') : th' u = U' := (h.2 u).trans (if_pos rfl)

theorem ThUpd2.ne {th th' t T' u U' v} (h : ThUpd2 th th' t T' u U') (e1 : v ≠ t) (e2 : v ≠ u) : th' v = th v :=
  (h.2 v).trans ((if_neg e2).trans (if_neg e1))

theorem ThUpd2.elim {th th' t T' u U'} {motive : Nat → Thread → Prop} (h : ThUpd2 th th' t T' u U') (v : Nat)
    (ht : motive t T') (hu : motive u U') (ho : v ≠ t → v ≠ u → motive v (th v)) : motive v (th' v) := by
  rw [h.2 v]
  split
  · rename_i e; subst e; exact hu
  · split
    · rename_i e; subst e; exact ht
    · rename_i e2 e1; exact ho e1 e2

structure Basic (n : Nat) (s : St) : Prop where
  owner_lt : s.owner < n
  borrow_ok : ∀ u, u < n → (s.th u).borrow = true → s.rootLive = true ∧ u ≠ s.owner
  pc_root : ∀ u, u < n → ((s.th u).pc = .sawVec ∨ (s.th u).pc = .sawArc) → canUseRoot s u
  seen_data : ∀ u, u < n → (s.th u).dataSeen = true → s.data ≠ none
  -- while the promoted root lives, somebody entitled to use it has seen the promotion
  wit : s.data ≠ none → s.rootLive = true →
    ∃ v, v < n ∧ (s.owner = v ∨ (s.th v).borrow = true) ∧ (s.th v).dataSeen = true
  prom0 : s.data = none → s.promotions = 0
  prom1 : s.promotions ≤ 1

theorem basic_init {n} (hn : 0 < n) : Basic n init :=
  { owner_lt := hn
    borrow_ok := fun _ _ => nofun
    pc_root := fun _ _ hp => hp.elim nofun nofun
    seen_data := fun _ _ => nofun
    wit := fun hd => absurd rfl hd
    prom0 := fun _ => rfl
    prom1 := Nat.zero_le _ }

theorem not_saw {p : Pc} (h : p = .idle ∨ p = .dropped ∨ p = .loadedFree ∨ p = .failedToVec) :
    ¬ (p = .sawVec ∨ p = .sawArc) := by
  rcases h with h | h | h | h <;> rw [h] <;> simp

/-- a step of a single thread `t` that leaves `data`, the root and the borrows alone -/
theorem basic_local {n s s' t T'} (h : Basic n s) (ht : t < n) (hu : Upd s s' t T')
    (hbt : T'.borrow = (s.th t).borrow)
    (hdt : T'.dataSeen = (s.th t).dataSeen ∨ (T'.dataSeen = true ∧ s.data ≠ none))
    (hpt : (T'.pc = .sawVec ∨ T'.pc = .sawArc) →
      ((s.th t).pc = .sawVec ∨ (s.th t).pc = .sawArc) ∨ canUseRoot s t) : Basic n s' := by
  obtain ⟨hth, hdata, _, hroot, howner, hprom⟩ := hu
  have hbor : ∀ v, (s'.th v).borrow = (s.th v).borrow := fun v =>
    hth.elim v (motive := fun v T => T.borrow = (s.th v).borrow) hbt fun _ => rfl
  have hcan : ∀ v, canUseRoot s v → canUseRoot s' v := fun v => (hth.canUseRoot_iff hroot howner hbt v).2
  refine
    { owner_lt := by rw [howner]; exact h.owner_lt
      borrow_ok := fun u hu hbu => by
        rw [hbor u] at hbu; rw [hroot, howner]; exact h.borrow_ok u hu hbu
      pc_root := fun u hu => hth.elim u (motive := fun u T => (T.pc = .sawVec ∨ T.pc = .sawArc) → canUseRoot s' u)
        (fun hp => hcan t ((hpt hp).elim (h.pc_root t ht) id))
        (fun _ hp => hcan u (h.pc_root u hu hp))
      seen_data := fun u hu => by
        rw [hdata]
        refine hth.elim u (motive := fun u T => T.dataSeen = true → s.data ≠ none) (fun hd => ?_) (fun _ => h.seen_data u hu)
        rcases hdt with e | e
        · exact h.seen_data t ht (e ▸ hd)
        · exact e.2
      wit := fun hd hr => by
        rw [hdata] at hd; rw [hroot] at hr
        obtain ⟨v, hv, hc, hdv⟩ := h.wit hd hr
        refine ⟨v, hv, by rw [howner, hbor v]; exact hc, ?_⟩
        refine hth.elim v (motive := fun v T => (s.th v).dataSeen = true → T.dataSeen = true) (fun hd0 => ?_) (fun _ => id) hdv
        rcases hdt with e | e
        · rw [e]; exact hd0
        · exact e.1
      prom0 := fun hd => by rw [hprom]; rw [hdata] at hd; exact h.prom0 hd
      prom1 := by rw [hprom]; exact h.prom1 }

theorem Basic.no_saw {n s} (h : Basic n s) (hnb : noBorrows s n) (hp : (s.th s.owner).pc = .idle) :
    ∀ v, v < n → ¬ ((s.th v).pc = .sawVec ∨ (s.th v).pc = .sawArc) := by
  intro v hv hpv
  obtain ⟨_, hc⟩ := h.pc_root v hv hpv
  rcases hc with hc | hc
  · subst hc; exact not_saw (.inl hp) hpv
  · rw [hnb v hv] at hc; cases hc

theorem canUseRoot_owner {n s t v} (hnb : noBorrows s n) (ho : s.owner = t) (hv : v < n) (hc : canUseRoot s v) :
    v = t := by
  rcases hc.2 with hc | hc
  · rw [← hc, ho]
  · rw [hnb v hv] at hc; cases hc

/-- a happens-before edge from the idle thread `t` to `u` that passes on what `t` knows of `data`; the right to use the
root may stay where it is or pass from `t` to `u` -/
theorem basic_edge {n s s' t T' u U'} (h : Basic n s) (ht : t < n) (hu : u < n) (hth : ThUpd2 s.th s'.th t T' u U')
    (hdata : s'.data = s.data) (hroot : s'.rootLive = s.rootLive) (hprom : s'.promotions = s.promotions)
    (howner : s'.owner < n) (hp : (s.th t).pc = .idle)
    (hpt : T'.pc = (s.th t).pc) (hpu : U'.pc = (s.th u).pc)
    (hdt : T'.dataSeen = (s.th t).dataSeen) (hdu : U'.dataSeen = ((s.th u).dataSeen || (s.th t).dataSeen))
    (hbt : T'.borrow = true → s.rootLive = true ∧ t ≠ s'.owner)
    (hbu : U'.borrow = true → s.rootLive = true ∧ u ≠ s'.owner)
    (hbo : ∀ v, v < n → v ≠ t → v ≠ u → (s.th v).borrow = true → v ≠ s'.owner)
    (hct : canUseRoot s t → (s'.owner = u ∨ U'.borrow = true) ∨ (s'.owner = t ∨ T'.borrow = true))
    (hcu : canUseRoot s u → s'.owner = u ∨ U'.borrow = true)
    (hco : ∀ v, v ≠ t → v ≠ u → s.owner = v → s'.owner = v) : Basic n s' := by
  have hst : s'.th t = T' := hth.self_t
  have hsu : s'.th u = U' := hth.self_u
  have hcan : ∀ v, canUseRoot s v → canUseRoot s' v ∨ (v = t ∧ canUseRoot s' u) := by
    intro v hc
    have hr : s'.rootLive = true := hroot.trans hc.1
    by_cases e1 : v = t
    · subst e1
      rcases hct hc with a | a
      · exact Or.inr ⟨rfl, hr, by rw [hsu]; exact a⟩
      · exact Or.inl ⟨hr, by rw [hst]; exact a⟩
    · left
      by_cases e2 : v = u
      · subst e2; exact ⟨hr, by rw [hsu]; exact hcu hc⟩
      · refine ⟨hr, ?_⟩; rw [hth.ne e1 e2]; exact hc.2.imp (hco v e1 e2) id
  have hds : ∀ v, (s.th v).dataSeen = true → (s'.th v).dataSeen = true := fun v =>
    hth.elim v (motive := fun v T => (s.th v).dataSeen = true → T.dataSeen = true)
      (fun hd => hdt.trans hd) (fun hd => by rw [hdu, hd]; rfl) (fun _ _ => id)
  refine
    { owner_lt := howner
      borrow_ok := fun v hv => by
        rw [hroot]
        exact hth.elim v (motive := fun v T => T.borrow = true → s.rootLive = true ∧ v ≠ s'.owner) hbt hbu
          (fun e1 e2 hb => ⟨(h.borrow_ok v hv hb).1, hbo v hv e1 e2 hb⟩)
      pc_root := fun v hv hpv => by
        have hpv0 : (s.th v).pc = .sawVec ∨ (s.th v).pc = .sawArc :=
          hth.elim v (motive := fun v T => (T.pc = .sawVec ∨ T.pc = .sawArc) → (s.th v).pc = .sawVec ∨ (s.th v).pc = .sawArc)
            (fun hx => hpt ▸ hx) (fun hx => hpu ▸ hx) (fun _ _ => id) hpv
        rcases hcan v (h.pc_root v hv hpv0) with hc | ⟨e, _⟩
        · exact hc
        · subst e; exact absurd hpv0 (not_saw (.inl hp))
      seen_data := fun v hv => by
        rw [hdata]
        refine hth.elim v (motive := fun v T => T.dataSeen = true → s.data ≠ none)
          (fun hd => h.seen_data t ht (hdt ▸ hd)) (fun hd => ?_) (fun _ _ => h.seen_data v hv)
        rw [hdu, Bool.or_eq_true] at hd
        exact hd.elim (h.seen_data u hu) (h.seen_data t ht)
      wit := fun hd hr => by
        rw [hdata] at hd; rw [hroot] at hr
        obtain ⟨v, hv, hc, hdv⟩ := h.wit hd hr
        rcases hcan v ⟨hr, hc⟩ with hc' | ⟨e, hc'⟩
        · exact ⟨v, hv, hc'.2, hds v hdv⟩
        · subst e; exact ⟨u, hu, hc'.2, by rw [hsu, hdu, hdv]; exact Bool.or_true _⟩
      prom0 := fun hd => by rw [hprom]; rw [hdata] at hd; exact h.prom0 hd
      prom1 := by rw [hprom]; exact h.prom1 }

/-- the owner consumes (or re-labels) the root handle, with no borrow outstanding -/
theorem basic_consume {n s s' t T'} (h : Basic n s) (hth : ThUpd s.th s'.th t T') (hroot : s'.rootLive = false)
    (hdata : s'.data = s.data) (howner : s'.owner = s.owner) (hprom : s'.promotions = s.promotions)
    (hbt : T'.borrow = (s.th t).borrow) (hpt : T'.pc = (s.th t).pc) (hdt : T'.dataSeen = (s.th t).dataSeen)
    (ho : s.owner = t) (hp : (s.th t).pc = .idle) (hnb : noBorrows s n) : Basic n s' :=
  { owner_lt := by rw [howner]; exact h.owner_lt
    borrow_ok := fun v hv => hth.elim v (motive := fun v T => T.borrow = true → s'.rootLive = true ∧ v ≠ s'.owner)
      (fun hb => by rw [hbt, hnb t (ho ▸ h.owner_lt)] at hb; cases hb) (fun _ hb => by rw [hnb v hv] at hb; cases hb)
    pc_root := fun v hv => hth.elim v (motive := fun v T => (T.pc = .sawVec ∨ T.pc = .sawArc) → canUseRoot s' v)
      (fun hx => absurd (hpt ▸ hx) (not_saw (.inl hp)))
      (fun _ hx => absurd hx (h.no_saw hnb (by rw [ho]; exact hp) v hv))
    seen_data := fun v hv => by
      rw [hdata]
      exact hth.elim v (motive := fun v T => T.dataSeen = true → s.data ≠ none)
        (fun hd => h.seen_data t (ho ▸ h.owner_lt) (hdt ▸ hd)) (fun _ => h.seen_data v hv)
    wit := fun _ hr => by rw [hroot] at hr; cases hr
    prom0 := fun hd => by rw [hprom]; rw [hdata] at hd; exact h.prom0 hd
    prom1 := by rw [hprom]; exact h.prom1 }

theorem basic_read {n s t} (h : Basic n s) (ht : t < n) : Basic n (doRead s t) :=
  basic_local h ht (.doRead (.refl _ _)) rfl (.inl rfl) .inl

/-- the state after the decrement of the counter by `t` (`dropSub`, and `toVecFailDrop` after a failed CAS): the thread
that read 1 goes on to free -/
def subSt (s : St) (t : Nat) (od : Ord) : St :=
  let r := rmw s t od (· - 1)
  setTh r.1 t fun T => { T with handles := T.handles - 1, pc := if r.2 = 1 then .dropped else .idle }

theorem basic_sub {n s t} (od : Ord) (h : Basic n s) (ht : t < n) : Basic n (subSt s t od) := by
  unfold subSt
  exact basic_local h ht (.setTh (.rmw (.refl _ _))) rfl (.inl rfl) fun hx =>
    absurd hx (not_saw (by show (if _ then _ else _) = _ ∨ _; split <;> simp))

/-- a thread reads the promoted `data`, whose message carries the view `v`, with ordering `od` (`cloneSeesArc`, `casFail`) -/
def seeArc (od : Ord) (v : VC) (T : Thread) : Thread :=
  { T with pc := .sawArc, dataSeen := true, vc := if od.isAcq then T.vc.join v else T.vc }

/-- the state after the promoting CAS by `t` whose message carries the view `V` -/
def casSt (s : St) (t : Nat) (V : VC) : St :=
  { s with data := some V, ctrlInit := some (t, tick t (s.th t).vc t), mo := [⟨2, VC.zero⟩],
           promotions := s.promotions + 1,
           th := fun u => if u = t then
             { s.th t with vc := tick t (tick t (s.th t).vc), dataSeen := true, seen := 0,
                           handles := (s.th t).handles + 1, pc := .idle } else s.th u }

theorem casSt_th (s : St) (t : Nat) (V : VC) :
    ThUpd s.th (casSt s t V).th t { s.th t with vc := tick t (tick t (s.th t).vc), dataSeen := true, seen := 0,
                                                 handles := (s.th t).handles + 1, pc := .idle } :=
  fun _ => rfl

theorem basic_casOk {n s t} (V : VC) (h : Basic n s) (ht : t < n) (hp : (s.th t).pc = .sawVec) (hd : s.data = none) :
    Basic n (casSt s t V) :=
  have hth := casSt_th s t V
  have hc := h.pc_root t ht (Or.inl hp)
  { owner_lt := h.owner_lt
    borrow_ok := fun v hv => hth.elim v (motive := fun v T => T.borrow = true → s.rootLive = true ∧ v ≠ s.owner)
      (h.borrow_ok t ht) fun _ => h.borrow_ok v hv
    pc_root := fun v hv => hth.elim v
      (motive := fun v T => (T.pc = .sawVec ∨ T.pc = .sawArc) → canUseRoot (casSt s t V) v)
      (fun hx => absurd hx (not_saw (.inl rfl)))
      fun e hx => by
        have hcv := h.pc_root v hv hx
        exact ⟨hcv.1, hcv.2.imp id fun hb => by rw [hth.ne e]; exact hb⟩
    seen_data := fun _ _ _ => nofun
    wit := fun _ _ => ⟨t, ht, hc.2.imp id (fun hb => by rw [hth.self]; exact hb), by rw [hth.self]⟩
    prom0 := nofun
    prom1 := by
      have := h.prom0 hd
      show s.promotions + 1 ≤ 1
      omega }

theorem basic_step {o : POrds} {n s s'} (h : Basic n s) (hst : Step o n s s') : Basic n s' := by
  cases hst with
  | lend t u ht hu hne hr ho hp hb =>
    exact basic_edge h ht hu (ThUpd2.of_setTh hne) rfl rfl rfl h.owner_lt hp (hpt := rfl) (hpu := rfl) (hdt := rfl)
      (hdu := rfl) (hbt := h.borrow_ok t ht) (hbu := fun _ => ⟨hr, ho ▸ hne.symm⟩)
      (hbo := fun v hv _ _ hb => (h.borrow_ok v hv hb).2)
      (hct := fun hc => .inr hc.2) (hcu := fun _ => .inr rfl) (hco := fun _ _ _ => id)
  | unlend u hu hb hp =>
    have hne := (h.borrow_ok u hu hb).2
    exact basic_edge h hu h.owner_lt (ThUpd2.of_setTh hne) rfl rfl rfl h.owner_lt hp (hpt := rfl) (hpu := rfl)
      (hdt := rfl) (hdu := rfl) (hbt := nofun) (hbu := fun hb => absurd rfl (h.borrow_ok _ h.owner_lt hb).2)
      (hbo := fun v hv _ _ hb => (h.borrow_ok v hv hb).2)
      (hct := fun _ => .inl (.inl rfl)) (hcu := fun _ => .inl rfl) (hco := fun _ _ _ => id)
  | sendRoot t u ht hu hne hr ho hp hnb =>
    have hnb' : ∀ v, v < n → (s.th v).borrow = true → False := fun v hv hb => by rw [hnb v hv] at hb; cases hb
    exact basic_edge h ht hu (ThUpd2.of_setTh_owner hne) rfl rfl rfl hu hp (hpt := rfl) (hpu := rfl) (hdt := rfl)
      (hdu := rfl) (hbt := fun hb => (hnb' t ht hb).elim) (hbu := fun hb => (hnb' u hu hb).elim)
      (hbo := fun v hv _ _ hb => (hnb' v hv hb).elim)
      (hct := fun _ => .inl (.inl rfl)) (hcu := fun _ => .inl rfl) (hco := fun v e _ e' => absurd (e'.symm.trans ho) e)
  | send t u ht hu hne hh hp =>
    exact basic_edge h ht hu (ThUpd2.of_setTh hne) rfl rfl rfl h.owner_lt hp (hpt := rfl) (hpu := rfl) (hdt := rfl)
      (hdu := rfl) (hbt := h.borrow_ok t ht) (hbu := h.borrow_ok u hu)
      (hbo := fun v hv _ _ hb => (h.borrow_ok v hv hb).2)
      (hct := fun hc => .inr hc.2) (hcu := fun hc => hc.2) (hco := fun _ _ _ => id)
  | readRoot t ht hc hp => exact basic_read h ht
  | read t ht hh hp => exact basic_read h ht
  | cloneSeesVec t ht hc hp hd =>
    exact basic_local h ht (.setTh (.refl _ _)) rfl (.inl rfl) fun _ => .inr hc
  | cloneSeesArc t v ht hc hp hd =>
    exact basic_local h ht (.setTh (.refl _ _)) rfl (.inr ⟨rfl, hd ▸ Option.some_ne_none v⟩)
      fun _ => .inr hc
  | casFail t v ht hp hd =>
    exact basic_local h ht (.setTh (.refl _ _)) rfl (.inr ⟨rfl, hd ▸ Option.some_ne_none v⟩)
      fun _ => .inl (.inl hp)
  | arcAdd t ht hp =>
    exact basic_local h ht (.setTh (.rmw (.refl _ _))) rfl (.inl rfl)
      fun hx => absurd hx (not_saw (.inl rfl))
  | peekCnt t ht hp =>
    exact basic_local h ht (.setTh (.touchCtrl (.refl _ _))) rfl (.inl rfl)
      fun hx => absurd hx (not_saw (.inl rfl))
  | casOk t ht hp hd => exact basic_casOk _ h ht hp hd
  | dropRootVec t ht hr ho hp hnb hd =>
    exact basic_consume h (.doWrite (n := n) (b := true) (.refl _ _)) rfl rfl rfl rfl rfl rfl rfl ho hp hnb
  | takeRootVec t ht hr ho hp hnb hd =>
    exact basic_consume h (.setTh (.doWrite (n := n) (b := false) (.refl _ _))) rfl rfl rfl rfl rfl rfl rfl ho hp hnb
  | relabelRoot t ht hr ho hp hnb hs =>
    exact basic_consume h (.setTh (.refl _ _)) rfl rfl rfl rfl rfl rfl rfl ho hp hnb
  | clone t ht hh hp =>
    exact basic_local h ht (.setTh (.rmw (.refl _ _))) rfl (.inl rfl) .inl
  | dropSub t ht hh hp => exact basic_sub _ h ht
  | toVecFailDrop t ht hp => exact basic_sub _ h ht
  | dropLoad t k s1 v ht hp hl =>
    obtain ⟨m, _, _, _, rfl⟩ := load_spec hl
    exact basic_local h ht (.setTh (.setTh (.touchCtrl (.refl _ _)))) rfl (.inl rfl)
      fun hx => absurd hx (not_saw (.inr (.inr (.inl rfl))))
  | dropFree t ht hp =>
    exact basic_local h ht (.setTh (.doWrite (.touchCtrl (.refl _ _)))) rfl (.inl rfl)
      fun hx => absurd hx (not_saw (.inl rfl))
  | toVecOk t ht hh hp h1 =>
    exact basic_local h ht (.doWrite (.setTh (.rmw (.refl _ _)))) rfl (.inl rfl) .inl
  | toVecFail t k s1 v ht hh hp hl hv =>
    obtain ⟨m, _, _, _, rfl⟩ := load_spec hl
    exact basic_local h ht (.setTh (.doRead (.setTh (.touchCtrl (.refl _ _))))) rfl (.inl rfl)
      fun hx => absurd hx (not_saw (.inr (.inr (.inr rfl))))
  | uniqueOk t k s1 v ht hh hp hl hv =>
    obtain ⟨m, _, _, _, rfl⟩ := load_spec hl
    exact basic_local h ht (.setTh (.doWrite (.setTh (.touchCtrl (.refl _ _))))) rfl (.inl rfl) .inl

/-- `cloneSeesArc` with the value read left implicit; likewise `casFail'` -/
theorem Step.cloneSeesArc' {o n} (s : St) (t : Nat) (ht : t < n) (hc : canUseRoot s t) (hp : (s.th t).pc = .idle)
    (h : s.data.isSome = true) :
    Step o n s (setTh s t (seeArc o.promLoad (s.data.get h))) :=
  Step.cloneSeesArc s t _ ht hc hp (Option.eq_some_of_isSome h)

theorem Step.casFail' {o n} (s : St) (t : Nat) (ht : t < n) (hp : (s.th t).pc = .sawVec) (h : s.data.isSome = true) :
    Step o n s (setTh s t (seeArc o.promCasFail (s.data.get h))) :=
  Step.casFail s t _ ht hp (Option.eq_some_of_isSome h)

theorem reach_zero {o : POrds} {s} (hr : Reach o 0 s) : s = init := by
  induction hr with
  | init => rfl
  | step _ hst _ => cases hst <;> omega

theorem reach_basic {o : POrds} {n s} (hn : 0 < n) (hr : Reach o n s) : Basic n s := by
  induction hr with
  | init => exact basic_init hn
  | step _ hst ih => exact basic_step ih hst

def rootCnt (s : St) : Nat := if s.rootLive = true then 1 else 0

/-- total number of `Shared` handles of the first `n` threads -/
def total (s : St) (n : Nat) : Nat := sumTo (fun u => (s.th u).handles) n

/-- a thread that may read the buffer: it owns a handle, or may use the root -/
def Holder (s : St) (v : Nat) : Prop := 0 < (s.th v).handles ∨ canUseRoot s v

/-- the buffer is still managed by the protocol -/
def Live (s : St) : Prop := s.ctrlFreed = false ∧ (s.data = none → s.rootLive = true)

def Dying (p : Pc) : Prop := p = .dropped ∨ p = .loadedFree
def Busy (p : Pc) : Prop := p = .sawArc ∨ p = .dropped ∨ p = .loadedFree ∨ p = .failedToVec

/-- (J) for reads: every read of the buffer is contained in the view of the newest counter message or in
the clock of a thread that still holds a handle or may use the root -/
def CovR (n : Nat) (s : St) : Prop :=
  ∀ u, u < n → s.readEpoch u ≤ (latest s).view u ∨
    ∃ v, v < n ∧ Holder s v ∧ s.readEpoch u ≤ (s.th v).vc u

/-- (J) for the last write: every holder has it in its clock -/
def CovW (n : Nat) (s : St) : Prop :=
  ∀ v, v < n → Holder s v → ∀ w e, s.lastWrite = some (w, e) → e ≤ (s.th v).vc w

/-- (K) for handles: their holder can read the value 1 only from the newest message -/
def NoStale (n : Nat) (s : St) : Prop :=
  ∀ t, t < n → 0 < (s.th t).handles → ∀ k m, (s.th t).seen ≤ k → k + 1 < s.mo.length →
    s.mo[k]? = some m → m.val ≠ 1

/-- (K) for the root: once every borrow has ended, its owner can read the value 1 only from the newest message -/
def RootNoStale (n : Nat) (s : St) : Prop :=
  s.rootLive = true → ∀ k m, (∀ v, v < n → canUseRoot s v → (s.th v).seen ≤ k) → k + 1 < s.mo.length →
    s.mo[k]? = some m → m.val ≠ 1

/-- The invariant of M5p under `Sufficient` orderings.  Two statements carry it.

(J) Every access to buffer memory is known to somebody who can still pass the knowledge on: a read lies below the view
of the newest counter message or below the clock of a holder (`covR`); the last write lies below every holder's clock
(`covW`) and, once the counter is 0, below the newest view (`covW0`).  It survives a drop because the release decrement
puts the dropper's clock into its message and every later RMW carries the view of the message it replaces forward; it
survives the hand-over of a handle or of the root because that joins clocks.

(K) A holder cannot read the value 1 from a message that is not the newest (`noStale`, `rootNoStale`): a message with
value 1 is superseded only by an RMW of the one holder there is, whose coherence index then lies past it.  So a thread
that reads 1 is alone, and with an acquiring read has the newest view, by (J) every access, in its clock.

The thread that takes the counter to 0 has read the newest message (`droppedSeen`), its acquiring load brings the
newest view into its clock (`loaded`), and by (J) its deallocation is ordered after every access.  Before the promotion
(`un`) there is no counter and only users of the root can reach the buffer. -/
structure Inv (n : Nat) (s : St) : Prop where
  basic : Basic n s
  un : s.data = none → s.mo = [] ∧ s.ctrlInit = none ∧ s.ctrlFreed = false
  pr : s.data ≠ none → s.mo ≠ []
  -- the view published with the promoted `data` contains the initialisation of the control block
  dataView : ∀ v, s.data = some v → ∃ w e, s.ctrlInit = some (w, e) ∧ e ≤ v w
  seen_le : ∀ u, u < n → (s.th u).seen ≤ s.mo.length - 1
  -- the counter counts the root and the handles
  count : s.data ≠ none → (latest s).val = rootCnt s + total s n
  -- whoever touches the counter has seen the promotion, hence (`ctrlOrd`) the initialisation of the control block
  hs_seen : ∀ u, u < n → (0 < (s.th u).handles ∨ Busy (s.th u).pc) → (s.th u).dataSeen = true
  ctrlOrd : ∀ t, t < n → (s.th t).dataSeen = true → ∀ w e, s.ctrlInit = some (w, e) → e ≤ (s.th t).vc w
  failed_h : ∀ u, u < n → (s.th u).pc = .failedToVec → 0 < (s.th u).handles
  -- the end of the protocol: one thread took the counter to 0 and nobody else is doing anything
  dying : ∀ u, u < n → Dying (s.th u).pc →
    (latest s).val = 0 ∧ s.freed = false ∧ s.ctrlFreed = false ∧
      ∀ v, v < n → v ≠ u → (s.th v).pc = .idle
  ctrl0 : s.ctrlFreed = true → (latest s).val = 0
  freed_cases : s.freed = true → s.rootLive = false ∧ (s.ctrlFreed = true ∨ s.data = none)
  safe : s.race = false ∧ s.ctrlRace = false ∧ s.uaf = false ∧ s.doubleFree = false
  noStale : NoStale n s
  rootNoStale : RootNoStale n s
  covR : Live s → CovR n s
  covW : CovW n s
  covW0 : s.data ≠ none → s.ctrlFreed = false → (latest s).val = 0 →
    ∀ w e, s.lastWrite = some (w, e) → e ≤ (latest s).view w
  loaded : ∀ t, t < n → (s.th t).pc = .loadedFree → ∀ u, (latest s).view u ≤ (s.th t).vc u
  droppedSeen : ∀ t, t < n → (s.th t).pc = .dropped → (s.th t).seen + 1 = s.mo.length

theorem no_holder {n s} (hh : ∀ u, u < n → (s.th u).handles = 0) (hr : s.rootLive = false) :
    ∀ v, v < n → ¬ Holder s v := by
  intro v hv hhv
  rcases hhv with hhv | hhv
  · rw [hh v hv] at hhv; cases hhv
  · have := hhv.1; rw [hr] at this; cases this

theorem Busy.of_dying {p : Pc} (h : Dying p) : Busy p := by
  rcases h with h | h
  · exact Or.inr (Or.inl h)
  · exact Or.inr (Or.inr (Or.inl h))

theorem not_dying {p : Pc} (h : p = .idle ∨ p = .sawVec ∨ p = .sawArc ∨ p = .failedToVec) : ¬ Dying p := by
  rcases h with h | h | h | h <;> rw [h] <;> simp [Dying]

theorem Inv.promoted {n s u} (h : Inv n s) (hu : u < n) (hx : 0 < (s.th u).handles ∨ Busy (s.th u).pc) :
    s.data ≠ none :=
  h.basic.seen_data u hu (h.hs_seen u hu hx)

theorem Inv.no_handles {n s} (h : Inv n s) (hd : s.data = none) : ∀ u, u < n → (s.th u).handles = 0 := by
  intro u hu
  cases hh : (s.th u).handles with
  | zero => rfl
  | succ k => exact absurd hd (h.promoted hu (Or.inl (by omega)))

theorem rootCnt_le (s : St) : rootCnt s ≤ 1 := by unfold rootCnt; split <;> omega

theorem rootCnt_of_live {s : St} (h : s.rootLive = true) : rootCnt s = 1 := by simp [rootCnt, h]

theorem rootCnt_of_dead {s : St} (h : s.rootLive = false) : rootCnt s = 0 := by simp [rootCnt, h]

theorem rootLive_of_rootCnt {s : St} (h : rootCnt s = 0) : s.rootLive = false :=
  Bool.eq_false_iff.2 fun hr => by rw [rootCnt_of_live hr] at h; cases h

/-- what follows from the existence of a holder: nothing has been freed and nobody is about to free -/
structure Held (n : Nat) (s : St) : Prop where
  ctrl : s.ctrlFreed = false
  freed : s.freed = false
  notDying : ∀ u, u < n → ¬ Dying (s.th u).pc

theorem Inv.val_pos {n s t} (h : Inv n s) (ht : t < n) (hh : Holder s t) (hd : s.data ≠ none) :
    1 ≤ (latest s).val := by
  rw [h.count hd]
  rcases hh with hh | hh
  · have := le_sumTo (fun u => (s.th u).handles) ht
    unfold total; omega
  · rw [rootCnt_of_live hh.1]; omega

theorem Inv.held {n s t} (h : Inv n s) (ht : t < n) (hh : Holder s t) : Held n s := by
  by_cases hd : s.data = none
  · have hr : s.rootLive = true := by
      rcases hh with hh | hh
      · have := h.no_handles hd t ht; omega
      · exact hh.1
    refine ⟨(h.un hd).2.2, ?_, ?_⟩
    · exact Bool.eq_false_iff.2 fun hf => by have := (h.freed_cases hf).1; rw [hr] at this; cases this
    · intro u hu hdy
      exact h.promoted hu (Or.inr (Busy.of_dying hdy)) hd
  · have hv := h.val_pos ht hh hd
    have hc : s.ctrlFreed = false := Bool.eq_false_iff.2 fun hc => by have := h.ctrl0 hc; omega
    refine ⟨hc, ?_, ?_⟩
    · exact Bool.eq_false_iff.2 fun hf => (h.freed_cases hf).2.elim (fun h1 => by rw [hc] at h1; cases h1) hd
    · intro u hu hdy
      have := (h.dying u hu hdy).1; omega

theorem Inv.live {n s t} (h : Inv n s) (ht : t < n) (hh : Holder s t) : Live s := by
  refine ⟨(h.held ht hh).ctrl, fun hd => ?_⟩
  rcases hh with hh | hh
  · have := h.no_handles hd t ht; omega
  · exact hh.1

/-- a thread that has seen the promotion and is protected (holds a handle, may use the root, or is the one
that will free) touches the control block safely -/
theorem Inv.touch_eq {n s t} (h : Inv n s) (ht : t < n) (hd : (s.th t).dataSeen = true)
    (hx : Holder s t ∨ Dying (s.th t).pc) : touchCtrl s t = s := by
  have hdn := h.basic.seen_data t ht hd
  have hc : s.ctrlFreed = false := by
    rcases hx with hx | hx
    · exact (h.held ht hx).ctrl
    · exact (h.dying t ht hx).2.2.1
  cases hdv : s.data with
  | none => exact absurd hdv hdn
  | some v =>
    obtain ⟨w, e, hi, _⟩ := h.dataView v hdv
    exact touchCtrl_eq h.safe.2.1 h.safe.2.2.1 hc ⟨w, e, hi, h.ctrlOrd t ht hd w e hi⟩

theorem CovR.step {n s s'} (h : CovR n s)
    (hview : ∀ u, (latest s).view u ≤ (latest s').view u)
    (hhold : ∀ v, v < n → Holder s v →
      (∀ u, (s.th v).vc u ≤ (latest s').view u) ∨
      ∃ v', v' < n ∧ Holder s' v' ∧ ∀ u, (s.th v).vc u ≤ (s'.th v').vc u)
    (hre : ∀ u, u < n → s'.readEpoch u = s.readEpoch u ∨
      ∃ v', v' < n ∧ Holder s' v' ∧ s'.readEpoch u ≤ (s'.th v').vc u) : CovR n s' := by
  intro u hu
  rcases hre u hu with e | hx
  · rw [e]
    rcases h u hu with l | ⟨v, hv, hh, hle⟩
    · exact Or.inl (Nat.le_trans l (hview u))
    · rcases hhold v hv hh with a | ⟨v', hv', hh', hle'⟩
      · exact Or.inl (Nat.le_trans hle (a u))
      · exact Or.inr ⟨v', hv', hh', Nat.le_trans hle (hle' u)⟩
  · exact Or.inr hx

/-- a step of the holder `t` that leaves the last write alone: clocks grow, the other threads hold what they held -/
theorem CovW.step {n s s' t} (h : CovW n s) (hlw : s'.lastWrite = s.lastWrite) (ht : t < n) (hh : Holder s t)
    (hvc : ∀ v u, (s.th v).vc u ≤ (s'.th v).vc u) (hhol : ∀ v, v ≠ t → (Holder s' v ↔ Holder s v)) : CovW n s' := by
  intro v hv hhv w e hl
  rw [hlw] at hl
  refine Nat.le_trans (h v hv ?_ w e hl) (hvc v w)
  by_cases e : v = t
  · subst e; exact hh
  · exact (hhol v e).1 hhv

/-- what a step that leaves the counter alone may do to thread `v`, whose new state is `T`: its clock and coherence
index grow; its pc stays, or becomes one that frees nothing while `v` is protected, or goes from `dropped` to
`loadedFree` with the newest view acquired -/
structure ThOk (n : Nat) (s : St) (v : Nat) (T : Thread) : Prop where
  vc : ∀ u, (s.th v).vc u ≤ T.vc u
  seen : (s.th v).seen ≤ T.seen ∧ T.seen ≤ s.mo.length - 1
  pc : T.pc = (s.th v).pc ∨ (¬ Dying T.pc ∧ Holder s v) ∨
    (T.pc = .loadedFree ∧ (s.th v).pc = .dropped ∧ ∀ u, (latest s).view u ≤ T.vc u)
  hs_seen : (0 < T.handles ∨ Busy T.pc) → T.dataSeen = true
  ctrlOrd : T.dataSeen = true → ∀ w e, s.ctrlInit = some (w, e) → e ≤ T.vc w
  failed_h : T.pc = .failedToVec → 0 < T.handles

theorem ThOk.refl {n s v} (h : Inv n s) (hv : v < n) : ThOk n s v (s.th v) :=
  ⟨fun _ => Nat.le_refl _, ⟨Nat.le_refl _, h.seen_le v hv⟩, .inl rfl, h.hs_seen v hv, h.ctrlOrd v hv, h.failed_h v hv⟩

/-- an access to buffer memory only ticks the clock -/
theorem ThOk.tick {n s t} {ex : Bool} (h : Inv n s) (ht : t < n) :
    ThOk n s t { s.th t with vc := tick t (s.th t).vc, exclusive := ex } :=
  ⟨fun _ => le_tick _ _ _, ⟨Nat.le_refl _, h.seen_le t ht⟩, .inl rfl, h.hs_seen t ht,
    fun hx w e hi => Nat.le_trans (h.ctrlOrd t ht hx w e hi) (le_tick _ _ _), h.failed_h t ht⟩

/-- a step that changes neither the counter, nor `data`, nor the buffer memory: clocks and coherence indices
grow, handles / the root / borrows are handed over along happens-before edges.  For (J), every holder before the step
has a descendant, a holder afterwards whose clock contains its own (`hdesc`), and every holder afterwards has such an
ancestor (`hanc`); for (K) the same with coherence indices, for handles (`hanc_h`) and for users of the root
(`hdesc_r`). -/
theorem inv_frame {n s s'} (h : Inv n s) (hb : Basic n s')
    (hdata : s'.data = s.data) (hci : s'.ctrlInit = s.ctrlInit) (hmo : s'.mo = s.mo)
    (hlw : ∀ w e, s'.lastWrite = some (w, e) → s.lastWrite = some (w, e) ∨
      ((∀ v, v < n → Holder s' v → e ≤ (s'.th v).vc w) ∧ (latest s).val ≠ 0))
    (hre : ∀ u, u < n → s'.readEpoch u = s.readEpoch u ∨
      ∃ v', v' < n ∧ Holder s' v' ∧ s'.readEpoch u ≤ (s'.th v').vc u)
    (hfreed : s'.freed = s.freed) (hctrl : s'.ctrlFreed = s.ctrlFreed)
    (hsafe : s'.race = false ∧ s'.ctrlRace = false ∧ s'.uaf = false ∧ s'.doubleFree = false)
    (hroot : s'.rootLive = true → s.rootLive = true)
    (hcount : rootCnt s' + total s' n = rootCnt s + total s n)
    (hT : ∀ v, v < n → ThOk n s v (s'.th v))
    (hdesc : ∀ v, v < n → Holder s v → ∃ v', v' < n ∧ Holder s' v' ∧ ∀ x, (s.th v).vc x ≤ (s'.th v').vc x)
    (hanc : ∀ v', v' < n → Holder s' v' → ∃ v, v < n ∧ Holder s v ∧ ∀ x, (s.th v).vc x ≤ (s'.th v').vc x)
    (hanc_h : ∀ v', v' < n → 0 < (s'.th v').handles →
       (∃ v, v < n ∧ 0 < (s.th v).handles ∧ (s.th v).seen ≤ (s'.th v').seen) ∨
       (s.rootLive = true ∧ ∀ w, w < n → canUseRoot s w → (s.th w).seen ≤ (s'.th v').seen))
    (hdesc_r : s'.rootLive = true → ∀ v, v < n → canUseRoot s v →
       ∃ v', v' < n ∧ canUseRoot s' v' ∧ (s.th v).seen ≤ (s'.th v').seen) : Inv n s' := by
  have hlat : latest s' = latest s := by simp [latest, hmo]
  have hpc := fun v hv => (hT v hv).pc
  have hdy : ∀ u, u < n → Dying (s'.th u).pc → Dying (s.th u).pc := by
    intro u hu hd
    rcases hpc u hu with e | ⟨e, _⟩ | ⟨_, e, _⟩
    · rw [e] at hd; exact hd
    · exact absurd hd e
    · exact Or.inl e
  refine
    { basic := hb
      un := fun hd => by rw [hdata] at hd; rw [hmo, hci, hctrl]; exact h.un hd
      pr := fun hd => by rw [hdata] at hd; rw [hmo]; exact h.pr hd
      dataView := fun v hd => by rw [hdata] at hd; rw [hci]; exact h.dataView v hd
      seen_le := fun u hu => by rw [hmo]; exact (hT u hu).seen.2
      count := fun hd => by
        rw [hdata] at hd; rw [hlat, h.count hd]; omega
      hs_seen := fun u hu => (hT u hu).hs_seen
      ctrlOrd := fun t ht hd w e hc => by rw [hci] at hc; exact (hT t ht).ctrlOrd hd w e hc
      failed_h := fun u hu => (hT u hu).failed_h
      dying := fun u hu hd => by
        have hd0 := hdy u hu hd
        rw [hlat, hfreed, hctrl]
        obtain ⟨a, b, c, d⟩ := h.dying u hu hd0
        refine ⟨a, b, c, fun v hv hne => ?_⟩
        rcases hpc v hv with e | ⟨_, hh⟩ | ⟨_, e, _⟩
        · rw [e]; exact d v hv hne
        · exact absurd hd0 ((h.held hv hh).notDying u hu)
        · have := d v hv hne; rw [e] at this; cases this
      ctrl0 := fun hc => by rw [hlat]; rw [hctrl] at hc; exact h.ctrl0 hc
      freed_cases := fun hf => by
        rw [hfreed] at hf
        obtain ⟨a, b⟩ := h.freed_cases hf
        refine ⟨?_, by rw [hctrl, hdata]; exact b⟩
        exact Bool.eq_false_iff.2 fun hr => by have := hroot hr; rw [a] at this; cases this
      safe := hsafe
      noStale := fun t ht hh k m hk hlen hm => by
        rw [hmo] at hlen hm
        rcases hanc_h t ht hh with ⟨v, hv, hhv, hle⟩ | ⟨hr, hle⟩
        · exact h.noStale v hv hhv k m (Nat.le_trans hle hk) hlen hm
        · exact h.rootNoStale hr k m (fun w hw hc => Nat.le_trans (hle w hw hc) hk) hlen hm
      rootNoStale := fun hr k m hall hlen hm => by
        rw [hmo] at hlen hm
        refine h.rootNoStale (hroot hr) k m (fun v hv hc => ?_) hlen hm
        obtain ⟨v', hv', hc', hle⟩ := hdesc_r hr v hv hc
        exact Nat.le_trans hle (hall v' hv' hc')
      covR := fun hl => by
        have hl0 : Live s := ⟨by rw [← hctrl]; exact hl.1, fun hd => hroot (hl.2 (by rw [hdata]; exact hd))⟩
        exact (h.covR hl0).step (fun u => by rw [hlat]; exact Nat.le_refl _)
          (fun v hv hhv => Or.inr (hdesc v hv hhv))
          hre
      covW := fun v' hv' hh' w e hl => by
        rcases hlw w e hl with hl0 | ⟨hnew, _⟩
        · obtain ⟨v, hv, hhv, hle⟩ := hanc v' hv' hh'
          exact Nat.le_trans (h.covW v hv hhv w e hl0) (hle w)
        · exact hnew v' hv' hh'
      covW0 := fun hd hc h0 w e hl => by
        rw [hlat] at h0 ⊢; rw [hctrl] at hc; rw [hdata] at hd
        rcases hlw w e hl with hl0 | ⟨_, hnz⟩
        · exact h.covW0 hd hc h0 w e hl0
        · exact absurd h0 hnz
      loaded := fun u hu hp v => by
        rw [hlat]
        rcases hpc u hu with e | ⟨e, _⟩ | ⟨_, _, hle⟩
        · rw [e] at hp; exact Nat.le_trans (h.loaded u hu hp v) ((hT u hu).vc v)
        · exact absurd (Or.inr hp) e
        · exact hle v
      droppedSeen := fun u hu hp => by
        rw [hmo]
        rcases hpc u hu with e | ⟨e, _⟩ | ⟨e, _⟩
        · rw [e] at hp
          have := h.droppedSeen u hu hp
          have := (hT u hu).seen
          omega
        · exact absurd (Or.inl hp) e
        · rw [e] at hp; cases hp }

/-- `inv_frame` for a step of one thread that keeps its handles and its borrow -/
theorem inv_frame1 {n s s' t T'} (ht : t < n) (h : Inv n s) (hb : Basic n s') (hu : Upd s s' t T')
    (hmo : s'.mo = s.mo)
    (hlw : ∀ w e, s'.lastWrite = some (w, e) → s.lastWrite = some (w, e) ∨
      ((∀ v, v < n → Holder s v → v = t) ∧ e ≤ T'.vc w ∧ (latest s).val ≠ 0))
    (hre : ∀ u, u < n → s'.readEpoch u = s.readEpoch u ∨
      ∃ v', v' < n ∧ Holder s' v' ∧ s'.readEpoch u ≤ (s'.th v').vc u)
    (hfreed : s'.freed = s.freed) (hctrl : s'.ctrlFreed = s.ctrlFreed)
    (hsafe : s'.race = false ∧ s'.ctrlRace = false ∧ s'.uaf = false ∧ s'.doubleFree = false)
    (hh : T'.handles = (s.th t).handles) (hbor : T'.borrow = (s.th t).borrow) (hT : ThOk n s t T') : Inv n s' := by
  obtain ⟨hth, hdata, hci, hroot, howner, _⟩ := hu
  have hcan := hth.canUseRoot_iff hroot howner hbor
  have hT' : ∀ v, v < n → ThOk n s v (s'.th v) := fun v hv =>
    hth.elim v (motive := ThOk n s) hT fun _ => .refl h hv
  have hhd : ∀ v, (s'.th v).handles = (s.th v).handles := fun v =>
    hth.elim v (motive := fun v T => T.handles = (s.th v).handles) hh fun _ => rfl
  have hhol : ∀ v, Holder s' v ↔ Holder s v := by
    intro v; unfold Holder; rw [hhd, hcan]
  refine inv_frame h hb hdata hci hmo (fun w e hl => (hlw w e hl).imp_right fun hx => ⟨fun v hv hhv => ?_, hx.2.2⟩) hre
    hfreed hctrl hsafe (fun hr => by rw [← hroot]; exact hr) ?_ hT'
    (fun v hv hhv => ⟨v, hv, (hhol v).2 hhv, (hT' v hv).vc⟩) (fun v hv hhv => ⟨v, hv, (hhol v).1 hhv, (hT' v hv).vc⟩)
    (fun v hv hhv => .inl ⟨v, hv, by rw [← hhd]; exact hhv, (hT' v hv).seen.1⟩)
    (fun _ v hv hc => ⟨v, hv, (hcan v).2 hc, (hT' v hv).seen.1⟩)
  · have e := hx.1 v hv ((hhol v).1 hhv)
    subst e; rw [hth.self]; exact hx.2.1
  · have : total s' n = total s n := sumTo_congr (fun u _ => hhd u)
    rw [this]; unfold rootCnt; rw [hroot]

/-- `inv_frame1` for a step that changes nothing but the thread -/
theorem inv_setTh {n s t} {F : Thread → Thread} (ht : t < n) (h : Inv n s) (hb : Basic n (setTh s t F))
    (hh : (F (s.th t)).handles = (s.th t).handles) (hbor : (F (s.th t)).borrow = (s.th t).borrow)
    (hT : ThOk n s t (F (s.th t))) : Inv n (setTh s t F) :=
  inv_frame1 ht h hb (.setTh (.refl _ _)) rfl (fun _ _ => .inl) (fun _ _ => Or.inl rfl) rfl rfl h.safe hh hbor hT

/-- `s'` agrees with `s` on `data`, the control block's initialisation and life, the root's life, and the bookkeeping of
buffer memory (last write, reads, deallocation, flags) -/
structure SameMem (s s' : St) : Prop where
  data : s'.data = s.data
  ctrlInit : s'.ctrlInit = s.ctrlInit
  rootLive : s'.rootLive = s.rootLive
  lastWrite : s'.lastWrite = s.lastWrite
  readEpoch : s'.readEpoch = s.readEpoch
  freed : s'.freed = s.freed
  ctrlFreed : s'.ctrlFreed = s.ctrlFreed
  race : s'.race = s.race
  ctrlRace : s'.ctrlRace = s.ctrlRace
  uaf : s'.uaf = s.uaf
  doubleFree : s'.doubleFree = s.doubleFree

theorem SameMem.refl (s : St) : SameMem s s := ⟨rfl, rfl, rfl, rfl, rfl, rfl, rfl, rfl, rfl, rfl, rfl⟩

theorem SameMem.setTh {s s1 t f} (h : SameMem s s1) : SameMem s (setTh s1 t f) := by
  obtain ⟨a, b, c, d, e, f, g, h, i, j, k⟩ := h
  exact ⟨a, b, c, d, e, f, g, h, i, j, k⟩

theorem SameMem.owner {s s1 o} (h : SameMem s s1) : SameMem s { s1 with owner := o } := by
  obtain ⟨a, b, c, d, e, f, g, h, i, j, k⟩ := h
  exact ⟨a, b, c, d, e, f, g, h, i, j, k⟩

/-- an RMW changes the counter and the thread, once the control block has been touched -/
theorem SameMem.rmw (s : St) (t : Nat) (od : Ord) (f : Nat → Nat) : SameMem (touchCtrl s t) (rmw s t od f).1 :=
  ⟨rfl, rfl, rfl, rfl, rfl, rfl, rfl, rfl, rfl, rfl, rfl⟩

/-- a happens-before edge from an idle thread `t` to thread `u` (`lend`, `unlend`, `sendRoot`, `send`): `u` learns what
`t` knows; handles, and the right to use the root, stay where they are or pass from `t` to `u` -/
theorem inv_edge {n s s' t T' u U'} (h : Inv n s) (hb : Basic n s') (ht : t < n) (hu : u < n)
    (hth : ThUpd2 s.th s'.th t T' u U') (hm : SameMem s s') (hmo : s'.mo = s.mo) (hpt : (s.th t).pc = .idle)
    (hvt : T'.vc = tick t (s.th t).vc) (hvu : U'.vc = (s.th u).vc.join (tick t (s.th t).vc))
    (hdt : T'.dataSeen = (s.th t).dataSeen) (hdu : U'.dataSeen = ((s.th u).dataSeen || (s.th t).dataSeen))
    (hst : T'.seen = (s.th t).seen)
    (hsu : (s.th u).seen ≤ U'.seen ∧ U'.seen ≤ max (s.th u).seen (s.th t).seen)
    (hpt' : T'.pc = (s.th t).pc) (hpu : U'.pc = (s.th u).pc)
    (hsum : T'.handles + U'.handles = (s.th t).handles + (s.th u).handles)
    (hht : T'.handles ≤ (s.th t).handles)
    (hhsn : T'.handles < (s.th t).handles → (s.th t).seen ≤ U'.seen)
    (hct : canUseRoot s t → (s'.owner = t ∨ T'.borrow = true) ∨
      ((s'.owner = u ∨ U'.borrow = true) ∧ (s.th t).seen ≤ U'.seen))
    (hcu : canUseRoot s u → s'.owner = u ∨ U'.borrow = true)
    (hco : ∀ v, v ≠ t → v ≠ u → s.owner = v → s'.owner = v)
    (hct' : s'.owner = t ∨ T'.borrow = true → s.owner = t ∨ (s.th t).borrow = true)
    (hcu' : s'.owner = u ∨ U'.borrow = true →
      (s.owner = u ∨ (s.th u).borrow = true) ∨ (s.owner = t ∨ (s.th t).borrow = true))
    (hco' : ∀ v, v ≠ t → v ≠ u → s'.owner = v → s.owner = v) : Inv n s' := by
  have hne : t ≠ u := hth.1
  have e1 := hth.self_t
  have e2 := hth.self_u
  subst e1 e2
  have hoth : ∀ w, w ≠ t → w ≠ u → s'.th w = s.th w := fun w a b => hth.ne a b
  obtain ⟨hdata, hci, hroot, hlw, hre, hfreed, hctrl, hrace, hcr, huaf, hdf⟩ := hm
  have hvtu : ∀ x, (s.th t).vc x ≤ (s'.th u).vc x := by
    intro x; rw [hvu]; exact Nat.le_trans (le_tick t _ x) (le_join_right _ _ _)
  have hcanF : ∀ v, canUseRoot s v →
      canUseRoot s' v ∨ (v = t ∧ canUseRoot s' u ∧ (s.th t).seen ≤ (s'.th u).seen) := by
    intro v hc
    have hr : s'.rootLive = true := hroot.trans hc.1
    by_cases a : v = t
    · subst a
      rcases hct hc with x | ⟨x, y⟩
      · exact .inl ⟨hr, x⟩
      · exact .inr ⟨rfl, ⟨hr, x⟩, y⟩
    · left
      by_cases b : v = u
      · subst b; exact ⟨hr, hcu hc⟩
      · exact ⟨hr, by rw [hoth v a b]; exact hc.2.imp (hco v a b) id⟩
  have hcanB : ∀ v, canUseRoot s' v → canUseRoot s v ∨ (v = u ∧ canUseRoot s t) := by
    intro v hc
    have hr : s.rootLive = true := hroot ▸ hc.1
    by_cases a : v = t
    · subst a; exact .inl ⟨hr, hct' hc.2⟩
    · by_cases b : v = u
      · subst b; exact (hcu' hc.2).imp (fun x => ⟨hr, x⟩) (fun x => ⟨rfl, hr, x⟩)
      · have hc2 := hc.2
        rw [hoth v a b] at hc2
        exact .inl ⟨hr, hc2.imp (hco' v a b) id⟩
  have hhF : ∀ v, 0 < (s.th v).handles → 0 < (s'.th v).handles ∨ (v = t ∧ 0 < (s'.th u).handles) := by
    intro v hv
    by_cases a : v = t
    · subst a; omega
    · left
      by_cases b : v = u
      · subst b; omega
      · rw [hoth v a b]; exact hv
  have hhB : ∀ v, 0 < (s'.th v).handles →
      0 < (s.th v).handles ∨ (v = u ∧ 0 < (s.th t).handles ∧ (s.th t).seen ≤ (s'.th u).seen) := by
    intro v hv
    by_cases a : v = t
    · subst a; left; omega
    · by_cases b : v = u
      · subst b
        by_cases c : 0 < (s.th v).handles
        · exact .inl c
        · exact .inr ⟨rfl, by omega, hhsn (by omega)⟩
      · rw [hoth v a b] at hv; exact .inl hv
  have hTt : ThOk n s t (s'.th t) := by
    refine ⟨fun x => by rw [hvt]; exact le_tick _ _ _, by rw [hst]; exact ⟨Nat.le_refl _, h.seen_le t ht⟩, .inl hpt',
      fun hx => ?_, fun hd w e hi => ?_,
      fun hp => by rw [hpt', hpt] at hp; cases hp⟩
    · rw [hdt]; exact h.hs_seen t ht (hx.imp (fun hx => by omega) (fun hx => hpt' ▸ hx))
    · rw [hdt] at hd; rw [hvt]
      exact Nat.le_trans (h.ctrlOrd t ht hd w e hi) (le_tick _ _ _)
  have hTu : ThOk n s u (s'.th u) := by
    refine ⟨fun x => by rw [hvu]; exact le_join_left _ _ _,
      ⟨hsu.1, Nat.le_trans hsu.2 (Nat.max_le.2 ⟨h.seen_le u hu, h.seen_le t ht⟩)⟩, .inl hpu,
      fun hx => ?_, fun hd w e hi => ?_, fun hp => by rw [hpu] at hp; have := h.failed_h u hu hp; omega⟩
    · rw [hdu]
      rcases hx with hx | hx
      · rcases hhB u hx with hx | ⟨_, hx, _⟩
        · rw [h.hs_seen u hu (Or.inl hx)]; rfl
        · rw [h.hs_seen t ht (Or.inl hx)]; exact Bool.or_true _
      · rw [h.hs_seen u hu (Or.inr (hpu ▸ hx))]; rfl
    · rw [hdu, Bool.or_eq_true] at hd; rw [hvu]
      rcases hd with hd | hd
      · exact Nat.le_trans (h.ctrlOrd u hu hd w e hi) (le_join_left _ _ _)
      · exact Nat.le_trans (h.ctrlOrd t ht hd w e hi) (Nat.le_trans (le_tick _ _ _) (le_join_right _ _ _))
  have hT : ∀ v, v < n → ThOk n s v (s'.th v) := fun v hv =>
    hth.elim v (motive := ThOk n s) hTt hTu fun _ _ => .refl h hv
  refine inv_frame h hb hdata hci hmo (fun w e hl => .inl (hlw ▸ hl)) (fun v _ => .inl (congrFun hre v)) hfreed hctrl
    (by rw [hrace, hcr, huaf, hdf]; exact h.safe) (fun hr => hroot ▸ hr) ?_ hT ?_ ?_ ?_ ?_
  · have := sumTo_update2 (fun w => (s.th w).handles) (fun w => (s'.th w).handles) ht hu hne
      (fun w _ a b => by rw [hoth w a b])
    have hrc : rootCnt s' = rootCnt s := by unfold rootCnt; rw [hroot]
    rw [hrc]; unfold total; omega
  · intro v hv hhv
    rcases hhv with hx | hx
    · rcases hhF v hx with y | ⟨e, y⟩
      · exact ⟨v, hv, .inl y, (hT v hv).vc⟩
      · subst e; exact ⟨u, hu, .inl y, hvtu⟩
    · rcases hcanF v hx with y | ⟨e, y, _⟩
      · exact ⟨v, hv, .inr y, (hT v hv).vc⟩
      · subst e; exact ⟨u, hu, .inr y, hvtu⟩
  · intro v hv hhv
    rcases hhv with hx | hx
    · rcases hhB v hx with y | ⟨e, y, _⟩
      · exact ⟨v, hv, .inl y, (hT v hv).vc⟩
      · subst e; exact ⟨t, ht, .inl y, hvtu⟩
    · rcases hcanB v hx with y | ⟨e, y⟩
      · exact ⟨v, hv, .inr y, (hT v hv).vc⟩
      · subst e; exact ⟨t, ht, .inr y, hvtu⟩
  · intro v hv hx
    left
    rcases hhB v hx with y | ⟨e, y, z⟩
    · exact ⟨v, hv, y, (hT v hv).seen.1⟩
    · subst e; exact ⟨t, ht, y, z⟩
  · intro _ v hv hc
    rcases hcanF v hc with y | ⟨e, y, z⟩
    · exact ⟨v, hv, y, (hT v hv).seen.1⟩
    · subst e; exact ⟨u, hu, y, z⟩

theorem inv_relabel {n s s' t T'} (h : Inv n s) (ht : t < n) (hr : s.rootLive = true) (ho : s.owner = t)
    (hp : (s.th t).pc = .idle) (hnb : noBorrows s n) (hds : (s.th t).dataSeen = true) (hb : Basic n s')
    (hth : ThUpd s.th s'.th t T') (hm : SameMem { s with rootLive := false } s') (hmo : s'.mo = s.mo)
    (hT : T' = { s.th t with handles := (s.th t).handles + 1 }) : Inv n s' := by
  obtain ⟨hdata, hci, hroot, hlw, hre, hfreed, hctrl, hrace, hcr, huaf, hdf⟩ := hm
  have hroot : s'.rootLive = false := hroot
  have htt := hth.self
  rw [hT] at htt
  have hto : ∀ w, w ≠ t → s'.th w = s.th w := fun w e => hth.ne e
  have hcan : ∀ w, w < n → canUseRoot s w → w = t := fun _ => canUseRoot_owner hnb ho
  have hcan' : ∀ w, ¬ canUseRoot s' w := by
    intro w hc; have := hc.1; rw [hroot] at this; cases this
  have hTt : ThOk n s t (s'.th t) := by
    rw [htt]
    exact ⟨fun _ => Nat.le_refl _, ⟨Nat.le_refl _, h.seen_le t ht⟩, .inl rfl, fun _ => hds, h.ctrlOrd t ht,
      fun hx => absurd (hp ▸ hx) nofun⟩
  have hT' : ∀ v, v < n → ThOk n s v (s'.th v) := fun v hv =>
    hth.elim v (motive := ThOk n s) (hth.self ▸ hTt) fun _ => .refl h hv
  have hge : ∀ v, (s.th v).handles ≤ (s'.th v).handles := fun v =>
    hth.elim v (motive := fun v T => (s.th v).handles ≤ T.handles) (hT ▸ Nat.le_succ _) fun _ => Nat.le_refl _
  have hht : 0 < (s'.th t).handles := by rw [htt]; exact Nat.succ_pos _
  refine inv_frame h hb hdata hci hmo (fun w e hl => .inl (hlw ▸ hl)) (fun u _ => .inl (congrFun hre u)) hfreed hctrl
    (by rw [hrace, hcr, huaf, hdf]; exact h.safe) (fun hx => by rw [hroot] at hx; cases hx) ?_ hT' ?_ ?_ ?_
    (fun hx => by rw [hroot] at hx; cases hx)
  · have := sumTo_update (fun w => (s.th w).handles) (fun w => (s'.th w).handles) ht
      (fun w _ h1 => by rw [hto w h1])
    have h1 : (s'.th t).handles = (s.th t).handles + 1 := by rw [htt]
    rw [rootCnt_of_live hr, rootCnt_of_dead hroot]; unfold total; omega
  · intro v hv hhv
    rcases hhv with hhv | hhv
    · exact ⟨v, hv, Or.inl (Nat.lt_of_lt_of_le hhv (hge v)), (hT' v hv).vc⟩
    · have := hcan v hv hhv; subst this
      exact ⟨v, hv, Or.inl hht, (hT' v hv).vc⟩
  · intro v hv hhv
    rcases hhv with hhv | hhv
    · by_cases e : v = t
      · subst e; exact ⟨v, hv, Or.inr ⟨hr, Or.inl ho⟩, (hT' v hv).vc⟩
      · rw [hto v e] at hhv; exact ⟨v, hv, Or.inl hhv, (hT' v hv).vc⟩
    · exact absurd hhv (hcan' v)
  · intro v hv hhv
    by_cases e : v = t
    · subst e; right
      refine ⟨hr, fun w hw hc => ?_⟩
      have := hcan w hw hc; subst this
      exact (hT' w hw).seen.1
    · left; rw [hto v e] at hhv; exact ⟨v, hv, hhv, (hT' v hv).seen.1⟩

theorem inv_read {n s t} (h : Inv n s) (ht : t < n) (hh : Holder s t) : Inv n (doRead s t) := by
  have ha := h.held ht hh
  have hu : Upd s (doRead s t) t _ := .doRead (.refl _ _)
  have hhol : Holder (doRead s t) t := by
    refine hh.imp (fun hx => ?_) (fun hx => ⟨hx.1, hx.2.imp id fun hb => ?_⟩)
    · rw [hu.th.self]; exact hx
    · rw [hu.th.self]; exact hb
  obtain ⟨hr, hc, hu', hd⟩ := h.safe
  refine inv_frame1 ht h (basic_read h.basic ht) hu rfl (fun _ _ => .inl) ?_ rfl rfl ?_ rfl rfl (.tick h ht)
  · intro u hu1
    by_cases e : u = t
    · subst e; right
      refine ⟨u, hu1, hhol, ?_⟩
      show (if u = u then _ else _) ≤ _
      rw [if_pos rfl, hu.th.self]; exact Nat.le_refl _
    · left; exact if_neg e
  · refine ⟨?_, hc, ?_, hd⟩
    · show (s.race || _) = false
      rw [hr]
      cases hl : s.lastWrite with
      | none => rfl
      | some p =>
        obtain ⟨w, e⟩ := p
        have := h.covW t ht hh w e hl
        simp; intro _; exact this
    · show (s.uaf || s.freed) = false
      rw [hu', ha.freed]; rfl

/-- the effect of a load on the loading thread -/
def afterLoad (od : Ord) (m : Msg) (k : Nat) : Thread → Thread :=
  fun T => { T with vc := if od.isAcq then T.vc.join m.view else T.vc, seen := k }

theorem load_spec' {n s t od k s' v} (h : Inv n s) (ht : t < n) (hd : (s.th t).dataSeen = true)
    (hx : Holder s t ∨ Dying (s.th t).pc) (hl : load s t od k = some (s', v)) :
    ∃ m, (s.th t).seen ≤ k ∧ s.mo[k]? = some m ∧ v = m.val ∧ s' = setTh s t (afterLoad od m k) := by
  obtain ⟨m, hk, hm, hv, he⟩ := load_spec hl
  rw [h.touch_eq ht hd hx] at he
  exact ⟨m, hk, hm, hv, he⟩

theorem inv_loaded {n s t} (od : Ord) (m : Msg) (k : Nat) (h : Inv n s) (ht : t < n)
    (hk : (s.th t).seen ≤ k) (hm : s.mo[k]? = some m) : Inv n (setTh s t (afterLoad od m k)) := by
  have hklen : k < s.mo.length := (List.getElem?_eq_some_iff.mp hm).1
  exact inv_setTh ht h (basic_local h.basic ht (.setTh (.refl _ _)) rfl (.inl rfl) .inl) rfl rfl
    ⟨le_acq _ _ _, ⟨hk, by show k ≤ _; omega⟩, .inl rfl, h.hs_seen t ht,
      fun hx w e hi => Nat.le_trans (h.ctrlOrd t ht hx w e hi) (le_acq _ _ _ w), h.failed_h t ht⟩

theorem le_rmwVc (s : St) (t : Nat) (od : Ord) (u : Nat) : (s.th t).vc u ≤ rmwVc s t od u :=
  Nat.le_trans (le_acq _ _ _ u) (le_tick _ _ _)

theorem rmwVc_le_rmwView (s : St) (t : Nat) (od : Ord) (hr : od.isRel = true) (u : Nat) :
    rmwVc s t od u ≤ rmwView s t od u :=
  view_le_acq hr _ _ u

theorem Inv.two_le {n s t u} (h : Inv n s) (ht : t < n) (hu : u < n) (hne : u ≠ t) (hd : s.data ≠ none)
    (hh : Holder s t) (hh' : 0 < (s.th u).handles) : 2 ≤ (latest s).val := by
  rw [h.count hd]
  rcases hh with hh | hh
  · have := sumTo_two (fun u => (s.th u).handles) ht hu hne
    unfold total; omega
  · have := le_sumTo (fun u => (s.th u).handles) hu
    rw [rootCnt_of_live hh.1]; unfold total; omega

theorem Inv.sole {n s t} (h : Inv n s) (ht : t < n) (hh : 0 < (s.th t).handles) (h1 : (latest s).val = 1) :
    s.rootLive = false ∧ (s.th t).handles = 1 ∧
      ∀ u, u < n → u ≠ t → (s.th u).handles = 0 ∧ (s.th u).pc = .idle ∧ (s.th u).borrow = false := by
  have hd := h.promoted ht (Or.inl hh)
  have ha := h.held ht (Or.inl hh)
  have hc := h.count hd
  have hle := le_sumTo (fun u => (s.th u).handles) ht
  have hrl : s.rootLive = false := rootLive_of_rootCnt (by unfold total at hc; omega)
  rw [rootCnt_of_dead hrl] at hc
  unfold total at hc
  refine ⟨hrl, by omega, fun u hu hne => ?_⟩
  have h2 := sumTo_two (fun u => (s.th u).handles) ht hu hne
  have hu0 : (s.th u).handles = 0 := by omega
  have hbu : (s.th u).borrow = false :=
    Bool.eq_false_iff.2 fun hb => by have := (h.basic.borrow_ok u hu hb).1; rw [hrl] at this; cases this
  refine ⟨hu0, ?_, hbu⟩
  cases hp : (s.th u).pc with
  | idle => rfl
  | sawVec => have := (h.basic.pc_root u hu (Or.inl hp)).1; rw [hrl] at this; cases this
  | sawArc => have := (h.basic.pc_root u hu (Or.inr hp)).1; rw [hrl] at this; cases this
  | dropped => exact absurd (Or.inl hp) (ha.notDying u hu)
  | loadedFree => exact absurd (Or.inr hp) (ha.notDying u hu)
  | failedToVec => have := h.failed_h u hu hp; omega

/-- clone, `fetch_add` through the root, and both forms of the decrement: an RMW by a protected thread `t`, which then
updates its handle count and pc (`T'` is the thread afterwards) -/
theorem inv_rmw {n s s' t T'} (od : Ord) (f : Nat → Nat) (h : Inv n s) (ht : t < n) (hh : Holder s t)
    (hds : (s.th t).dataSeen = true) (hb : Basic n s') (hth : ThUpd s.th s'.th t T')
    (hm : SameMem (touchCtrl s t) s') (hmo : s'.mo = s.mo ++ [⟨f (latest s).val, rmwView s t od⟩])
    (howner : s'.owner = s.owner)
    (hTv : T'.vc = rmwVc s t od) (hTs : T'.seen = s.mo.length) (hTd : T'.dataSeen = (s.th t).dataSeen)
    (hTb : T'.borrow = (s.th t).borrow)
    (hcount : f (latest s).val + (s.th t).handles = (latest s).val + T'.handles)
    (hrel : T'.handles = 0 → od.isRel = true)
    (hpn : T'.pc = .idle ∨ (T'.pc = .dropped ∧ (latest s).val = 1 ∧ f (latest s).val = 0)) : Inv n s' := by
  have ha := h.held ht hh
  have hd := h.basic.seen_data t ht hds
  have hlive := h.live ht hh
  rw [h.touch_eq ht hds (.inl hh)] at hm
  obtain ⟨hdata, hci, hroot, hlw, hre, hfreed, hctrl, hrace, hcr, huaf, hdf⟩ := hm
  have hvc := hth.vc_le fun u => by rw [hTv]; exact le_rmwVc s t od u
  have hcan := hth.canUseRoot_iff hroot howner hTb
  have htt := hth.self
  subst htt
  have hto : ∀ u, u ≠ t → s'.th u = s.th u := fun u e => hth.ne e
  have hlat : latest s' = ⟨f (latest s).val, rmwView s t od⟩ := by
    rw [latest_eq, hmo, lastOf_append]
  have hlen' : s'.mo.length = s.mo.length + 1 := by rw [hmo]; simp
  have hholo : ∀ v, v ≠ t → (Holder s' v ↔ Holder s v) := by
    intro v e; unfold Holder; rw [hcan, hto v e]
  have hcnt := h.count hd
  have htot : total s' n + (s.th t).handles = total s n + (s'.th t).handles := by
    have := sumTo_update (fun u => (s.th u).handles) (fun u => (s'.th u).handles) ht
      (fun u _ hne => by rw [hto u hne])
    unfold total; omega
  have hrc : rootCnt s' = rootCnt s := by unfold rootCnt; rw [hroot]
  have hcnt' : (latest s').val = rootCnt s' + total s' n := by
    rw [hlat, hrc]; show f (latest s).val = _; omega
  -- when the new value is 0 the thread released its last handle and the root is gone
  have hzero : (latest s').val = 0 → (s'.th t).handles = 0 ∧ ¬ canUseRoot s t := by
    intro h0
    rw [hcnt'] at h0
    have := le_sumTo (fun u => (s'.th u).handles) ht
    unfold total at h0
    refine ⟨by omega, fun hc => ?_⟩
    rw [hrc, rootCnt_of_live hc.1] at h0; omega
  have hdy : ∀ u, u < n → Dying (s'.th u).pc →
      u = t ∧ (s'.th t).pc = .dropped ∧ (latest s).val = 1 ∧ f (latest s).val = 0 := by
    intro u hu hdy
    by_cases e : u = t
    · subst e
      rcases hpn with hpn | hpn
      · rw [hpn] at hdy; exact absurd hdy (not_dying (.inl rfl))
      · exact ⟨rfl, hpn⟩
    · rw [hto u e] at hdy; exact absurd hdy (ha.notDying u hu)
  refine
    { basic := hb
      un := fun hd' => by rw [hdata] at hd'; exact absurd hd' hd
      pr := fun _ => by rw [hmo]; simp
      dataView := fun v hv => by rw [hdata] at hv; rw [hci]; exact h.dataView v hv
      seen_le := fun u hu => by
        rw [hlen']
        by_cases e : u = t
        · subst e; rw [hTs]; exact Nat.le_refl _
        · rw [hto u e]; exact Nat.le_trans (h.seen_le u hu) (Nat.sub_le _ _)
      count := fun _ => hcnt'
      hs_seen := fun u hu hx => by
        by_cases e : u = t
        · subst e; rw [hTd]; exact hds
        · rw [hto u e] at hx ⊢; exact h.hs_seen u hu hx
      ctrlOrd := fun u hu hdu w e hi => by
        rw [hci] at hi
        refine Nat.le_trans (h.ctrlOrd u hu ?_ w e hi) (hvc u w)
        by_cases e : u = t
        · subst e; exact hds
        · rw [hto u e] at hdu; exact hdu
      failed_h := fun u hu hp => by
        by_cases e : u = t
        · subst e; rcases hpn with e | ⟨e, _⟩ <;> rw [e] at hp <;> cases hp
        · rw [hto u e] at hp ⊢; exact h.failed_h u hu hp
      dying := fun u hu hd' => by
        obtain ⟨rfl, _, h1, h0⟩ := hdy u hu hd'
        have hht : 0 < (s.th u).handles := by omega
        refine ⟨by rw [hlat]; exact h0, by rw [hfreed]; exact ha.freed, by rw [hctrl]; exact ha.ctrl, ?_⟩
        intro v hv hne
        rw [hto v hne]; exact ((h.sole hu hht h1).2.2 v hv hne).2.1
      ctrl0 := fun hc => by rw [hctrl, ha.ctrl] at hc; cases hc
      freed_cases := fun hf => by rw [hfreed, ha.freed] at hf; cases hf
      safe := by rw [hrace, hcr, huaf, hdf]; exact h.safe
      noStale := fun u hu hhu k m hk hlen hm => by
        rw [hlen'] at hlen
        rw [hmo] at hm
        by_cases e : u = t
        · subst e; rw [hTs] at hk; omega
        · rw [hto u e] at hhu hk
          rw [List.getElem?_append_left (Nat.lt_of_succ_lt_succ hlen)] at hm
          rcases getElem?_lt_or_last hm with hk2 | e1
          · exact h.noStale u hu hhu k m hk hk2 hm
          · have := h.two_le ht hu e hd hh hhu
            rw [e1, ← latest_eq]; omega
      rootNoStale := fun hr k m hall hlen hm => by
        rw [hlen'] at hlen
        rw [hmo] at hm
        rw [hroot] at hr
        rw [List.getElem?_append_left (Nat.lt_of_succ_lt_succ hlen)] at hm
        have hall0 : ∀ v, v < n → canUseRoot s v → (s.th v).seen ≤ k := by
          intro v hv hc
          have := hall v hv ((hcan v).2 hc)
          by_cases e : v = t
          · subst e; rw [hTs] at this; omega
          · rw [hto v e] at this; exact this
        rcases getElem?_lt_or_last hm with hk2 | e1
        · exact h.rootNoStale hr k m hall0 hk2 hm
        · rw [e1, ← latest_eq, hcnt, rootCnt_of_live hr]
          intro h1
          -- no handle anywhere: `t` must be a user of the root, whose coherence index is now too new
          have ht0 : (s.th t).handles = 0 := by
            have := le_sumTo (fun u => (s.th u).handles) ht
            unfold total at h1; omega
          have hct : canUseRoot s t := hh.elim (fun hx => by omega) id
          have := hall t ht ((hcan t).2 hct)
          rw [hTs] at this
          omega
      covR := fun _ => (h.covR hlive).step
        (fun u => by rw [hlat]; exact le_acq _ _ _ u)
        (fun v hv hhv => by
          by_cases e : v = t
          · subst e
            by_cases hk : Holder s' v
            · right; exact ⟨v, hv, hk, hvc v⟩
            · left; intro u; rw [hlat]
              have h0 : (s'.th v).handles = 0 := Nat.eq_zero_of_not_pos fun hp => hk (.inl hp)
              exact Nat.le_trans (le_rmwVc s v od u) (rmwVc_le_rmwView s v od (hrel h0) u)
          · right; exact ⟨v, hv, (hholo v e).2 hhv, hvc v⟩)
        (fun u _ => Or.inl (by rw [hre]))
      covW := h.covW.step hlw ht hh hvc hholo
      covW0 := fun _ _ h0 w e hl => by
        have hr : od.isRel = true := hrel (hzero h0).1
        rw [hlat]
        rw [hlw] at hl
        exact Nat.le_trans (h.covW t ht hh w e hl)
          (Nat.le_trans (le_rmwVc s t od w) (rmwVc_le_rmwView s t od hr w))
      loaded := fun u hu hp => by
        obtain ⟨rfl, e, _⟩ := hdy u hu (.inr hp)
        rw [e] at hp; cases hp
      droppedSeen := fun u hu hp => by
        obtain ⟨rfl, _⟩ := hdy u hu (.inl hp)
        rw [hTs, hlen'] }

theorem inv_sub {o : POrds} {n s t} (hs : Sufficient o = true) (h : Inv n s) (ht : t < n)
    (hh : 0 < (s.th t).handles) (hb : Basic n (subSt s t o.dropSub)) : Inv n (subSt s t o.dropSub) := by
  unfold subSt at hb ⊢
  have hds := h.hs_seen t ht (Or.inl hh)
  have hv := h.val_pos ht (Or.inl hh) (h.basic.seen_data t ht hds)
  refine inv_rmw o.dropSub (· - 1) h ht (Or.inl hh) hds hb (.setTh (.rmw (.refl _ _))) (.setTh (.rmw _ _ _ _)) rfl rfl
    rfl rfl rfl rfl (by show (latest s).val - 1 + _ = _ + ((s.th t).handles - 1); omega)
    (fun _ => (Sufficient.spec hs).1) ?_
  show (if (latest s).val = 1 then Pc.dropped else .idle) = .idle ∨ (if (latest s).val = 1 then Pc.dropped else .idle) = .dropped ∧ _
  by_cases e : (latest s).val = 1
  · rw [if_pos e]; exact .inr ⟨rfl, e, by show (latest s).val - 1 = 0; omega⟩
  · rw [if_neg e]; exact .inl rfl

theorem Inv.sole_holder {n s t} (h : Inv n s) (ht : t < n) (hh : 0 < (s.th t).handles) (h1 : (latest s).val = 1) :
    ∀ v, v < n → Holder s v → v = t := by
  intro v hv hhv
  obtain ⟨hrl, _, hoth⟩ := h.sole ht hh h1
  by_cases e : v = t
  · exact e
  · rcases hhv with hhv | hhv
    · have := (hoth v hv e).1; omega
    · have := hhv.1; rw [hrl] at this; cases this

theorem Inv.ctrlFreed_dead {n : Nat} {s : St} (h : Inv n s) (hf : s.ctrlFreed = true) :
    s.rootLive = false ∧ total s n = 0 := by
  have hd : s.data ≠ none := fun e => by rw [(h.un e).2.2] at hf; cases hf
  have hc := h.count hd
  rw [h.ctrl0 hf] at hc
  exact ⟨rootLive_of_rootCnt (by omega), by omega⟩

/-- a holder that reads the value 1 has read the newest message -/
theorem Inv.read_one {n s t k m} (h : Inv n s) (ht : t < n) (hh : 0 < (s.th t).handles) (hk : (s.th t).seen ≤ k)
    (hm : s.mo[k]? = some m) (h1 : m.val = 1) : m = lastOf s.mo :=
  (getElem?_lt_or_last hm).elim (fun hk2 => absurd h1 (h.noStale t ht hh k m hk hk2 hm)) id

theorem doWrite_safe {s : St} {t n : Nat} (b : Bool) (hs : s.race = false ∧ s.ctrlRace = false ∧ s.uaf = false ∧ s.doubleFree = false)
    (hab : allBefore s t n = true) (hfr : s.freed = false) :
    (doWrite s t n b).race = false ∧ (doWrite s t n b).ctrlRace = false ∧ (doWrite s t n b).uaf = false ∧
      (doWrite s t n b).doubleFree = false := by
  obtain ⟨hr, hc, hu, hd⟩ := hs
  refine ⟨?_, hc, ?_, ?_⟩
  · show (s.race || !allBefore s t n) = false
    rw [hr, hab]; rfl
  · show (s.uaf || (s.freed && !b)) = false
    rw [hu, hfr]; rfl
  · show (s.doubleFree || (s.freed && b)) = false
    rw [hd, hfr]; rfl

/-- the state after `t` has mutated the buffer in place (`uniqueOk`, once its load has returned 1) -/
def writeSt (s : St) (t n ec : Nat) : St :=
  setTh { (doWrite s t n false) with exclusiveCount := ec } t fun T => { T with exclusive := true }

/-- in-place mutation by the sole holder that has the newest view in its clock -/
theorem inv_write {n s t} (ec : Nat) (h : Inv n s) (ht : t < n) (hh : 0 < (s.th t).handles)
    (h1 : (latest s).val = 1) (hview : ∀ u, (latest s).view u ≤ (s.th t).vc u)
    (hb : Basic n (writeSt s t n ec)) : Inv n (writeSt s t n ec) := by
  unfold writeSt at hb ⊢
  have ha := h.held ht (Or.inl hh)
  have hsole := h.sole_holder ht hh h1
  have hab : allBefore s t n = true := by
    apply allBefore_of
    · intro u hu
      rcases h.covR (h.live ht (Or.inl hh)) u hu with l | ⟨v, hv, hhv, hle⟩
      · exact Nat.le_trans l (hview u)
      · have := hsole v hv hhv; subst this; exact hle
    · exact h.covW t ht (Or.inl hh)
  refine inv_frame1 ht h hb (.setTh (.doWrite (.refl _ _))) rfl (fun w e hl => .inr ?_) (fun _ _ => .inl rfl)
    (Bool.or_false _) rfl (doWrite_safe false h.safe hab ha.freed) rfl rfl (.tick h ht)
  cases (hl : some (t, tick t (s.th t).vc t) = some (w, e))
  exact ⟨hsole, Nat.le_refl _, by omega⟩

/-- a step of thread `t` after which the buffer has left the protocol: the root is gone, no handle is left, every
thread is idle; either there never was a control block, or it has been dismantled with the counter at 0 -/
theorem inv_dead {n s s' t T'} (h : Inv n s) (hb : Basic n s') (ht : t < n) (hth : ThUpd s.th s'.th t T')
    (hroot : s'.rootLive = false) (hdata : s'.data = s.data) (hci : s'.ctrlInit = s.ctrlInit)
    (hmo : s.mo.length ≤ s'.mo.length)
    (hsafe : s'.race = false ∧ s'.ctrlRace = false ∧ s'.uaf = false ∧ s'.doubleFree = false)
    (hh : T'.handles = 0) (hho : ∀ u, u < n → u ≠ t → (s.th u).handles = 0)
    (hp : T'.pc = .idle) (hpo : ∀ u, u < n → u ≠ t → (s.th u).pc = .idle)
    (hds : T'.dataSeen = (s.th t).dataSeen) (hvc : ∀ x, (s.th t).vc x ≤ T'.vc x)
    (hseen : T'.seen ≤ s'.mo.length - 1)
    (hfin : (s.data = none ∧ s'.mo = [] ∧ s'.ctrlFreed = false) ∨
      (s.data ≠ none ∧ s'.mo ≠ [] ∧ s'.ctrlFreed = true ∧ (latest s').val = 0)) : Inv n s' := by
  have hh' : ∀ u, u < n → (s'.th u).handles = 0 := fun u hu =>
    hth.elim u (motive := fun _ T => T.handles = 0) hh (hho u hu)
  have hpc : ∀ u, u < n → (s'.th u).pc = .idle := fun u hu =>
    hth.elim u (motive := fun _ T => T.pc = .idle) hp (hpo u hu)
  have hnoh := no_holder hh' hroot
  have hnb : ∀ u, u < n → ¬ Busy (s'.th u).pc := by
    intro u hu hbz; rw [hpc u hu] at hbz; simp [Busy] at hbz
  have hpr : s'.data ≠ none → s'.mo ≠ [] ∧ s'.ctrlFreed = true ∧ (latest s').val = 0 := fun hd =>
    hfin.elim (fun x => absurd (hdata.trans x.1) hd) (fun x => x.2)
  have hun : s'.data = none → s'.mo = [] ∧ s'.ctrlInit = none ∧ s'.ctrlFreed = false := fun hd =>
    hfin.elim (fun x => ⟨x.2.1, hci.trans (h.un x.1).2.1, x.2.2⟩) (fun x => absurd (hdata.symm.trans hd) x.1)
  refine
    { basic := hb
      un := hun
      pr := fun hd => (hpr hd).1
      dataView := fun v hv => by rw [hdata] at hv; rw [hci]; exact h.dataView v hv
      seen_le := fun u hu => hth.elim u (motive := fun _ T => T.seen ≤ s'.mo.length - 1) hseen
        fun _ => by have := h.seen_le u hu; omega
      count := fun hd => by
        rw [(hpr hd).2.2, rootCnt_of_dead hroot]
        have := sumTo_zero_fun n (fun u => (s'.th u).handles) hh'
        unfold total; omega
      hs_seen := fun u hu hx => by
        rcases hx with hx | hx
        · rw [hh' u hu] at hx; omega
        · exact absurd hx (hnb u hu)
      ctrlOrd := fun u hu => by
        rw [hci]
        exact hth.elim u (motive := fun _ T => T.dataSeen = true → ∀ w e, s.ctrlInit = some (w, e) → e ≤ T.vc w)
          (fun hd w e hi => Nat.le_trans (h.ctrlOrd t ht (hds ▸ hd) w e hi) (hvc w)) (fun _ => h.ctrlOrd u hu)
      failed_h := fun u hu hp => by rw [hpc u hu] at hp; cases hp
      dying := fun u hu hd => by rw [hpc u hu] at hd; rcases hd with hd | hd <;> cases hd
      ctrl0 := fun hc => by
        by_cases hd : s'.data = none
        · rw [(hun hd).2.2] at hc; cases hc
        · exact (hpr hd).2.2
      freed_cases := fun _ => by
        refine ⟨hroot, ?_⟩
        by_cases hd : s'.data = none
        · exact Or.inr hd
        · exact Or.inl (hpr hd).2.1
      safe := hsafe
      noStale := fun t ht hht => by rw [hh' t ht] at hht; omega
      rootNoStale := fun hr => by rw [hroot] at hr; cases hr
      covR := fun hl => by
        by_cases hd : s'.data = none
        · have := hl.2 hd; rw [hroot] at this; cases this
        · have := hl.1; rw [(hpr hd).2.1] at this; cases this
      covW := fun v hv hhv => absurd hhv (hnoh v hv)
      covW0 := fun hd hc => by rw [(hpr hd).2.1] at hc; cases hc
      loaded := fun u hu hp => by rw [hpc u hu] at hp; cases hp
      droppedSeen := fun u hu hp => by rw [hpc u hu] at hp; cases hp }

theorem inv_dropFree {n s t} (h : Inv n s) (ht : t < n) (hp : (s.th t).pc = .loadedFree)
    (hb : Basic n (setTh { (doWrite s t n true) with ctrlFreed := true } t fun T => { T with pc := .idle })) :
    Inv n (setTh { (doWrite s t n true) with ctrlFreed := true } t fun T => { T with pc := .idle }) := by
  obtain ⟨h0, hfr, hctrl, hidle⟩ := h.dying t ht (Or.inr hp)
  have hd := h.promoted ht (Or.inr (Or.inr (Or.inr (Or.inl hp))))
  have hcnt := h.count hd
  rw [h0] at hcnt
  have hrl : s.rootLive = false := rootLive_of_rootCnt (by omega)
  have hnh : ∀ u, u < n → (s.th u).handles = 0 := by
    intro u hu
    have := le_sumTo (fun u => (s.th u).handles) hu
    unfold total at hcnt; omega
  have hnoh := no_holder hnh hrl
  have hab : allBefore s t n = true := by
    apply allBefore_of
    · intro u hu
      rcases h.covR ⟨hctrl, fun e => absurd e hd⟩ u hu with l | ⟨v, hv, hhv, _⟩
      · exact Nat.le_trans l (h.loaded t ht hp u)
      · exact absurd hhv (hnoh v hv)
    · intro w e hl
      exact Nat.le_trans (h.covW0 hd hctrl h0 w e hl) (h.loaded t ht hp w)
  exact inv_dead h hb ht (.setTh (.doWrite (n := n) (b := true) (.refl _ _))) hrl rfl rfl (Nat.le_refl _)
    (doWrite_safe true h.safe hab hfr) (hnh t ht) (fun u hu _ => hnh u hu) rfl hidle rfl (fun _ => le_tick _ _ _)
    (h.seen_le t ht) (.inr ⟨hd, h.pr hd, rfl, h0⟩)

theorem inv_toVecOk {n s s1 t} (od : Ord) (ec : Nat) (hacq : od.isAcq = true) (h : Inv n s) (ht : t < n)
    (hh : 0 < (s.th t).handles) (hp : (s.th t).pc = .idle) (h1 : (latest s).val = 1)
    -- `s1`, the state before the write, is a variable so that it is written out once
    (hs1 : s1 = setTh (rmw s t od (fun _ => 0)).1 t fun T => { T with handles := T.handles - 1, exclusive := true })
    (hb : Basic n { (doWrite s1 t n false) with ctrlFreed := true, exclusiveCount := ec }) :
    Inv n { (doWrite s1 t n false) with ctrlFreed := true, exclusiveCount := ec } := by
  have ha := h.held ht (Or.inl hh)
  have hd := h.promoted ht (Or.inl hh)
  obtain ⟨hrl, hone, hoth⟩ := h.sole ht hh h1
  have hsole := h.sole_holder ht hh h1
  have hth1 : ThUpd s.th s1.th t { s.th t with vc := rmwVc s t od, seen := s.mo.length,
                                               handles := (s.th t).handles - 1, exclusive := true } := by
    rw [hs1]; exact .setTh (.rmw (.refl _ _))
  have hsafe : s1.race = false ∧ s1.ctrlRace = false ∧ s1.uaf = false ∧ s1.doubleFree = false := by
    rw [hs1]
    show (touchCtrl s t).race = false ∧ (touchCtrl s t).ctrlRace = false ∧ (touchCtrl s t).uaf = false ∧ _
    rw [h.touch_eq ht (h.hs_seen t ht (.inl hh)) (.inl (.inl hh))]; exact h.safe
  have hmo : s1.mo = s.mo ++ [⟨0, rmwView s t od⟩] := by rw [hs1]; rfl
  have hab : allBefore s1 t n = true := by
    apply allBefore_of
    · intro u hu
      rw [hth1.self, show s1.readEpoch = s.readEpoch by rw [hs1]; rfl]
      rcases h.covR (h.live ht (Or.inl hh)) u hu with l | ⟨v, hv, hhv, hle⟩
      · exact Nat.le_trans l (Nat.le_trans (view_le_acq hacq _ _ u) (le_tick _ _ _))
      · have := hsole v hv hhv; subst this
        exact Nat.le_trans hle (le_rmwVc s v od u)
    · intro w e hl
      rw [show s1.lastWrite = s.lastWrite by rw [hs1]; rfl] at hl
      rw [hth1.self]
      exact Nat.le_trans (h.covW t ht (Or.inl hh) w e hl) (le_rmwVc s t od w)
  exact inv_dead h hb ht (.doWrite (n := n) (b := false) hth1) (by rw [hs1]; exact hrl) (by rw [hs1]; rfl)
    (by rw [hs1]; rfl) (by show _ ≤ s1.mo.length; rw [hmo]; simp)
    (doWrite_safe false hsafe hab (by rw [hs1]; exact ha.freed)) (by show (s.th t).handles - 1 = 0; omega)
    (fun u hu e => (hoth u hu e).1) hp (fun u hu e => (hoth u hu e).2.1) rfl
    (fun x => Nat.le_trans (le_rmwVc s t od x) (le_tick _ _ _)) (by show _ ≤ s1.mo.length - 1; rw [hmo]; simp)
    (.inr ⟨hd, by show s1.mo ≠ []; rw [hmo]; simp, rfl, by show (lastOf s1.mo).val = 0; rw [hmo, lastOf_append]⟩)

/-- the owner of the root reads the KIND_VEC word with no borrow outstanding: there was no promotion, nobody
else can reach the buffer, and every access to it is ordered before the owner -/
theorem Inv.consume {n s t} (h : Inv n s) (ht : t < n) (hr : s.rootLive = true) (ho : s.owner = t)
    (hp : (s.th t).pc = .idle) (hnb : noBorrows s n) (hds : (s.th t).dataSeen = false) :
    s.data = none ∧ allBefore s t n = true ∧ s.freed = false ∧ (∀ u, u < n → (s.th u).handles = 0) ∧
      (∀ u, u < n → (s.th u).pc = .idle) := by
  have hd : s.data = none := by
    cases hdv : s.data with
    | none => rfl
    | some v =>
      obtain ⟨w, hw, hc, hdw⟩ := h.basic.wit (hdv ▸ Option.some_ne_none v) hr
      have := canUseRoot_owner hnb ho hw ⟨hr, hc⟩
      subst this; rw [hds] at hdw; cases hdw
  have hct : canUseRoot s t := ⟨hr, Or.inl ho⟩
  have ha := h.held ht (Or.inr hct)
  have hnh := h.no_handles hd
  have hmo := (h.un hd).1
  refine ⟨hd, ?_, ha.freed, hnh, ?_⟩
  · apply allBefore_of
    · intro u hu
      rcases h.covR (h.live ht (Or.inr hct)) u hu with l | ⟨v, hv, hhv, hle⟩
      · have : (latest s).view u = 0 := by simp [latest, hmo, VC.zero]
        omega
      · have : v = t := hhv.elim (fun hx => by rw [hnh v hv] at hx; cases hx) (canUseRoot_owner hnb ho hv)
        subst this; exact hle
    · exact h.covW t ht (Or.inr hct)
  · intro u hu
    have hns := h.basic.no_saw hnb (by rw [ho]; exact hp) u hu
    cases hpu : (s.th u).pc with
    | idle => rfl
    | sawVec => exact absurd (Or.inl hpu) hns
    | sawArc => exact absurd (Or.inr hpu) hns
    | dropped => exact absurd hd (h.promoted hu (Or.inr (Or.inr (Or.inl hpu))))
    | loadedFree => exact absurd hd (h.promoted hu (Or.inr (Or.inr (Or.inr (Or.inl hpu)))))
    | failedToVec => exact absurd hd (h.promoted hu (Or.inr (Or.inr (Or.inr (Or.inr hpu)))))

theorem inv_casOk {n s t} (V : VC) (h : Inv n s) (ht : t < n) (hp : (s.th t).pc = .sawVec) (hd : s.data = none)
    (hV : tick t (s.th t).vc t ≤ V t) (hb : Basic n (casSt s t V)) : Inv n (casSt s t V) := by
  have hct := h.basic.pc_root t ht (Or.inl hp)
  have ha := h.held ht (Or.inr hct)
  have hlive := h.live ht (Or.inr hct)
  have hnh := h.no_handles hd
  obtain ⟨hmo0, hci0, hcf0⟩ := h.un hd
  have hnb : ∀ u, u < n → ¬ Busy (s.th u).pc := fun u hu hx => h.promoted hu (Or.inr hx) hd
  have hnds : ∀ u, u < n → (s.th u).dataSeen = true → False := fun u hu hx => h.basic.seen_data u hu hx hd
  have hth := casSt_th s t V
  have hm : SameMem { s with data := some V, ctrlInit := some (t, tick t (s.th t).vc t) } (casSt s t V) :=
    ⟨rfl, rfl, rfl, rfl, rfl, rfl, rfl, rfl, rfl, rfl, rfl⟩
  have howner : (casSt s t V).owner = s.owner := rfl
  have hmo : (casSt s t V).mo = [⟨2, VC.zero⟩] := rfl
  generalize casSt s t V = s' at hb hth hm howner hmo
  obtain ⟨hdata, hci, hroot, hlw, hre, hfreed, hctrl, hrace, hcr, huaf, hdf⟩ := hm
  have htt := hth.self
  have hto : ∀ u, u ≠ t → s'.th u = s.th u := fun u e => hth.ne e
  have hlat : latest s' = ⟨2, VC.zero⟩ := by rw [latest_eq, hmo]; rfl
  have hlat0 : latest s = ⟨0, VC.zero⟩ := by rw [latest_eq, hmo0]; rfl
  have hvc := hth.vc_le fun u => Nat.le_trans (le_tick _ _ u) (le_tick _ _ u)
  have hcan := hth.canUseRoot_iff hroot howner rfl
  have hholo : ∀ v, v ≠ t → (Holder s' v ↔ Holder s v) := by
    intro v e; unfold Holder; rw [hcan, hto v e]
  have hholt : Holder s' t := Or.inr ((hcan t).2 hct)
  have hnd : ∀ u, u < n → ¬ Dying (s'.th u).pc := fun u hu =>
    hth.elim u (motive := fun _ T => ¬ Dying T.pc) (not_dying (.inl rfl)) fun _ hd => hnb u hu (Busy.of_dying hd)
  refine
    { basic := hb
      un := fun hd' => by rw [hdata] at hd'; cases hd'
      pr := fun _ => by rw [hmo]; simp
      dataView := fun v hv => by
        rw [hdata] at hv; cases hv
        exact ⟨t, _, hci, hV⟩
      seen_le := fun u hu => by
        rw [hmo]
        by_cases e : u = t
        · subst e; rw [htt]; simp
        · rw [hto u e]; have := h.seen_le u hu; rw [hmo0] at this; simpa using this
      count := fun _ => by
        have := sumTo_update (fun u => (s.th u).handles) (fun u => (s'.th u).handles) ht
          (fun u _ e => by rw [hto u e])
        have h0 := sumTo_zero_fun n (fun u => (s.th u).handles) hnh
        have h1 : (s'.th t).handles = (s.th t).handles + 1 := by rw [htt]
        rw [hlat, rootCnt_of_live (hroot.trans hct.1)]
        show 2 = 1 + total s' n
        unfold total; omega
      hs_seen := fun u hu hx => by
        by_cases e : u = t
        · subst e; rw [htt]
        · rw [hto u e] at hx ⊢; exact h.hs_seen u hu hx
      ctrlOrd := fun u hu hdu w e hi => by
        rw [hci] at hi; cases hi
        by_cases e1 : u = t
        · subst e1; rw [htt]; exact le_tick _ _ _
        · rw [hto u e1] at hdu; exact absurd hdu (fun hx => hnds u hu hx)
      failed_h := fun u hu hpu => by
        by_cases e : u = t
        · subst e; rw [htt] at hpu; cases hpu
        · rw [hto u e] at hpu ⊢; exact h.failed_h u hu hpu
      dying := fun u hu hdy => absurd hdy (hnd u hu)
      ctrl0 := fun hc => by rw [hctrl, hcf0] at hc; cases hc
      freed_cases := fun hf => by rw [hfreed, ha.freed] at hf; cases hf
      safe := by rw [hrace, hcr, huaf, hdf]; exact h.safe
      noStale := fun u _ _ k m _ hlen _ => by rw [hmo] at hlen; simp at hlen
      rootNoStale := fun _ k m _ hlen _ => by rw [hmo] at hlen; simp at hlen
      covR := fun _ => (h.covR hlive).step
        (fun u => by rw [hlat, hlat0]; exact Nat.le_refl _)
        (fun v hv hhv => by
          right
          by_cases e : v = t
          · subst e; exact ⟨v, hv, hholt, hvc v⟩
          · exact ⟨v, hv, (hholo v e).2 hhv, hvc v⟩)
        (fun u _ => Or.inl (by rw [hre]))
      covW := h.covW.step hlw ht (Or.inr hct) hvc hholo
      covW0 := fun _ _ h0 => by rw [hlat] at h0; cases h0
      loaded := fun u hu hpu => absurd (.inr hpu) (hnd u hu)
      droppedSeen := fun u hu hpu => absurd (.inl hpu) (hnd u hu) }

/-- a thread that may use the root learns of the promotion by an acquiring read of `data` -/
theorem inv_sawArc {n s t v} {od : Ord} (hacq : od.isAcq = true) (h : Inv n s) (ht : t < n) (hc : canUseRoot s t)
    (hd : s.data = some v) (hb : Basic n (setTh s t (seeArc od v))) : Inv n (setTh s t (seeArc od v)) := by
  refine inv_setTh ht h hb rfl rfl ⟨le_acq _ _ _, ⟨Nat.le_refl _, h.seen_le t ht⟩,
    .inr (.inl ⟨not_dying (.inr (.inr (.inl rfl))), .inr hc⟩), fun _ => rfl, fun _ w e hi => ?_, nofun⟩
  obtain ⟨w', e', hi', hle⟩ := h.dataView v hd
  rw [hi] at hi'; cases hi'
  exact Nat.le_trans hle (view_le_acq hacq _ _ w)

theorem inv_step {o : POrds} {n s s'} (hs : Sufficient o = true) (h : Inv n s) (hst : Step o n s s') :
    Inv n s' := by
  obtain ⟨hrel, hdl, htv, hul, hpl, hpc, hpf⟩ := Sufficient.spec hs
  have hb' := basic_step h.basic hst
  cases hst with
  | cloneSeesVec t ht hc hp hd =>
    exact inv_setTh ht h hb' rfl rfl ⟨fun _ => Nat.le_refl _, ⟨Nat.le_refl _, h.seen_le t ht⟩,
      .inr (.inl ⟨not_dying (.inr (.inl rfl)), .inr hc⟩),
      fun hx => hx.elim (fun hx => h.hs_seen t ht (.inl hx)) (by simp [Busy]), h.ctrlOrd t ht, nofun⟩
  | cloneSeesArc t v ht hc hp hd => exact inv_sawArc hpl h ht hc hd hb'
  | casFail t v ht hp hd => exact inv_sawArc hpf h ht (h.basic.pc_root t ht (.inl hp)) hd hb'
  | peekCnt t ht hp =>
    have hc := h.basic.pc_root t ht (Or.inr hp)
    have hds := h.hs_seen t ht (Or.inr (Or.inl hp))
    rw [h.touch_eq ht hds (Or.inl (Or.inr hc))] at hb' ⊢
    exact inv_setTh ht h hb' rfl rfl ⟨fun _ => Nat.le_refl _, ⟨Nat.le_refl _, h.seen_le t ht⟩,
      .inr (.inl ⟨not_dying (.inl rfl), .inr hc⟩), fun _ => hds, h.ctrlOrd t ht, nofun⟩
  | lend t u ht hu hne hr ho hp hb =>
    exact inv_edge h hb' ht hu (ThUpd2.of_setTh hne) (.setTh (.setTh (.refl s))) rfl hp (hvt := rfl) (hvu := rfl) (hdt := rfl) (hdu := rfl)
      (hst := rfl) (hsu := ⟨Nat.le_refl _, Nat.le_max_left _ _⟩) (hpt' := rfl) (hpu := rfl)
      (hsum := rfl) (hht := Nat.le_refl _) (hhsn := fun hx => absurd hx (Nat.lt_irrefl _))
      (hct := fun hc => .inl hc.2) (hcu := fun _ => .inr rfl) (hco := fun _ _ _ => id)
      (hct' := id) (hcu' := fun _ => .inr (.inl ho)) (hco' := fun _ _ _ => id)
  | unlend u hu hb hp =>
    have hne := (h.basic.borrow_ok u hu hb).2
    exact inv_edge h hb' hu h.basic.owner_lt (ThUpd2.of_setTh hne) (.setTh (.setTh (.refl s))) rfl hp (hvt := rfl) (hvu := rfl) (hdt := rfl) (hdu := rfl)
      (hst := rfl) (hsu := ⟨Nat.le_max_left _ _, Nat.le_refl _⟩) (hpt' := rfl) (hpu := rfl)
      (hsum := rfl) (hht := Nat.le_refl _) (hhsn := fun hx => absurd hx (Nat.lt_irrefl _))
      (hct := fun _ => .inr ⟨.inl rfl, Nat.le_max_right _ _⟩) (hcu := fun _ => .inl rfl) (hco := fun _ _ _ => id)
      (hct' := fun hx => hx.elim (fun e => absurd e.symm hne) nofun) (hcu' := fun _ => .inl (.inl rfl))
      (hco' := fun _ _ _ => id)
  | sendRoot t u ht hu hne hr ho hp hnb =>
    exact inv_edge h hb' ht hu (ThUpd2.of_setTh_owner hne) (.owner (.setTh (.setTh (.refl s)))) rfl hp (hvt := rfl) (hvu := rfl) (hdt := rfl) (hdu := rfl)
      (hst := rfl) (hsu := ⟨Nat.le_max_left _ _, Nat.le_refl _⟩) (hpt' := rfl) (hpu := rfl)
      (hsum := rfl) (hht := Nat.le_refl _) (hhsn := fun hx => absurd hx (Nat.lt_irrefl _))
      (hct := fun _ => .inr ⟨.inl rfl, Nat.le_max_right _ _⟩) (hcu := fun _ => .inl rfl)
      (hco := fun v a _ e => absurd (e ▸ ho) a)
      (hct' := fun _ => .inl ho) (hcu' := fun _ => .inr (.inl ho)) (hco' := fun v _ b e => absurd e.symm b)
  | send t u ht hu hne hh hp =>
    exact inv_edge h hb' ht hu (ThUpd2.of_setTh hne) (.setTh (.setTh (.refl s))) rfl hp (hvt := rfl) (hvu := rfl) (hdt := rfl) (hdu := rfl)
      (hst := rfl) (hsu := ⟨Nat.le_max_left _ _, Nat.le_refl _⟩) (hpt' := rfl) (hpu := rfl)
      (hsum := by show _ - 1 + (_ + 1) = _; omega) (hht := Nat.sub_le _ _) (hhsn := fun _ => Nat.le_max_right _ _)
      (hct := fun hc => .inl hc.2) (hcu := fun hc => hc.2) (hco := fun _ _ _ => id)
      (hct' := id) (hcu' := .inl) (hco' := fun _ _ _ => id)
  | relabelRoot t ht hr ho hp hnb hds =>
    exact inv_relabel h ht hr ho hp hnb hds hb' (.setTh (.refl _ _)) (.setTh (.refl _)) rfl rfl
  | readRoot t ht hc hp => exact inv_read h ht (Or.inr hc)
  | read t ht hh hp => exact inv_read h ht (Or.inl hh)
  | dropLoad t k s1 v ht hp hl =>
    have hds := h.hs_seen t ht (Or.inr (Or.inr (Or.inl hp)))
    obtain ⟨m, hk, hm, _, rfl⟩ := load_spec' h ht hds (Or.inr (Or.inl hp)) hl
    have hlen := h.droppedSeen t ht hp
    have hklen : k < s.mo.length := (List.getElem?_eq_some_iff.mp hm).1
    obtain rfl : m = lastOf s.mo := (getElem?_lt_or_last hm).elim (fun hk2 => absurd hk2 (by omega)) id
    exact inv_frame1 ht h hb' (.setTh (.setTh (.refl _ _))) rfl (fun _ _ => .inl) (fun _ _ => .inl rfl) rfl rfl h.safe
      rfl rfl ⟨le_acq _ _ _, ⟨hk, by show k ≤ _; omega⟩, .inr (.inr ⟨rfl, hp, view_le_acq hdl _ _⟩),
        fun _ => hds, fun hx w e hi => Nat.le_trans (h.ctrlOrd t ht hx w e hi) (le_acq _ _ _ w), nofun⟩
  | toVecFail t k s1 v ht hh hp hl hv =>
    have hds := h.hs_seen t ht (Or.inl hh)
    obtain ⟨m, hk, hm, _, rfl⟩ := load_spec' h ht hds (Or.inl (Or.inl hh)) hl
    have h1 := inv_loaded o.toVecCasFail m k h ht hk hm
    have hth : ThUpd s.th (doRead (setTh s t (afterLoad o.toVecCasFail m k)) t).th t _ := .doRead (.setTh (.refl _ _))
    have h2 := inv_read h1 ht (.inl (by rw [ThUpd.self (.setTh (.refl _ _))]; exact hh))
    have hh2 : 0 < ((doRead (setTh s t (afterLoad o.toVecCasFail m k)) t).th t).handles := by rw [hth.self]; exact hh
    exact inv_setTh ht h2 hb' rfl rfl ⟨fun _ => Nat.le_refl _, ⟨Nat.le_refl _, h2.seen_le t ht⟩,
      .inr (.inl ⟨not_dying (.inr (.inr (.inr rfl))), .inl hh2⟩), fun _ => h2.hs_seen t ht (.inl hh2),
      h2.ctrlOrd t ht, fun _ => hh2⟩
  | clone t ht hh hp =>
    exact inv_rmw o.cloneAdd (· + 1) h ht (.inl hh) (h.hs_seen t ht (.inl hh)) hb' (.setTh (.rmw (.refl _ _)))
      (.setTh (.rmw _ _ _ _)) rfl rfl rfl rfl rfl rfl (by show (latest s).val + 1 + _ = _ + ((s.th t).handles + 1); omega)
      nofun (.inl hp)
  | arcAdd t ht hp =>
    exact inv_rmw o.cloneAdd (· + 1) h ht (.inr (h.basic.pc_root t ht (.inr hp))) (h.hs_seen t ht (.inr (.inl hp))) hb'
      (.setTh (.rmw (.refl _ _))) (.setTh (.rmw _ _ _ _)) rfl rfl rfl rfl rfl rfl
      (by show (latest s).val + 1 + _ = _ + ((s.th t).handles + 1); omega) nofun (.inl rfl)
  | dropSub t ht hh hp => exact inv_sub hs h ht hh hb'
  | toVecFailDrop t ht hp => exact inv_sub hs h ht (h.failed_h t ht hp) hb'
  | uniqueOk t k s1 v ht hh hp hl hv =>
    have hds := h.hs_seen t ht (Or.inl hh)
    obtain ⟨m, hk, hm, hvm, rfl⟩ := load_spec' h ht hds (Or.inl (Or.inl hh)) hl
    have h1 := inv_loaded o.uniqueLoad m k h ht hk hm
    obtain rfl := h.read_one ht hh hk hm (hvm.symm.trans hv)
    have hT : (setTh s t (afterLoad o.uniqueLoad (lastOf s.mo) k)).th t = _ := ThUpd.self (.setTh (.refl _ _))
    exact inv_write (t := t) _ h1 ht (by rw [hT]; exact hh) (hvm.symm.trans hv)
      (fun u => by rw [hT]; exact view_le_acq hul _ _ u) hb'
  | dropFree t ht hp =>
    have hds := h.hs_seen t ht (Or.inr (Or.inr (Or.inr (Or.inl hp))))
    rw [h.touch_eq ht hds (Or.inr (Or.inr hp))] at hb' ⊢
    exact inv_dropFree h ht hp hb'
  | toVecOk t ht hh hp h1 => exact inv_toVecOk o.toVecCasOk _ htv h ht hh hp h1 rfl hb'
  | dropRootVec t ht hr ho hp hnb hd =>
    obtain ⟨hdn, hab, hfr, hnh, hidle⟩ := h.consume ht hr ho hp hnb hd
    exact inv_dead h hb' ht (.doWrite (n := n) (b := true) (.refl _ _)) rfl rfl rfl (Nat.le_refl _)
      (doWrite_safe true h.safe hab hfr) (hnh t ht) (fun u hu _ => hnh u hu) hp (fun u hu _ => hidle u hu) rfl
      (fun _ => le_tick _ _ _) (h.seen_le t ht) (.inl ⟨hdn, (h.un hdn).1, (h.un hdn).2.2⟩)
  | takeRootVec t ht hr ho hp hnb hd =>
    obtain ⟨hdn, hab, hfr, hnh, hidle⟩ := h.consume ht hr ho hp hnb hd
    exact inv_dead h hb' ht (.setTh (.doWrite (n := n) (b := false) (.refl _ _))) rfl rfl rfl (Nat.le_refl _)
      (doWrite_safe false h.safe hab hfr) (hnh t ht) (fun u hu _ => hnh u hu) hp (fun u hu _ => hidle u hu) rfl
      (fun _ => le_tick _ _ _) (h.seen_le t ht) (.inl ⟨hdn, (h.un hdn).1, (h.un hdn).2.2⟩)
  | casOk t ht hp hd =>
    exact inv_casOk _ h ht hp hd (by simp [hpc, tick]) hb'

theorem inv_init {n} (hn : 0 < n) : Inv n init := by
  have hcu : ∀ v, canUseRoot init v → v = 0 := by
    intro v hc
    rcases hc.2 with hc | hc
    · exact hc.symm
    · simp [init] at hc
  refine
    { basic := basic_init hn
      un := fun _ => ⟨rfl, rfl, rfl⟩
      pr := fun hd => absurd rfl hd
      dataView := fun _ => nofun
      seen_le := fun _ _ => Nat.zero_le _
      count := fun hd => absurd rfl hd
      hs_seen := fun u _ hx => by simp [init, Busy] at hx
      ctrlOrd := fun _ _ => nofun
      failed_h := fun _ _ => nofun
      dying := fun _ _ hd => hd.elim nofun nofun
      ctrl0 := nofun
      freed_cases := nofun
      safe := ⟨rfl, rfl, rfl, rfl⟩
      noStale := fun t _ hh => by simp [init] at hh
      rootNoStale := fun _ k m _ hk => by simp [init] at hk
      covR := fun _ u _ => Or.inl (Nat.zero_le _)
      covW := fun v _ hhv w e hl => by
        have hv0 : v = 0 := by
          rcases hhv with hhv | hhv
          · simp [init] at hhv
          · exact hcu v hhv
        subst hv0
        have : init.lastWrite = some (0, 1) := rfl
        rw [this] at hl; cases hl
        simp [init, tick, VC.zero]
      covW0 := fun hd => absurd rfl hd
      loaded := fun _ _ => nofun
      droppedSeen := fun _ _ => nofun }

theorem reach_inv {o : POrds} {n s} (hs : Sufficient o = true) (hn : 0 < n) (hr : Reach o n s) :
    Inv n s := by
  induction hr with
  | init => exact inv_init hn
  | step _ hst ih => exact inv_step hs ih hst

end BytesVerif.Promo
