/- Lemmas for Props/OracleSoundBuf.lean: the round trips of the judge's result strings (numbers, hex,
the tokenizer `words`, which is defined with `String.splitOn`), and what the C12 inner-state oracle
of the read side needs to know about a call (`Moved`). -/
import BytesVerif.Judge.Buf
import BytesVerif.Props.C09
import BytesVerif.Props.C12
import Std.Data.String.ToNat
namespace BytesVerif.OracleSound
open BytesVerif.Judge BytesVerif.Buf BytesVerif.Codec

theorem toNat_toString (n : Nat) : (toString n).toNat? = some n := Nat.toNat?_repr n

theorem hexVal_hexDigit : ∀ n < 16, hexVal (hexDigit n) = some n := by decide +kernel

def hexChars (bs : List Nat) : List Char := bs.flatMap fun b => [hexDigit (b / 16), hexDigit (b % 16)]

theorem hexChars_cons (b : Nat) (r : List Nat) :
    hexChars (b :: r) = hexDigit (b / 16) :: hexDigit (b % 16) :: hexChars r := by
  simp [hexChars]

theorem parseHex_go (bs : List Nat) (h : ∀ x ∈ bs, x < 256) (acc : List Nat) :
    parseHex.go (hexChars bs) acc = some (acc.reverse ++ bs) := by
  induction bs generalizing acc with
  | nil => rw [List.append_nil]; rfl
  | cons b r ih =>
    obtain ⟨hb, hr⟩ := List.forall_mem_cons.1 h
    rw [hexChars_cons, parseHex.go, hexVal_hexDigit _ (Nat.div_lt_of_lt_mul hb),
      hexVal_hexDigit _ (Nat.mod_lt _ (by decide))]
    show parseHex.go (hexChars r) ((b / 16 * 16 + b % 16) :: acc) = _
    rw [ih hr, Nat.div_add_mod' b 16, List.reverse_cons, List.append_assoc]
    rfl

theorem toHex_nil : toHex [] = "-" := by simp [toHex]
theorem toHex_cons (b : Nat) (r : List Nat) : toHex (b :: r) = String.ofList (hexChars (b :: r)) := by
  simp [toHex, hexChars]

/-- hex rendering parses back (bytes are `u8`) -/
theorem parseHex_toHex (bs : List Nat) (h : ∀ x ∈ bs, x < 256) : parseHex (toHex bs) = some bs := by
  cases bs with
  | nil => simp [toHex_nil, parseHex]
  | cons b r =>
    rw [toHex_cons]
    have hne : (String.ofList (hexChars (b :: r)) == "-") = false := by
      rw [beq_eq_false_iff_ne]
      intro he
      have := congrArg String.toList he
      rw [String.toList_ofList, hexChars_cons] at this
      simp at this
    unfold parseHex
    rw [hne]
    simp only [Bool.false_eq_true, ↓reduceIte, String.toList_ofList]
    rw [parseHex_go _ h]
    simp

/-- a word the tokenizer `words` returns unchanged: non-empty, no whitespace -/
def Tok (w : String) : Prop := w ≠ "" ∧ ∀ c ∈ w.toList, c.isWhitespace = false

instance (w : String) : Decidable (Tok w) :=
  inferInstanceAs (Decidable (w ≠ "" ∧ ∀ c ∈ w.toList, c.isWhitespace = false))

/-- a literal token: `Tok.lit "ok"` has its side condition evaluated -/
theorem Tok.lit (w : String) (h : Tok w := by decide +kernel) : Tok w := h

def Toks (ws : List String) : Prop := ∀ w ∈ ws, Tok w

theorem Toks.nil : Toks [] := fun _ h => nomatch h

theorem Toks.cons {w : String} {ws : List String} (h : Tok w) (hs : Toks ws) : Toks (w :: ws) :=
  List.forall_mem_cons.2 ⟨h, hs⟩

def hexAlphabet : List Char := '-' :: (List.range 16).map hexDigit

/-- a non-empty string over the hex alphabet (plus "-" for the empty byte string) -/
def HexTok (w : String) : Prop := w ≠ "" ∧ ∀ c ∈ w.toList, c ∈ hexAlphabet

/-- no hex character is white space, a separator of the trace format, or the `l` of `limit` -/
theorem hexAlphabet_sep : ∀ c ∈ hexAlphabet, c.isWhitespace = false ∧ c ≠ ',' ∧ c ≠ '.' ∧ c ≠ 'l' := by
  decide +kernel

theorem hexChars_mem (bs : List Nat) (h : ∀ x ∈ bs, x < 256) : ∀ c ∈ hexChars bs, c ∈ hexAlphabet := by
  have hd : ∀ n < 16, hexDigit n ∈ hexAlphabet := fun n hn =>
    List.mem_cons_of_mem _ (List.mem_map.2 ⟨n, List.mem_range.2 hn, rfl⟩)
  induction bs with
  | nil => intro c hc; simp [hexChars] at hc
  | cons b r ih =>
    obtain ⟨hb, hr⟩ := List.forall_mem_cons.1 h
    intro c hc
    rw [hexChars_cons] at hc
    simp only [List.mem_cons] at hc
    rcases hc with rfl | rfl | hc
    · exact hd _ (Nat.div_lt_of_lt_mul hb)
    · exact hd _ (Nat.mod_lt _ (by decide))
    · exact ih hr c hc

theorem hexTok_toHex (bs : List Nat) (h : ∀ x ∈ bs, x < 256) : HexTok (toHex bs) := by
  cases bs with
  | nil => rw [toHex_nil]; exact ⟨by decide +kernel, by decide +kernel⟩
  | cons b r =>
    rw [toHex_cons]
    refine ⟨?_, ?_⟩
    · intro he
      have := congrArg String.toList he
      rw [String.toList_ofList, hexChars_cons] at this
      simp at this
    · rw [String.toList_ofList]; exact hexChars_mem _ h

theorem HexTok.tok {w : String} (h : HexTok w) : Tok w :=
  ⟨h.1, fun c hc => (hexAlphabet_sep c (h.2 c hc)).1⟩

theorem tok_toHex (bs : List Nat) (h : ∀ x ∈ bs, x < 256) : Tok (toHex bs) := (hexTok_toHex bs h).tok

theorem tok_toHex_take {bs : List Nat} (h : ∀ x ∈ bs, x < 256) (n : Nat) : Tok (toHex (bs.take n)) :=
  tok_toHex _ fun x hx => h x (List.mem_of_mem_take hx)

theorem isDigit_not_ws (c : Char) (h : c.isDigit = true) : c.isWhitespace = false := by
  simp only [Char.isDigit, Bool.and_eq_true, decide_eq_true_eq] at h
  simp only [Char.isWhitespace, Bool.or_eq_false_iff, decide_eq_false_iff_not]
  refine ⟨⟨⟨?_, ?_⟩, ?_⟩, ?_⟩ <;> (intro he; subst he; revert h; decide)

theorem tok_nat (n : Nat) : Tok (toString n) := by
  refine ⟨Nat.repr_ne_empty, fun c hc => ?_⟩
  rw [show toString n = Nat.repr n from rfl, Nat.toList_repr] at hc
  exact isDigit_not_ws c (Nat.isDigit_of_mem_toDigits (by decide) (by decide) hc)

theorem tok_int (v : Int) : Tok (toString v) := by
  show Tok (Int.repr v)
  cases v with
  | ofNat m => exact tok_nat m
  | negSucc m =>
    show Tok ("-" ++ Nat.repr (m + 1))
    have ht := tok_nat (m + 1)
    refine ⟨?_, fun c hc => ?_⟩
    · intro he
      have := congrArg String.toList he
      rw [String.toList_append] at this
      simp at this
    · rw [String.toList_append] at hc
      simp only [List.mem_append] at hc
      rcases hc with hc | hc
      · revert c; decide
      · exact ht.2 c hc

theorem mem_intercalate {α : Type} {sep : List α} {xs : List (List α)} {c : α}
    (h : c ∈ sep.intercalate xs) : c ∈ sep ∨ ∃ x ∈ xs, c ∈ x := by
  induction xs with
  | nil => simp [List.intercalate] at h
  | cons x r ih =>
    cases r with
    | nil => simp [List.intercalate] at h; exact .inr ⟨x, by simp, h⟩
    | cons y r' =>
      simp only [List.intercalate, List.intersperse_cons_cons, List.flatten_cons, List.mem_append] at h ih
      rcases h with h | h | h
      · exact .inr ⟨x, by simp, h⟩
      · exact .inl h
      · rcases ih h with h | ⟨z, hz, hc⟩
        · exact .inl h
        · exact .inr ⟨z, by simp [hz], hc⟩

theorem tok_toList_ne_nil {w : String} (h : Tok w) : w.toList ≠ [] := by
  intro h0; exact h.1 (String.toList_eq_nil_iff.1 h0)

theorem joined_ne_nil (sep : List Char) (w : String) (ws : List String) (hw : Tok w) :
    sep.intercalate ((w :: ws).map String.toList) ≠ [] := by
  have hne := tok_toList_ne_nil hw
  cases ws with
  | nil => simpa [List.intercalate] using hne
  | cons y r => simp [List.intercalate_cons_cons, hne]

theorem mapM_parseHex (sl : List Bs) (h : ∀ s ∈ sl, ∀ x ∈ s, x < 256) :
    (sl.map toHex).mapM parseHex = some sl := by
  induction sl with
  | nil => rfl
  | cons s r ih =>
    simp only [List.map_cons, List.mapM_cons, parseHex_toHex s (h s (by simp)),
      ih (fun t ht => h t (by simp [ht]))]
    rfl

/-- the comma-joined hex rendering of a non-empty slice list -/
def commaHex (sl : List Bs) : String := ",".intercalate (sl.map toHex)

theorem commaHex_chars (sl : List Bs) (h : ∀ s ∈ sl, ∀ x ∈ s, x < 256) :
    ∀ c ∈ (commaHex sl).toList, c ∈ hexAlphabet ∨ c = ',' := by
  intro c hc
  rw [commaHex, String.toList_intercalate] at hc
  rcases mem_intercalate hc with hc | ⟨x, hx, hc⟩
  · right
    have : ∀ c ∈ ",".toList, c = ',' := by decide +kernel
    exact this c hc
  · left
    simp only [List.map_map, List.mem_map, Function.comp] at hx
    obtain ⟨s, hs, rfl⟩ := hx
    exact (hexTok_toHex s (h s hs)).2 c hc

theorem commaHex_tok (s : Bs) (r : List Bs) (h : ∀ t ∈ s :: r, ∀ x ∈ t, x < 256) : Tok (commaHex (s :: r)) := by
  refine ⟨fun he => joined_ne_nil ",".toList (toHex s) (r.map toHex) (tok_toHex s (h s (by simp))) ?_,
    fun c hc => ?_⟩
  · rw [← String.toList_intercalate]; exact String.toList_eq_nil_iff.2 he
  · rcases commaHex_chars _ h c hc with hc | rfl
    · exact (hexAlphabet_sep c hc).1
    · decide

theorem commaHex_ne_dot (sl : List Bs) (h : ∀ s ∈ sl, ∀ x ∈ s, x < 256) : commaHex sl ≠ "." := by
  intro he
  have := commaHex_chars sl h '.' (by rw [he]; decide)
  rcases this with h | h
  · exact (hexAlphabet_sep _ h).2.2.1 rfl
  · revert h; decide

section Tokenizer
open String (Pos.Raw)

/-! ### `String.splitOn` on a one-character separator, via the `List Char` model -/

def ulen : List Char → Nat
  | [] => 0
  | c :: cs => c.utf8Size + ulen cs

theorem ulen_append (a b : List Char) : ulen (a ++ b) = ulen a + ulen b := by
  induction a with
  | nil => simp [ulen]
  | cons c cs ih => exact (congrArg (c.utf8Size + ·) ih).trans (Nat.add_assoc ..).symm

theorem utf8ByteSize_ofList (l : List Char) : (String.ofList l).utf8ByteSize = ulen l := by
  induction l with
  | nil => simp [ulen]
  | cons c cs ih =>
    rw [String.ofList_cons, String.utf8ByteSize_append, String.utf8ByteSize_singleton, ih]; rfl

theorem utf8ByteSize_eq (s : String) : s.utf8ByteSize = ulen s.toList := by
  conv => lhs; rw [← String.ofList_toList (s := s)]
  exact utf8ByteSize_ofList _

theorem ulen_cons_pos (a : Char) (l : List Char) : 0 < ulen (a :: l) :=
  Nat.add_pos_left (Char.utf8Size_pos a) _

/-- the scanning step, first half: byte `i` is not yet the position behind `a :: l` -/
theorem pos_ne_add_ulen (i : Nat) (a : Char) (l : List Char) : (⟨i⟩ : Pos.Raw) ≠ ⟨i + ulen (a :: l)⟩ :=
  fun h => Nat.ne_of_lt (Nat.lt_add_of_pos_right (ulen_cons_pos a l)) (congrArg Pos.Raw.byteIdx h)

/-- … second half: behind `a` the distance is that of `l` -/
theorem add_ulen_cons (i : Nat) (a : Char) (l : List Char) :
    i + ulen (a :: l) = (i + a.utf8Size) + ulen l := (Nat.add_assoc ..).symm

theorem getAux_valid (l1 : List Char) (c : Char) (l2 : List Char) (i : Nat) :
    Pos.Raw.utf8GetAux (l1 ++ c :: l2) ⟨i⟩ ⟨i + ulen l1⟩ = c := by
  induction l1 generalizing i with
  | nil => simp [Pos.Raw.utf8GetAux, ulen]
  | cons a l1 ih =>
    simp only [List.cons_append, Pos.Raw.utf8GetAux, pos_ne_add_ulen, ↓reduceIte]
    rw [add_ulen_cons]
    exact ih (i + a.utf8Size)

theorem get_valid (s : String) (l1 : List Char) (c : Char) (l2 : List Char) (h : s.toList = l1 ++ c :: l2) :
    Pos.Raw.get s ⟨ulen l1⟩ = c := by
  have := getAux_valid l1 c l2 0
  simp only [Nat.zero_add] at this
  rw [Pos.Raw.get, h]; exact this

theorem next_valid (s : String) (l1 : List Char) (c : Char) (l2 : List Char) (h : s.toList = l1 ++ c :: l2) :
    Pos.Raw.next s ⟨ulen l1⟩ = ⟨ulen l1 + c.utf8Size⟩ := by
  rw [Pos.Raw.next, get_valid s l1 c l2 h]; rfl

theorem atEnd_iff (s : String) (n : Nat) : Pos.Raw.atEnd s ⟨n⟩ = decide (ulen s.toList ≤ n) := by
  simp [Pos.Raw.atEnd, utf8ByteSize_eq]

theorem go₂_valid (m l2 : List Char) (j : Nat) :
    Pos.Raw.extract.go₂ (m ++ l2) ⟨j⟩ ⟨j + ulen m⟩ = m := by
  induction m generalizing j with
  | nil =>
    cases l2 with
    | nil => simp [Pos.Raw.extract.go₂]
    | cons c cs => simp [Pos.Raw.extract.go₂, ulen]
  | cons a m ih =>
    simp only [List.cons_append, Pos.Raw.extract.go₂, pos_ne_add_ulen, ↓reduceIte]
    rw [add_ulen_cons]
    exact congrArg (a :: ·) (ih (j + a.utf8Size))

theorem go₁_valid (l1 m l2 : List Char) (i : Nat) (e : Pos.Raw) (hm : m ≠ []) :
    Pos.Raw.extract.go₁ (l1 ++ m ++ l2) ⟨i⟩ ⟨i + ulen l1⟩ e
      = Pos.Raw.extract.go₂ (m ++ l2) ⟨i + ulen l1⟩ e := by
  induction l1 generalizing i with
  | nil =>
    cases m with
    | nil => exact absurd rfl hm
    | cons a m => simp [Pos.Raw.extract.go₁, ulen]
  | cons a l1 ih =>
    simp only [List.cons_append, Pos.Raw.extract.go₁, pos_ne_add_ulen, ↓reduceIte]
    rw [add_ulen_cons]
    exact ih (i + a.utf8Size)

theorem extract_valid (s : String) (l1 m l2 : List Char) (h : s.toList = l1 ++ m ++ l2) :
    Pos.Raw.extract s ⟨ulen l1⟩ ⟨ulen l1 + ulen m⟩ = String.ofList m := by
  cases m with
  | nil => simp [Pos.Raw.extract, ulen]
  | cons a m =>
    have hlt : ¬ (ulen l1 ≥ ulen l1 + ulen (a :: m)) :=
      Nat.not_le.2 (Nat.lt_add_of_pos_right (ulen_cons_pos a m))
    simp only [Pos.Raw.extract, hlt, ↓reduceIte, h]
    have := go₁_valid l1 (a :: m) l2 0 ⟨ulen l1 + ulen (a :: m)⟩ (by simp)
    simp only [Nat.zero_add] at this
    have h0 : (0 : Pos.Raw) = ⟨0⟩ := rfl
    rw [h0, this, go₂_valid]

theorem splitOnAux_one (s sep : String) (c : Char) (hsep : sep.toList = [c])
    (rest pre cur : List Char) (r : List String) (h : s.toList = pre ++ cur ++ rest) :
    String.splitOnAux s sep ⟨ulen pre⟩ ⟨ulen pre + ulen cur⟩ 0 r
      = r.reverse ++ (List.splitOnPPrepend (· == c) rest cur.reverse).map String.ofList := by
  have h0 : (0 : Pos.Raw) = ⟨ulen ([] : List Char)⟩ := rfl
  have hget0 : Pos.Raw.get sep 0 = c := by rw [h0]; exact get_valid sep [] c [] (by simpa using hsep)
  have hnext0 : Pos.Raw.next sep 0 = ⟨c.utf8Size⟩ := by
    rw [h0, next_valid sep [] c [] (by simpa using hsep)]; simp [ulen]
  have hend0 : Pos.Raw.atEnd sep ⟨c.utf8Size⟩ = true := by
    rw [atEnd_iff, hsep]; simp [ulen]
  induction rest generalizing pre cur r with
  | nil =>
    rw [String.splitOnAux]
    have hend : Pos.Raw.atEnd s ⟨ulen pre + ulen cur⟩ = true := by
      rw [atEnd_iff, h]; simp [ulen_append]
    simp only [hend, ↓reduceIte]
    rw [extract_valid s pre cur [] h]
    simp
  | cons x rest ih =>
    rw [String.splitOnAux]
    have hend : Pos.Raw.atEnd s ⟨ulen pre + ulen cur⟩ = false := by
      rw [atEnd_iff, h, ulen_append, ulen_append]
      exact decide_eq_false (Nat.not_le.2 (Nat.lt_add_of_pos_right (ulen_cons_pos x rest)))
    have hi : (⟨ulen pre + ulen cur⟩ : Pos.Raw) = ⟨ulen (pre ++ cur)⟩ := by rw [ulen_append]
    have hget : Pos.Raw.get s ⟨ulen pre + ulen cur⟩ = x := by
      rw [hi]; exact get_valid s (pre ++ cur) x rest h
    have hnext : Pos.Raw.next s ⟨ulen pre + ulen cur⟩ = ⟨ulen pre + ulen cur + x.utf8Size⟩ := by
      rw [hi, next_valid s (pre ++ cur) x rest h, ulen_append]
    simp only [hend, Bool.false_eq_true, ↓reduceIte, hget, hget0]
    by_cases hx : (x == c) = true
    · have hxc : x = c := by simpa using hx
      simp only [hx, ↓reduceIte, hnext, hnext0, hend0]
      have hun : (⟨ulen pre + ulen cur + x.utf8Size⟩ : Pos.Raw).unoffsetBy ⟨c.utf8Size⟩
          = ⟨ulen pre + ulen cur⟩ := by
        rw [hxc]; simp [Pos.Raw.unoffsetBy]
      rw [hun, extract_valid s pre cur (x :: rest) h]
      have h' : s.toList = (pre ++ cur ++ [x]) ++ [] ++ rest := by rw [h]; simp
      have := ih (pre ++ cur ++ [x]) [] (String.ofList cur :: r) h'
      simp only [ulen_append, ulen, Nat.add_zero] at this
      rw [this, List.splitOnPPrepend_cons_eq_if]
      simp [hx]
    · have hx' : (x == c) = false := by simpa using hx
      simp only [hx', Bool.false_eq_true, ↓reduceIte]
      have hun : (⟨ulen pre + ulen cur⟩ : Pos.Raw).unoffsetBy 0 = ⟨ulen pre + ulen cur⟩ := by
        simp [Pos.Raw.unoffsetBy]
      rw [hun, hnext]
      have h' : s.toList = pre ++ (cur ++ [x]) ++ rest := by rw [h]; simp
      have := ih pre (cur ++ [x]) r h'
      simp only [ulen_append, ulen, Nat.add_zero] at this
      rw [← Nat.add_assoc] at this
      rw [this, List.splitOnPPrepend_cons_eq_if]
      simp [hx']

/-- `String.splitOn` with a one-character separator is `List.splitOn` on the characters -/
theorem splitOn_one (s sep : String) (c : Char) (hsep : sep.toList = [c]) :
    s.splitOn sep = (s.toList.splitOn c).map String.ofList := by
  have hne : (sep == "") = false := by
    rw [beq_eq_false_iff_ne]; intro he; rw [he] at hsep; simp at hsep
  have := splitOnAux_one s sep c hsep s.toList [] [] [] (by simp)
  simp only [ulen, Nat.add_zero, List.reverse_nil, List.nil_append] at this
  rw [String.splitOn, hne]
  simp only [Bool.false_eq_true, ↓reduceIte]
  exact this.trans (by rw [List.splitOn_eq_splitOnP]; rfl)

theorem splitOn_intercalate_str (sep : String) (c : Char) (hsep : sep.toList = [c]) (ts : List String)
    (hne : ts ≠ []) (h : ∀ t ∈ ts, c ∉ t.toList) : (sep.intercalate ts).splitOn sep = ts := by
  rw [splitOn_one _ sep c hsep, String.toList_intercalate, hsep,
    List.splitOn_intercalate c (ls := ts.map String.toList)]
  · simp [List.map_map, Function.comp_def]
  · intro l hl
    simp only [List.mem_map] at hl
    obtain ⟨t, ht, rfl⟩ := hl
    exact h t ht
  · simpa using hne

theorem head?_append_ne {a b : List Char} (h : a ≠ []) : (a ++ b).head? = a.head? := by
  cases a with
  | nil => exact absurd rfl h
  | cons x a => simp

theorem getLast?_append_ne {a b : List Char} (h : b ≠ []) : (a ++ b).getLast? = b.getLast? := by
  rw [List.getLast?_append]
  cases hb : b.getLast? with
  | none => simp [List.getLast?_eq_none_iff] at hb; exact absurd hb h
  | some c => simp

theorem tok_no_space {w : String} (h : Tok w) : ' ' ∉ w.toList := by
  intro hc
  have := h.2 ' ' hc
  revert this; decide

theorem joined_head (sep : List Char) (ws : List String) (h : Toks ws) (c : Char)
    (hc : (sep.intercalate (ws.map String.toList)).head? = some c) : c.isWhitespace = false := by
  cases ws with
  | nil => simp [List.intercalate] at hc
  | cons w r =>
    have hw := h w (by simp)
    have hne := tok_toList_ne_nil hw
    have : (sep.intercalate ((w :: r).map String.toList)).head? = w.toList.head? := by
      cases r with
      | nil => simp [List.intercalate]
      | cons y r' =>
        simp only [List.map_cons, List.intercalate_cons_cons]
        rw [List.append_assoc, head?_append_ne hne]
    rw [this] at hc
    exact hw.2 c (List.mem_of_head? hc)

theorem joined_last (sep : List Char) (ws : List String) (h : Toks ws) (c : Char)
    (hc : (sep.intercalate (ws.map String.toList)).getLast? = some c) : c.isWhitespace = false := by
  induction ws with
  | nil => simp [List.intercalate] at hc
  | cons w r ih =>
    have hw := h w (by simp)
    cases r with
    | nil =>
      simp [List.intercalate] at hc
      exact hw.2 c (List.mem_of_getLast? hc)
    | cons y r' =>
      have hy := h y (by simp)
      simp only [List.map_cons, List.intercalate_cons_cons] at hc
      have hne := joined_ne_nil sep y r' hy
      simp only [List.map_cons] at hne
      rw [getLast?_append_ne hne] at hc
      exact ih (fun w hw => h w (by simp [hw])) (by simpa using hc)

theorem trimAscii_self (s : String)
    (hh : ∀ c, s.toList.head? = some c → c.isWhitespace = false)
    (hl : ∀ c, s.toList.getLast? = some c → c.isWhitespace = false) : s.trimAscii.toString = s := by
  have h1 : s.toSlice.trimAsciiStart = s.toSlice := by
    unfold String.Slice.trimAsciiStart
    apply String.Slice.dropWhile_eq_self
    rw [String.Slice.startsWith_bool_eq_head?, String.copy_toSlice]
    cases hd : s.toList.head? with
    | none => rfl
    | some c => simpa using hh c hd
  have h2 : s.toSlice.trimAsciiEnd = s.toSlice := by
    unfold String.Slice.trimAsciiEnd
    apply String.Slice.dropEndWhile_eq_self
    rw [String.Slice.endsWith_bool_eq_getLast?, String.copy_toSlice]
    cases hd : s.toList.getLast? with
    | none => rfl
    | some c => simpa using hl c hd
  show (s.toSlice.trimAscii).copy = s
  unfold String.Slice.trimAscii
  rw [h1, h2, String.copy_toSlice]

/-- the judge's tokenizer returns the tokens of a space-joined list of tokens -/
theorem words_join (ws : List String) (h : Toks ws) : words (" ".intercalate ws) = ws := by
  have hsp : " ".toList = [' '] := by decide +kernel
  have htrim : (" ".intercalate ws).trimAscii.toString = " ".intercalate ws := by
    apply trimAscii_self
    · intro c hc; rw [String.toList_intercalate] at hc; exact joined_head _ ws h c hc
    · intro c hc; rw [String.toList_intercalate] at hc; exact joined_last _ ws h c hc
  unfold words
  rw [htrim]
  cases ws with
  | nil =>
    have : " ".intercalate ([] : List String) = "" := rfl
    rw [this, splitOn_one "" " " ' ' hsp]
    have h0 : "".toList = [] := by decide +kernel
    rw [h0, List.splitOn_nil]
    decide +kernel
  | cons w r =>
    rw [splitOn_intercalate_str " " ' ' hsp (w :: r) (by simp) (fun t ht => tok_no_space (h t ht))]
    apply List.filter_eq_self.2
    intro t ht
    simpa using (h t ht).1

end Tokenizer

/-- after `k` bytes went through a `Take` / `Chain` root: same shape, limit reduced by `k`, inner
buffers advanced by exactly their share -/
def InnerOK (pre post : BufT) (k : Nat) : Prop :=
  match pre with
  | .take i lim => ∃ i', post = .take i' (lim - k) ∧ den i' = (den i).drop k
  | .chain a b => ∃ a' b', post = .chain a' b' ∧ den a' = (den a).drop k ∧
      den b' = (den b).drop (k - (den a).length)
  | _ => True

/-- what the inner-state oracle needs to know about a (possibly) consuming call -/
def Moved (b b' : BufT) : Prop :=
  ∃ k, k ≤ (den b).length ∧ den b' = (den b).drop k ∧ InnerOK b b' k

theorem moved_refl (b : BufT) : Moved b b := by
  refine ⟨0, Nat.zero_le _, rfl, ?_⟩
  cases b with
  | take i lim => exact ⟨i, rfl, rfl⟩
  | chain a b => exact ⟨a, b, rfl, rfl, by simp⟩
  | _ => trivial

theorem moved_of_adv {b b' : BufT} {k : Nat} (hwf : wf b) (hk : k ≤ remaining b) (h : Adv b k b') :
    Moved b b' := by
  refine ⟨k, remaining_eq b hwf ▸ hk, (h.spec hwf).1, ?_⟩
  cases b with
  | take i lim =>
    obtain ⟨i', e, hadv⟩ := h.take_shape i lim rfl
    exact ⟨i', e, (hadv.spec hwf.1).1⟩
  | chain a b =>
    obtain ⟨a', b', e, h1, h2, _, _⟩ := h.chain_shape a b rfl hwf
    exact ⟨a', b', e, h1, h2⟩
  | _ => trivial

theorem moved_advance {b b' : BufT} {n : Nat} (hwf : wf b) (hn : n ≤ remaining b)
    (h : advance b n = .ok b') : Moved b b' :=
  moved_of_adv hwf hn ((Adv.step hwf hn h (Adv.refl b')).cast (Nat.add_zero n))

theorem moved_tryCopy {b b' : BufT} {n : Nat} {r : Option Bs} (hwf : wf b)
    (h : tryCopyToSlice b n = .ok (r, b')) : Moved b b' := by
  by_cases hn : n ≤ remaining b
  · obtain ⟨b2, h1, hadv⟩ := tryCopyToSlice_adv b n hwf hn
    rw [h] at h1; cases h1
    exact moved_of_adv hwf hn hadv
  · rw [tryCopyToSlice_err b n (Nat.lt_of_not_le hn)] at h
    cases h
    exact moved_refl b

/-- `f` is `copyToSlice` or `copyToBytes`: what C09 (`hok`) and C12 (`htake`, `hchain`) say about it -/
theorem moved_of_copy {f : BufT → Nat → Res (Bs × BufT)}
    (hok : ∀ b n, wf b → n ≤ remaining b →
      ∃ b', f b n = .ok ((den b).take n, b') ∧ den b' = (den b).drop n ∧ wf b')
    (htake : ∀ i lim n, wf (.take i lim) → n ≤ remaining (.take i lim) →
      ∃ i', f (.take i lim) n = .ok ((den i).take n, .take i' (lim - n)) ∧ den i' = (den i).drop n ∧ wf i')
    (hchain : ∀ a b n, wf (.chain a b) → n ≤ remaining (.chain a b) →
      ∃ a' b', f (.chain a b) n = .ok ((den a ++ den b).take n, .chain a' b') ∧
        den a' = (den a).drop n ∧ den b' = (den b).drop (n - (den a).length) ∧ wf a' ∧ wf b')
    {b b' : BufT} {n : Nat} {bs : Bs} (hwf : wf b) (hn : n ≤ remaining b)
    (h : f b n = .ok (bs, b')) : Moved b b' := by
  have hi : InnerOK b b' n := by
    cases b with
    | take i lim =>
      obtain ⟨i', h1, h2, _⟩ := htake i lim n hwf hn
      rw [h] at h1; cases h1
      exact ⟨i', rfl, h2⟩
    | chain a b =>
      obtain ⟨a', b', h1, h2, h3, _, _⟩ := hchain a b n hwf hn
      rw [h] at h1; cases h1
      exact ⟨a', b', rfl, h2, h3⟩
    | _ => trivial
  obtain ⟨b2, h1, h2, _⟩ := hok b n hwf hn
  rw [h] at h1; cases h1
  exact ⟨n, remaining_eq b hwf ▸ hn, h2, hi⟩

theorem moved_copyToSlice {b b' : BufT} {n : Nat} {bs : Bs} (hwf : wf b) (hn : n ≤ remaining b)
    (h : copyToSlice b n = .ok (bs, b')) : Moved b b' :=
  moved_of_copy copyToSlice_ok take_copyToSlice_inner chain_copyToSlice_inner hwf hn h

theorem moved_copyToBytes {b b' : BufT} {n : Nat} {bs : Bs} (hwf : wf b) (hn : n ≤ remaining b)
    (h : copyToBytes b n = .ok (bs, b')) : Moved b b' :=
  moved_of_copy copyToBytes_ok take_copyToBytes_inner chain_copyToBytes_inner hwf hn h

theorem moved_iterNext {b b' : BufT} {r : Option Nat} (hwf : wf b) (h : iterNext b = .ok (r, b')) :
    Moved b b' := by
  unfold iterNext at h
  split at h
  · cases h; exact moved_refl b
  · split at h
    · cases h
    · obtain ⟨b1, ha, hf⟩ := Res.map_eq_ok h
      cases hf
      exact moved_advance hwf (Nat.pos_of_ne_zero ‹_›) ha

theorem orPanic_ok {isTry : Bool} {r : GetRes} {p : Out × BufT} (h : orPanic isTry r = .ok p) :
    r = .ok p := by
  unfold orPanic at h
  split at h
  · split at h
    · exact h
    · cases h
  · exact h

theorem tryGetFixed_moved {bytes : Nat} {signed : Bool} {conv : Endian} {b b' : BufT} {out : Out}
    (hwf : wf b) (h : tryGetFixed bytes signed conv b = .ok (out, b')) : Moved b b' := by
  unfold tryGetFixed at h
  split at h
  · cases h; exact moved_refl b
  · split at h
    · obtain ⟨b1, ha, hf⟩ := Res.map_eq_ok h
      cases hf; exact moved_advance hwf (Nat.le_of_not_lt ‹_›) ha
    · obtain ⟨⟨bs, b1⟩, ha, hf⟩ := Res.map_eq_ok h
      cases hf; exact moved_copyToSlice hwf (Nat.le_of_not_lt ‹_›) ha

theorem tryGetVar_moved {arm : Endian} {s64 : Bool} {n : Nat} {b b' : BufT} {out : Out}
    (hwf : wf b) (h : tryGetVar arm s64 n b = .ok (out, b')) : Moved b b' := by
  unfold tryGetVar at h
  split at h
  · cases h
  · split at h
    · cases h
    · cases h; exact moved_tryCopy hwf ‹_›
    · cases h; exact moved_tryCopy hwf ‹_›

theorem evalBody_moved (c : Cfg) (form : SignExtForm) (body : Body) (n : Nat) (b : BufT) (hwf : wf b)
    (out : Out) (b' : BufT) (h : evalBody c form body n b = .ok (out, b')) : Moved b b' := by
  induction body generalizing out with
  | byteDirect signed isTry =>
    rw [evalBody] at h
    split at h
    · split at h
      · cases h; exact moved_refl b
      · cases h
    · split at h
      · cases h
      · obtain ⟨b1, ha, hf⟩ := Res.map_eq_ok h
        cases hf; exact moved_advance hwf (Nat.le_of_not_lt ‹_›) ha
  | fixed bytes signed conv isTry => exact tryGetFixed_moved hwf (orPanic_ok (by rwa [evalBody] at h))
  | var arm s64 isTry => exact tryGetVar_moved hwf (orPanic_ok (by rwa [evalBody] at h))
  | signExt inner t ih =>
    rw [evalBody] at h
    split at h
    · rename_i v b1 hi
      split at h
      · cases h; exact ih _ hi
      · cases h
    · exact ih _ h
  | neDispatch big little _ ih => rw [evalBody] at h; exact ih _ h
  | floatBits inner ih => rw [evalBody] at h; exact ih _ h
  | unknown t => rw [evalBody] at h; cases h

end BytesVerif.OracleSound
