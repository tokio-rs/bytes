/- M5 inside M5p: a state of the reference-counting protocol (Model/Conc.lean) is the state of the promotion protocol
(Model/Promo.lean) in which the root handle has been re-labelled and every thread has seen the promotion.  Steps of M5 are
steps of M5p there, so the invariant of M5p holds of every reachable state of M5. -/
import BytesVerif.Lemmas.Promo
namespace BytesVerif.Conc

def Pc.emb : Pc → Promo.Pc
  | .idle => .idle
  | .dropped => .dropped
  | .loadedFree => .loadedFree
  | .failedToVec => .failedToVec

def Thread.emb (T : Thread) : Promo.Thread :=
  { vc := T.vc, seen := T.seen, dataSeen := true, handles := T.handles, borrow := false, pc := T.pc.emb,
    exclusive := T.exclusive }

/-- M5 starts where M5p is after promotion and re-labelling: `data` is promoted (with the empty view, which `dataView`
allows because the control block was initialised at epoch 0, before anything else: every access is ordered after it),
the one promotion has happened, the root is gone (so its `owner` is irrelevant; thread 0 needs `0 < n`) -/
def St.emb (s : St) : Promo.St :=
  { data := some VC.zero, ctrlInit := some (0, 0), mo := s.mo, th := fun u => (s.th u).emb, owner := 0, rootLive := false,
    lastWrite := s.lastWrite, readEpoch := s.readEpoch, freed := s.freed, ctrlFreed := s.ctrlFreed, race := s.race,
    ctrlRace := false, uaf := s.uaf, doubleFree := s.doubleFree, exclusiveCount := s.exclusiveCount, promotions := 1 }

/-- the promotion sites do not occur in M5; they get the weakest orderings `Promo.Sufficient` accepts -/
def Ords.emb (o : Ords) : Promo.POrds :=
  { cloneAdd := o.cloneAdd, dropSub := o.dropSub, dropLoad := o.dropLoad, toVecCasOk := o.toVecCasOk,
    toVecCasFail := o.toVecCasFail, uniqueLoad := o.uniqueLoad, promLoad := .acquire, promCasOk := .release,
    promCasFail := .acquire }

theorem emb_ite (th : Nat → Thread) (t : Nat) (X : Thread) :
    (fun u => (if u = t then X else th u).emb) = fun u => if u = t then X.emb else (th u).emb := by
  funext u; split <;> rfl

theorem doRead_emb (s : St) (t : Nat) : (doRead s t).emb = Promo.doRead s.emb t := by
  unfold St.emb doRead Promo.doRead
  simp only [emb_ite]
  rfl

theorem doWrite_emb (s : St) (t n : Nat) (b : Bool) : (doWrite s t n b).emb = Promo.doWrite s.emb t n b := by
  unfold St.emb doWrite Promo.doWrite
  simp only [emb_ite]
  rfl

theorem setTh_emb (s : St) (t : Nat) (f : Thread → Thread) (g : Promo.Thread → Promo.Thread)
    (h : (f (s.th t)).emb = g (s.th t).emb) : (setTh s t f).emb = Promo.setTh s.emb t g := by
  unfold St.emb setTh Promo.setTh
  simp only [emb_ite, h]

theorem rmw_emb {s : St} {t : Nat} (od : Ord) (f : Nat → Nat) (htc : Promo.touchCtrl s.emb t = s.emb) :
    (rmw s t od f).1.emb = (Promo.rmw s.emb t od f).1 := by
  unfold Promo.rmw
  simp only
  rw [htc]
  unfold St.emb rmw
  simp only [emb_ite]
  rfl

theorem load_emb {s s' : St} {t k v : Nat} (od : Ord) (htc : Promo.touchCtrl s.emb t = s.emb)
    (hl : load s t od k = some (s', v)) : Promo.load s.emb t od k = some (s'.emb, v) := by
  unfold load at hl
  unfold Promo.load
  simp only at hl ⊢
  rw [htc]
  split at hl
  · cases hl
  · rw [if_neg (by assumption)]
    show (match s.mo[k]? with | none => none | some m => _) = _
    cases hm : s.mo[k]? with
    | none => rw [hm] at hl; cases hl
    | some m =>
      rw [hm] at hl
      cases hl
      simp only [St.emb, emb_ite]
      rfl

theorem sub_emb {s : St} {t : Nat} (od : Ord) (htc : Promo.touchCtrl s.emb t = s.emb) :
    (subSt s t od).emb = Promo.subSt s.emb t od := by
  unfold subSt Promo.subSt
  simp only
  rw [← rmw_emb od _ htc]
  refine setTh_emb _ _ _ _ ?_
  show Promo.Thread.mk _ _ _ _ _ (Pc.emb (if _ then _ else _)) _ = _
  rw [apply_ite Pc.emb]
  rfl

theorem Step.emb {o : Ords} {n s s'} (h : Promo.Inv n s.emb) (hst : Step o n s s') :
    Promo.Step o.emb n s.emb s'.emb := by
  have htc : ∀ t, t < n → (0 < (s.th t).handles ∨ Promo.Dying (s.th t).pc.emb) → Promo.touchCtrl s.emb t = s.emb :=
    fun t ht hx => h.touch_eq ht rfl (hx.imp .inl id)
  cases hst with
  | read t ht hh hp => rw [doRead_emb]; exact .read _ t ht hh (congrArg Pc.emb hp)
  | clone t ht hh hp =>
    rw [setTh_emb _ _ _ (fun T => { T with handles := T.handles + 1 }) rfl, rmw_emb _ _ (htc t ht (.inl hh))]
    exact .clone _ t ht hh (congrArg Pc.emb hp)
  | send t u ht hu hne hh hp =>
    rw [setTh_emb _ u _ (fun U => { U with handles := U.handles + 1, vc := U.vc.join (tick t (s.emb.th t).vc),
                                             seen := max U.seen (s.emb.th t).seen,
                                             dataSeen := U.dataSeen || (s.emb.th t).dataSeen }) rfl,
      setTh_emb _ t _ (fun T => { T with handles := T.handles - 1, vc := tick t T.vc }) rfl]
    exact .send _ t u ht hu hne hh (congrArg Pc.emb hp)
  | dropSub t ht hh hp =>
    exact sub_emb o.dropSub (htc t ht (.inl hh)) ▸ .dropSub _ t ht hh (congrArg Pc.emb hp)
  | dropLoad t k s1 v ht hp hl =>
    have hc := htc t ht (.inr (.inl (congrArg Pc.emb hp)))
    rw [setTh_emb _ t _ (fun T => { T with pc := .loadedFree }) rfl]
    exact .dropLoad _ t k _ v ht (congrArg Pc.emb hp) (load_emb _ hc hl)
  | dropFree t ht hp =>
    have := Promo.Step.dropFree (o := o.emb) (n := n) s.emb t ht (congrArg Pc.emb hp)
    rw [htc t ht (.inr (.inr (congrArg Pc.emb hp)))] at this
    rw [setTh_emb _ t _ (fun T => { T with pc := .idle }) rfl]
    show Promo.Step _ n _ (Promo.setTh { (doWrite s t n true).emb with ctrlFreed := true } t _)
    rw [doWrite_emb]; exact this
  | toVecOk t ht hh hp h1 =>
    show Promo.Step _ n _ { (doWrite (setTh (rmw s t o.toVecCasOk (fun _ => 0)).1 t _) t n false).emb with
      ctrlFreed := true, exclusiveCount := _ }
    rw [doWrite_emb, setTh_emb _ t _ (fun T => { T with handles := T.handles - 1, exclusive := true }) rfl,
      rmw_emb _ _ (htc t ht (.inl hh))]
    exact .toVecOk _ t ht hh (congrArg Pc.emb hp) h1
  | toVecFail t k s1 v ht hh hp hl hv =>
    rw [setTh_emb _ t _ (fun T => { T with pc := .failedToVec }) rfl, doRead_emb]
    exact .toVecFail _ t k _ v ht hh (congrArg Pc.emb hp) (load_emb _ (htc t ht (.inl hh)) hl) hv
  | toVecFailDrop t ht hp =>
    have hp' := congrArg Pc.emb hp
    exact sub_emb o.dropSub (htc t ht (.inl (h.failed_h t ht hp'))) ▸ .toVecFailDrop _ t ht hp'
  | uniqueOk t k s1 v ht hh hp hl hv =>
    show Promo.Step _ n _ (setTh { doWrite s1 t n false with exclusiveCount := _ } t _).emb
    rw [setTh_emb _ t _ (fun T => { T with exclusive := true }) rfl]
    show Promo.Step _ n _ (Promo.setTh { (doWrite s1 t n false).emb with exclusiveCount := _ } t _)
    rw [doWrite_emb]
    exact .uniqueOk _ t k _ v ht hh (congrArg Pc.emb hp) (load_emb _ (htc t ht (.inl hh)) hl) hv

theorem Sufficient.emb {o : Ords} (hs : Sufficient o = true) : Promo.Sufficient o.emb = true := by
  show (Sufficient o && Ord.isAcq .acquire && Ord.isRel .release && Ord.isAcq .acquire) = true
  rw [hs]; rfl

theorem inv_init_emb {n} (hn : 0 < n) : Promo.Inv n init.emb := by
  have hnc : ∀ v, ¬ Promo.canUseRoot init.emb v := fun v hc => Bool.noConfusion hc.1
  have hh0 : ∀ v, 0 < (init.th v).handles → v = 0 := fun v hv => by
    by_cases e : v = 0
    · exact e
    · simp [init, e] at hv
  refine
    { basic :=
        { owner_lt := hn
          borrow_ok := fun _ _ => nofun
          pc_root := fun _ _ hp => hp.elim nofun nofun
          seen_data := fun _ _ _ => nofun
          wit := fun _ => nofun
          prom0 := nofun
          prom1 := Nat.le_refl 1 }
      un := nofun
      pr := fun _ => by simp [St.emb, init]
      dataView := fun v hv => ⟨0, 0, rfl, Nat.zero_le _⟩
      seen_le := fun u _ => Nat.zero_le _
      count := fun _ => by
        show 1 = Promo.rootCnt init.emb + sumTo (fun u => (init.th u).handles) n
        rw [sumTo_split _ hn, sumTo_zero_fun n _ (fun u _ => by by_cases e : u = 0 <;> simp [e, init])]
        rfl
      hs_seen := fun _ _ _ => rfl
      ctrlOrd := fun t _ _ w e hi => by cases hi; exact Nat.zero_le _
      failed_h := fun _ _ => nofun
      dying := fun _ _ hd => hd.elim nofun nofun
      ctrl0 := nofun
      freed_cases := nofun
      safe := ⟨rfl, rfl, rfl, rfl⟩
      noStale := fun t _ _ k m _ hk => by simp [St.emb, init] at hk
      rootNoStale := nofun
      covR := fun _ u _ => Or.inl (Nat.zero_le _)
      covW := fun v _ hhv w e hl => by
        have hv0 := hh0 v (hhv.elim id fun hc => (hnc v hc).elim)
        subst hv0
        cases (hl : some (0, 1) = some (w, e))
        simp [St.emb, init, Thread.emb, tick]
      covW0 := fun _ _ h0 => by simp [St.emb, init, Promo.latest] at h0
      loaded := fun _ _ => nofun
      droppedSeen := fun _ _ => nofun }

theorem reach_inv {o : Ords} {n s} (hs : Sufficient o = true) (hn : 0 < n) (hr : Reach o n s) :
    Promo.Inv n s.emb := by
  induction hr with
  | init => exact inv_init_emb hn
  | step _ hst ih => exact Promo.inv_step (Sufficient.emb hs) ih (Step.emb ih hst)

end BytesVerif.Conc
