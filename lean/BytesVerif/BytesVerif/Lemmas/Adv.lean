/-
Toolkit for C17 (Props/C17.lean, Props/C17Gen.lean) over M6 (Model/Adv.lean): the `Res` monad laws needed to
step through `do` blocks, a compositional "never `ub`" predicate `Safe` (definitionally the `NoUB` of
Props/C17.lean) with its rules for `>>=` and `if`, and what the primitives guarantee.
-/
import BytesVerif.Model.Adv
namespace BytesVerif.Adv

variable {α β : Type}

@[simp] theorem bind_ok (a : α) (f : α → Res β) : (Res.ok a >>= f) = f a := rfl
@[simp] theorem bind_panic (f : α → Res β) : ((Res.panic : Res α) >>= f) = .panic := rfl
@[simp] theorem bind_ub (w : String) (f : α → Res β) : ((Res.ub w : Res α) >>= f) = .ub w := rfl
@[simp] theorem bind_hang (f : α → Res β) : ((Res.hang : Res α) >>= f) = .hang := rfl
@[simp] theorem pure_eq (a : α) : (pure a : Res α) = .ok a := rfl

theorem bind_eq_ok {r : Res α} {f : α → Res β} {c : β} (h : (r >>= f) = .ok c) :
    ∃ a, r = .ok a ∧ f a = .ok c := by
  cases r with
  | ok a => exact ⟨a, rfl, by simpa using h⟩
  | panic => simp at h
  | ub w => simp at h
  | hang => simp at h

def Safe (r : Res α) : Prop := ∀ w, r ≠ .ub w

@[simp] theorem safe_ok (a : α) : Safe (Res.ok a) := by intro w h; cases h
@[simp] theorem safe_panic : Safe (Res.panic : Res α) := by intro w h; cases h
@[simp] theorem safe_hang : Safe (Res.hang : Res α) := by intro w h; cases h
@[simp] theorem not_safe_ub (w : String) : ¬ Safe (Res.ub w : Res α) := fun h => h w rfl

theorem safe_bind_iff {r : Res α} {f : α → Res β} :
    Safe (r >>= f) ↔ Safe r ∧ ∀ a, r = .ok a → Safe (f a) := by
  cases r <;> simp

theorem Safe.bind {r : Res α} {f : α → Res β} (hr : Safe r) (hf : ∀ a, r = .ok a → Safe (f a)) :
    Safe (r >>= f) := safe_bind_iff.2 ⟨hr, hf⟩

theorem Safe.ite {c : Prop} [Decidable c] {x y : Res α} (hx : c → Safe x) (hy : ¬ c → Safe y) :
    Safe (if c then x else y) := by
  split
  · exact hx ‹_›
  · exact hy ‹_›

theorem remaining_safe (b : AdvBuf) : Safe (remaining b) := by
  unfold remaining; split <;> simp

theorem chunk_safe (b : AdvBuf) : Safe (chunk b) := by
  unfold chunk; split <;> simp

theorem advance_safe (b : AdvBuf) (n : Nat) : Safe (advance b n) := by
  unfold advance; split <;> simp

theorem sliceTo_safe (s : Bs) (n : Nat) : Safe (sliceTo s n) := by
  unfold sliceTo; split <;> simp

theorem sliceTo_length {s p : Bs} {n : Nat} (h : sliceTo s n = .ok p) : p.length = n := by
  unfold sliceTo at h
  split at h
  · cases h; simp [List.length_take]; omega
  · cases h

theorem unsafeRead_safe_of_le {s : Bs} {n : Nat} (h : n ≤ s.length) : Safe (unsafeRead s n) := by
  unfold unsafeRead; simp [h]

theorem unsafeRead_length {s p : Bs} {n : Nat} (h : unsafeRead s n = .ok p) : p.length = n := by
  unfold unsafeRead at h
  split at h
  · cases h; simp [List.length_take]; omega
  · cases h

theorem unsafeWrite_safe_of_le {room : Nat} {s : Bs} (h : s.length ≤ room) : Safe (unsafeWrite room s) := by
  unfold unsafeWrite; simp [h]

theorem takeRemaining_safe (b : AdvBuf) (limit : Nat) : Safe (takeRemaining b limit) := by
  unfold takeRemaining
  exact Safe.bind (remaining_safe b) fun _ _ => safe_ok _

theorem takeChunk_safe (b : AdvBuf) (limit : Nat) : Safe (takeChunk b limit) := by
  unfold takeChunk
  exact Safe.bind (chunk_safe b) fun _ _ => sliceTo_safe _ _

theorem takeChunk_length {b : AdvBuf} {limit : Nat} {s : Bs} (h : takeChunk b limit = .ok s) : s.length ≤ limit := by
  unfold takeChunk at h
  obtain ⟨c, _, h⟩ := bind_eq_ok h
  have := sliceTo_length h
  omega

theorem takeAdvance_safe (b : AdvBuf) (limit cnt : Nat) : Safe (takeAdvance b limit cnt) := by
  unfold takeAdvance
  exact Safe.ite (fun _ => safe_panic) fun _ => Safe.bind (advance_safe _ _) fun _ _ => safe_ok _

theorem takeAdvance_eq_ok {b b' : AdvBuf} {limit cnt limit' : Nat} (h : takeAdvance b limit cnt = .ok (b', limit')) :
    cnt ≤ limit ∧ limit' = limit - cnt := by
  unfold takeAdvance at h
  split at h
  · cases h
  · obtain ⟨b1, _, h⟩ := bind_eq_ok h
    cases h
    exact ⟨by omega, rfl⟩

theorem reserveCap_ge (len cap n : Nat) : n ≤ reserveCap len cap n - len := by
  unfold reserveCap; split <;> omega

theorem add_le_reserveCap (len cap n : Nat) (h : len ≤ cap) : len + n ≤ reserveCap len cap n := by
  unfold reserveCap; split <;> omega

-- so that closed test vectors can be evaluated by the kernel (`decide +kernel`)
deriving instance DecidableEq for Res

end BytesVerif.Adv
