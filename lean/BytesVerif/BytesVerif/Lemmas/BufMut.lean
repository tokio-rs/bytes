/-
Facts about the write-side model (M2) and the putter model (M3).  `roomOpt` is the room of a
target in write order and `remaining_mut()` is related to it once (`remainingMut_le_room`,
`le_remainingMut_of_unbounded`, `min_room_le_remainingMut`); `chunk_write` is one round of
chunk_mut / write / advance_mut; the default loops of `put_slice` and `put` run such rounds under
the invariant `Inv` (`putLoop_wr`, `putBufLoop_run`), and what a sequence of rounds does to the
target is proved once, for the relation `Wr`.  Two side conditions run through every statement:
`ordM` (the state respects write order, so that `written` of a chain is the bytes in write order)
and `noHardLimit t k` (no growable leaf is within `k` bytes of `isize::MAX`).
-/
import BytesVerif.Model.BufMut
import BytesVerif.Model.PutCodec
import BytesVerif.Lemmas.Codec
namespace BytesVerif.BufMut
open BytesVerif.Buf

theorem isizeMax_eq : isizeMax = 9223372036854775807 := rfl

/-- Write order is respected: in every `chain a b` of the tree, `b` is untouched as long as `a`
has room.  This holds for fresh targets and is preserved by every write through the tree; it is
what makes `written (.chain a b) = written a ++ written b` the sequence *in write order*. -/
def ordM : MutT → Prop
  | .chain a b => ordM a ∧ ordM b ∧ (written b = [] ∨ remainingMut a = 0)
  | .limit i _ => ordM i
  | .refMut i => ordM i
  | .box i => ordM i
  | .grow _ _ _ _ => True
  | .fixed _ _ _ => True

theorem le_remainingMut_grow (k : Grow) (pre w : Bs) (spare : Nat) :
    isizeMax - growLen pre w ≤ remainingMut (.grow k pre w spare) := by
  have := W_eq; have := isizeMax_eq
  cases k <;> simp only [remainingMut] <;> omega

theorem remainingMut_lt (t : MutT) (h : wfM t) : remainingMut t < W := by
  induction t with
  | grow k pre w spare =>
    have := W_eq; have := isizeMax_eq
    cases k <;> simp only [remainingMut] <;> omega
  | fixed k w room | limit i n ih => simp only [remainingMut, wfM] at *; omega
  | chain a b iha ihb => exact satAdd_lt _ _
  | refMut i ih | box i ih => exact ih h

theorem noHardLimit_mono {t : MutT} {m n : Nat} (hmn : m ≤ n) (h : noHardLimit t n) :
    noHardLimit t m := by
  induction t with
  | grow k pre w spare => simp only [noHardLimit] at *; omega
  | fixed k w room => trivial
  | chain a b iha ihb => exact ⟨iha h.1, ihb h.2⟩
  | limit i n ih | refMut i ih | box i ih => exact ih h

theorem roomOpt_chain_some {a b : MutT} {r : Nat} (h : roomOpt (.chain a b) = some r) :
    ∃ ra rb, roomOpt a = some ra ∧ roomOpt b = some rb ∧ r = ra + rb := by
  simp only [roomOpt] at h
  cases hra : roomOpt a with
  | none => rw [hra] at h; cases h
  | some ra =>
    cases hrb : roomOpt b with
    | none => rw [hra, hrb] at h; cases h
    | some rb => rw [hra, hrb] at h; cases h; exact ⟨ra, rb, rfl, rfl, rfl⟩

theorem roomOpt_chain_none {a b : MutT} (h : roomOpt (.chain a b) = none) :
    roomOpt a = none ∨ roomOpt b = none := by
  simp only [roomOpt] at h
  cases hra : roomOpt a with
  | none => exact .inl rfl
  | some ra =>
    cases hrb : roomOpt b with
    | none => exact .inr rfl
    | some rb => rw [hra, hrb] at h; cases h

theorem roomOpt_limit (i : MutT) (n : Nat) :
    roomOpt (.limit i n) = some ((roomOpt i).elim n (min · n)) := by
  simp only [roomOpt]; cases roomOpt i <;> rfl

theorem roomOpt_chain_sub_left {a a2 : MutT} (b : MutT) {l : Nat}
    (h : roomOpt a2 = (roomOpt a).map (· - l)) (hl : ∀ r, roomOpt a = some r → l ≤ r) :
    roomOpt (.chain a2 b) = (roomOpt (.chain a b)).map (· - l) := by
  simp only [roomOpt, h]
  cases hra : roomOpt a with
  | none => rfl
  | some ra =>
    cases roomOpt b with
    | none => rfl
    | some rb => exact congrArg some (Nat.sub_add_comm (hl ra hra)).symm

theorem roomOpt_chain_sub_right {a b b2 : MutT} {l : Nat}
    (h : roomOpt b2 = (roomOpt b).map (· - l)) (h0 : roomOpt a = some 0) :
    roomOpt (.chain a b2) = (roomOpt (.chain a b)).map (· - l) := by
  simp only [roomOpt, h, h0]
  cases roomOpt b with
  | none => rfl
  | some rb => simp only [Option.map_some, Nat.zero_add]

theorem roomOpt_limit_sub {i i2 : MutT} {n l : Nat} (h : roomOpt i2 = (roomOpt i).map (· - l)) :
    roomOpt (.limit i2 (n - l)) = (roomOpt (.limit i n)).map (· - l) := by
  simp only [roomOpt, h]
  cases roomOpt i with
  | none => rfl
  | some r => exact congrArg some (Nat.sub_min_sub_right r n l)

theorem remainingMut_le_room {t : MutT} {r : Nat} (hr : roomOpt t = some r) : remainingMut t ≤ r := by
  induction t generalizing r with
  | grow g pre w spare => cases hr
  | fixed g w room => cases hr; exact Nat.le_refl _
  | chain a b iha ihb =>
    obtain ⟨ra, rb, hra, hrb, rfl⟩ := roomOpt_chain_some hr
    exact Nat.le_trans (satAdd_le _ _) (Nat.add_le_add (iha hra) (ihb hrb))
  | limit i n ih =>
    rw [roomOpt_limit] at hr; cases hr
    simp only [remainingMut]
    cases hri : roomOpt i with
    | none => exact Nat.min_le_right _ _
    | some ri => have := ih hri; simp only [Option.elim]; omega
  | refMut i ih | box i ih => exact ih hr

theorem le_remainingMut_of_unbounded {t : MutT} {k : Nat} (h : wfM t) (hl : noHardLimit t k)
    (hr : roomOpt t = none) : k ≤ remainingMut t := by
  induction t with
  | grow g pre w spare =>
    have := le_remainingMut_grow g pre w spare
    simp only [noHardLimit] at hl; omega
  | fixed g w room => cases hr
  | chain a b iha ihb =>
    rcases roomOpt_chain_none hr with hra | hrb
    · have := iha h.1 hl.1 hra
      exact le_satAdd (Nat.lt_of_le_of_lt this (remainingMut_lt a h.1))
        (Nat.le_trans this (Nat.le_add_right _ _))
    · have := ihb h.2 hl.2 hrb
      exact le_satAdd (Nat.lt_of_le_of_lt this (remainingMut_lt b h.2))
        (Nat.le_trans this (Nat.le_add_left _ _))
  | limit i n ih => rw [roomOpt_limit] at hr; cases hr
  | refMut i ih | box i ih => exact ih h hl hr

theorem min_room_le_remainingMut {t : MutT} {c r : Nat} (hc : c < W) (h : wfM t)
    (hl : noHardLimit t c) (hr : roomOpt t = some r) : min r c ≤ remainingMut t := by
  induction t generalizing r with
  | grow g pre w spare => cases hr
  | fixed g w room => cases hr; exact Nat.min_le_left _ _
  | chain a b iha ihb =>
    obtain ⟨ra, rb, hra, hrb, rfl⟩ := roomOpt_chain_some hr
    have := iha h.1 hl.1 hra; have := ihb h.2 hl.2 hrb
    exact le_satAdd (Nat.lt_of_le_of_lt (Nat.min_le_right _ _) hc) (by omega)
  | limit i n ih =>
    rw [roomOpt_limit] at hr; cases hr
    simp only [remainingMut]
    cases hri : roomOpt i with
    | none => have := le_remainingMut_of_unbounded h.1 hl hri; simp only [Option.elim]; omega
    | some ri => have := ih h.1 hl hri; simp only [Option.elim]; omega
  | refMut i ih | box i ih => exact ih h hl hr

theorem chunkMut_chain (e : Env) (a b : MutT) : chunkMut e (.chain a b) =
    if remainingMut a > 0 then ((chunkMut e a).1, .chain (chunkMut e a).2 b)
    else ((chunkMut e b).1, .chain a (chunkMut e b).2) := by
  simp only [chunkMut]

theorem chunkMut_limit (e : Env) (i : MutT) (n : Nat) : chunkMut e (.limit i n) =
    (min (chunkMut e i).1 n, .limit (chunkMut e i).2 n) := by
  simp only [chunkMut]

theorem chunkMut_refMut (e : Env) (i : MutT) : chunkMut e (.refMut i) =
    ((chunkMut e i).1, .refMut (chunkMut e i).2) := by
  simp only [chunkMut]

theorem chunkMut_box (e : Env) (i : MutT) : chunkMut e (.box i) =
    ((chunkMut e i).1, .box (chunkMut e i).2) := by
  simp only [chunkMut]

theorem chunkMut_grow (e : Env) (k pre w spare) : chunkMut e (.grow k pre w spare) =
    ((if spare = 0 then e.reserve64 (growLen pre w) else spare),
      .grow k pre w (if spare = 0 then e.reserve64 (growLen pre w) else spare)) := by
  simp only [chunkMut]

theorem chunkMut_fixed (e : Env) (k w room) : chunkMut e (.fixed k w room) = (room, .fixed k w room) := rfl

theorem chunkMut_keeps (e : Env) (t : MutT) :
    remainingMut (chunkMut e t).2 = remainingMut t ∧ written (chunkMut e t).2 = written t ∧
      roomOpt (chunkMut e t).2 = roomOpt t ∧ ∀ n, noHardLimit (chunkMut e t).2 n ↔ noHardLimit t n := by
  induction t with
  | grow k pre w spare => cases k <;> exact ⟨rfl, rfl, rfl, fun _ => Iff.rfl⟩
  | fixed k w room => exact ⟨rfl, rfl, rfl, fun _ => Iff.rfl⟩
  | chain a b iha ihb =>
    obtain ⟨a1, a2, a3, a4⟩ := iha
    obtain ⟨b1, b2, b3, b4⟩ := ihb
    rw [chunkMut_chain]
    split <;> simp only [remainingMut, written, roomOpt, noHardLimit, a1, a2, a3, a4, b1, b2, b3, b4,
      implies_true, and_self]
  | limit i n ih =>
    obtain ⟨i1, i2, i3, i4⟩ := ih
    simp only [chunkMut_limit, remainingMut, written, roomOpt, noHardLimit, i1, i2, i3, i4,
      implies_true, and_self]
  | refMut i ih | box i ih => exact ih

theorem remainingMut_chunkMut (e : Env) (t : MutT) : remainingMut (chunkMut e t).2 = remainingMut t :=
  (chunkMut_keeps e t).1

theorem noHardLimit_chunkMut (e : Env) (t : MutT) (n : Nat) :
    noHardLimit (chunkMut e t).2 n ↔ noHardLimit t n :=
  (chunkMut_keeps e t).2.2.2 n

theorem wfM_chunkMut (e : Env) (he : e.ok) (t : MutT) (h : wfM t) (hl : noHardLimit t 64) :
    wfM (chunkMut e t).2 := by
  induction t with
  | grow k pre w spare =>
    simp only [chunkMut_grow, wfM, noHardLimit] at *
    have := he.1 (growLen pre w) hl
    split <;> omega
  | fixed k w room => exact h
  | chain a b iha ihb =>
    rw [chunkMut_chain]; split
    · exact ⟨iha h.1 hl.1, h.2⟩
    · exact ⟨h.1, ihb h.2 hl.2⟩
  | limit i n ih => exact ⟨ih h.1 hl, h.2⟩
  | refMut i ih | box i ih => exact ih h hl

theorem chunkMut_len (e : Env) (he : e.ok) (t : MutT) (h : wfM t) (hl : noHardLimit t 64) :
    ((chunkMut e t).1 = 0 ↔ remainingMut t = 0) ∧ (chunkMut e t).1 ≤ remainingMut t := by
  induction t with
  | grow k pre w spare =>
    simp only [wfM, noHardLimit] at h hl
    have := he.1 (growLen pre w) hl
    have := le_remainingMut_grow k pre w spare
    rw [chunkMut_grow]; split <;> omega
  | fixed k w room => exact ⟨Iff.rfl, Nat.le_refl _⟩
  | chain a b iha ihb =>
    have la := remainingMut_lt a h.1
    have lb := remainingMut_lt b h.2
    rw [chunkMut_chain]; simp only [remainingMut]
    split
    · have := iha h.1 hl.1
      have : remainingMut a ≤ satAdd (remainingMut a) (remainingMut b) :=
        le_satAdd la (Nat.le_add_right _ _)
      omega
    · rw [show remainingMut a = 0 by omega, satAdd_eq (by omega), Nat.zero_add]
      exact ihb h.2 hl.2
  | limit i n ih =>
    obtain ⟨h1, h2⟩ := ih h.1 hl
    rw [chunkMut_limit]
    exact ⟨by simp only [remainingMut, Nat.min_eq_zero_iff, h1],
      Nat.le_min.mpr ⟨Nat.le_trans (Nat.min_le_left _ _) h2, Nat.min_le_right _ _⟩⟩
  | refMut i ih | box i ih => exact ih h hl

theorem growLen_append (pre w bs : Bs) : growLen pre (w ++ bs) = growLen pre w + bs.length := by
  simp only [growLen, List.length_append]; omega

theorem writeAdvance_chain_left {a : MutT} (b : MutT) {bs : Bs} (h0 : remainingMut a ≠ 0)
    (hb : bs.length ≤ remainingMut a) :
    writeAdvance (.chain a b) bs = (writeAdvance a bs).map (fun a' => .chain a' b) := by
  simp only [writeAdvance, ne_eq, h0, not_false_eq_true, ↓reduceIte, ge_iff_le, hb]

theorem writeAdvance_chain_right {a : MutT} (b : MutT) (bs : Bs) (h0 : remainingMut a = 0) :
    writeAdvance (.chain a b) bs = (writeAdvance b bs).map (fun b' => .chain a b') := by
  simp only [writeAdvance, ne_eq, h0, not_true_eq_false, ↓reduceIte]

theorem writeAdvance_limit (i : MutT) (lim : Nat) (bs : Bs) :
    writeAdvance (.limit i lim) bs =
      if bs.length ≤ lim then (writeAdvance i bs).map (fun i' => .limit i' (lim - bs.length)) else .panic := by
  simp only [writeAdvance]

/-- Which half of a `chain` a round goes to: `chunk_mut` and `advance_mut` of `Chain` delegate to
`a` while it has room, else to `b`. -/
theorem chain_round (e : Env) (he : e.ok) (a b : MutT) (bs : Bs) (h : wfM a) (hl : noHardLimit a 64)
    (hb : bs.length ≤ (chunkMut e (.chain a b)).1) :
    (remainingMut a ≠ 0 ∧ bs.length ≤ (chunkMut e a).1 ∧ bs.length ≤ remainingMut a ∧
      writeAdvance (chunkMut e (.chain a b)).2 bs
        = (writeAdvance (chunkMut e a).2 bs).map (fun a' => .chain a' b)) ∨
    (remainingMut a = 0 ∧ bs.length ≤ (chunkMut e b).1 ∧ writeAdvance (chunkMut e (.chain a b)).2 bs
        = (writeAdvance (chunkMut e b).2 bs).map (fun b' => .chain a b')) := by
  rw [chunkMut_chain] at hb ⊢
  split at hb
  · next hpos =>
    have hne : remainingMut a ≠ 0 := Nat.ne_of_gt hpos
    have hle : bs.length ≤ remainingMut a := Nat.le_trans hb (chunkMut_len e he a h hl).2
    refine .inl ⟨hne, hb, hle, ?_⟩
    rw [if_pos hpos, writeAdvance_chain_left b (by rwa [remainingMut_chunkMut])
      (by rwa [remainingMut_chunkMut])]
  · next hpos =>
    have h0 : remainingMut a = 0 := Nat.eq_zero_of_not_pos hpos
    exact .inr ⟨h0, hb, by rw [if_neg hpos, writeAdvance_chain_right _ _ h0]⟩

theorem roomOpt_of_rem_zero {t : MutT} (h : wfM t) (hl : noHardLimit t 64) (h0 : remainingMut t = 0) :
    roomOpt t = some 0 := by
  cases hr : roomOpt t with
  | none => have := le_remainingMut_of_unbounded h hl hr; omega
  | some r =>
    have := min_room_le_remainingMut (by rw [W_eq]; decide) h hl hr
    congr; omega

/-- One iteration of the crate's write loops: fill (part of) the current chunk and advance. -/
theorem chunk_write (e : Env) (he : e.ok) (t : MutT) (bs : Bs) (h : wfM t) (hl : noHardLimit t 64)
    (hb : bs.length ≤ (chunkMut e t).1) :
    ∃ t2, writeAdvance (chunkMut e t).2 bs = .ok t2 ∧ wfM t2 ∧
      roomOpt t2 = (roomOpt t).map (· - bs.length) ∧
      (∀ m, noHardLimit t (m + bs.length) → noHardLimit t2 m) ∧
      (ordM t → written t2 = written t ++ bs ∧ ordM t2) := by
  induction t with
  | grow k pre w spare =>
    rw [chunkMut_grow] at hb ⊢
    simp only [wfM, noHardLimit] at h hl
    have := he.1 (growLen pre w) hl
    simp only [writeAdvance, Nat.not_lt.mpr hb, ↓reduceIte]
    refine ⟨_, rfl, ?_, rfl, ?_, fun _ => ⟨rfl, trivial⟩⟩
    · simp only [wfM, growLen_append]; split at hb <;> simp only [*, ↓reduceIte] <;> omega
    · intro m hm; simp only [noHardLimit, growLen_append] at hm ⊢; omega
  | fixed k w room =>
    rw [chunkMut_fixed] at hb ⊢
    simp only [writeAdvance, Nat.not_lt.mpr hb, ↓reduceIte]
    refine ⟨_, rfl, ?_, rfl, fun _ _ => trivial, fun _ => ⟨rfl, trivial⟩⟩
    simp only [wfM, List.length_append] at h ⊢; omega
  | chain a b iha ihb =>
    rcases chain_round e he a b bs h.1 hl.1 hb with ⟨hne, hba, hra, eq⟩ | ⟨h0, hbb, eq⟩
    · obtain ⟨a2, w1, w3, w4, w5, w6⟩ := iha h.1 hl.1 hba
      rw [eq, w1]
      refine ⟨_, rfl, ⟨w3, h.2⟩, ?_, ?_, ?_⟩
      · exact roomOpt_chain_sub_left b w4 fun r hr => Nat.le_trans hra (remainingMut_le_room hr)
      · intro m hm
        exact ⟨w5 m hm.1, noHardLimit_mono (Nat.le_add_right _ _) hm.2⟩
      · intro ⟨hoa, hob, hor⟩
        have hwb : written b = [] := hor.resolve_right hne
        obtain ⟨w2, w7⟩ := w6 hoa
        exact ⟨by simp only [written, w2, hwb, List.append_nil], w7, hob, Or.inl hwb⟩
    · obtain ⟨b2, w1, w3, w4, w5, w6⟩ := ihb h.2 hl.2 hbb
      rw [eq, w1]
      refine ⟨_, rfl, ⟨h.1, w3⟩, ?_, ?_, ?_⟩
      · exact roomOpt_chain_sub_right w4 (roomOpt_of_rem_zero h.1 hl.1 h0)
      · intro m hm
        exact ⟨noHardLimit_mono (Nat.le_add_right _ _) hm.1, w5 m hm.2⟩
      · intro ho
        obtain ⟨w2, w7⟩ := w6 ho.2.1
        exact ⟨by simp only [written, w2, List.append_assoc], ho.1, w7, Or.inr h0⟩
  | limit i n ih =>
    rw [chunkMut_limit] at hb ⊢
    obtain ⟨i2, w1, w3, w4, w5, w6⟩ := ih h.1 hl (Nat.le_trans hb (Nat.min_le_left _ _))
    have hbn : bs.length ≤ n := Nat.le_trans hb (Nat.min_le_right _ _)
    rw [writeAdvance_limit, if_pos hbn, w1]
    exact ⟨_, rfl, ⟨w3, Nat.lt_of_le_of_lt (Nat.sub_le _ _) h.2⟩, roomOpt_limit_sub w4, w5, w6⟩
  | refMut i ih | box i ih =>
    simp only [chunkMut_refMut, chunkMut_box] at hb ⊢
    obtain ⟨i2, w1, w3, w4, w5, w6⟩ := ih h hl hb
    simp only [writeAdvance, w1]
    exact ⟨_, rfl, w3, w4, w5, w6⟩

/-- Invariant of the write loops: `n` more bytes are to be written into `t`.  The `+ 64` is the
`reserve(64)` that `chunk_mut` of a full `Vec<u8>` / `BytesMut` performs (buf_mut.rs, bytes_mut.rs):
a round may ask for 64 bytes beyond what it writes, and `Env.ok` promises that much only below
`isize::MAX`. -/
structure Inv (t : MutT) (n : Nat) : Prop where
  wf : wfM t
  fit : fits t n
  lim : noHardLimit t (n + 64)

theorem fits_mono {t : MutT} {m n : Nat} (hmn : m ≤ n) (h : fits t n) : fits t m := by
  unfold fits at h ⊢
  cases hr : roomOpt t with
  | none => trivial
  | some r => rw [hr] at h; exact Nat.le_trans hmn h

theorem fits_sub {t t2 : MutT} {n c : Nat} (h : fits t n)
    (hr : roomOpt t2 = (roomOpt t).map (· - c)) : fits t2 (n - c) := by
  unfold fits at h ⊢
  rw [hr]
  cases hr : roomOpt t with
  | none => trivial
  | some r => rw [hr] at h; exact Nat.sub_le_sub_right h c

/-- a write no longer than `remaining_mut()` fits -/
theorem fits_of_le {t : MutT} {n : Nat} (h : n ≤ remainingMut t) : fits t n := by
  unfold fits
  cases hro : roomOpt t with
  | none => trivial
  | some r => exact Nat.le_trans h (remainingMut_le_room hro)

theorem Inv.rem_ge {t : MutT} {n : Nat} (h : Inv t n) (hn : n < W) : n ≤ remainingMut t := by
  cases hr : roomOpt t with
  | none => exact Nat.le_trans (Nat.le_add_right _ _) (le_remainingMut_of_unbounded h.wf h.lim hr)
  | some r =>
    have hf := h.fit
    rw [fits, hr] at hf
    have := min_room_le_remainingMut hn h.wf (noHardLimit_mono (Nat.le_add_right _ _) h.lim) hr
    omega

theorem Inv.lim64 {t : MutT} {n : Nat} (h : Inv t n) : noHardLimit t 64 :=
  noHardLimit_mono (Nat.le_add_left _ _) h.lim

theorem Inv.mono {t : MutT} {m n : Nat} (hmn : m ≤ n) (h : Inv t n) : Inv t m :=
  ⟨h.wf, fits_mono hmn h.fit, noHardLimit_mono (Nat.add_le_add_right hmn _) h.lim⟩

theorem Inv.sub {t t2 : MutT} {n c : Nat} (hi : Inv t n) (hc : c ≤ n) (hw : wfM t2)
    (hr : roomOpt t2 = (roomOpt t).map (· - c)) (hl : ∀ m, noHardLimit t (m + c) → noHardLimit t2 m) :
    Inv t2 (n - c) :=
  ⟨hw, fits_sub hi.fit hr, hl _ (by rw [Nat.add_right_comm, Nat.sub_add_cancel hc]; exact hi.lim)⟩

/-- One loop iteration with `s` the bytes on offer (`s.length ≤ N`, `N` the bytes still to go). -/
theorem loop_step (e : Env) (he : e.ok) (t : MutT) (s : Bs) (N : Nat) (hi : Inv t N) (hN : N < W)
    (hs : 0 < s.length) (hsN : s.length ≤ N) :
    0 < min s.length (chunkMut e t).1 ∧
    ∃ t2, writeAdvance (chunkMut e t).2 (s.take (min s.length (chunkMut e t).1)) = .ok t2 ∧
      Inv t2 (N - min s.length (chunkMut e t).1) := by
  have hlen := chunkMut_len e he t hi.wf hi.lim64
  have hrem := hi.rem_ge hN
  have hpos : 0 < min s.length (chunkMut e t).1 := by omega
  refine ⟨hpos, ?_⟩
  have hcN : min s.length (chunkMut e t).1 ≤ N := Nat.le_trans (Nat.min_le_left _ _) hsN
  generalize hc : min s.length (chunkMut e t).1 = cnt at hpos hcN ⊢
  have htl : (s.take cnt).length = cnt := by rw [List.length_take]; omega
  obtain ⟨t2, w1, w3, w4, w5, -⟩ := chunk_write e he t (s.take cnt) hi.wf hi.lim64 (by omega)
  rw [htl] at w4 w5
  exact ⟨t2, w1, hi.sub hcN w3 w4 w5⟩

theorem putLoop_succ (e : Env) (fuel : Nat) (t : MutT) (src : Bs) (h : src ≠ []) :
    putLoop e (fuel + 1) t src =
      (writeAdvance (chunkMut e t).2 (src.take (min src.length (chunkMut e t).1))).bind fun t2 =>
        putLoop e fuel t2 (src.drop (min src.length (chunkMut e t).1)) := by
  simp only [putLoop, h, ↓reduceIte]

theorem putLoop_nil (e : Env) (fuel : Nat) (t : MutT) : putLoop e fuel t [] = .ok t := by
  cases fuel <;> simp only [putLoop, ↓reduceIte]

/-- `chain_round` with `chunk_write` applied to the half the round goes to. -/
theorem chain_step (e : Env) (he : e.ok) (a b : MutT) (bs : Bs) (h : wfM (.chain a b))
    (hl : noHardLimit (.chain a b) 64) (hb : bs.length ≤ (chunkMut e (.chain a b)).1) :
    (∃ a2, writeAdvance (chunkMut e (.chain a b)).2 bs = .ok (.chain a2 b) ∧
        roomOpt a2 = (roomOpt a).map (· - bs.length) ∧ (∀ r, roomOpt a = some r → bs.length ≤ r) ∧
        (ordM a → written a2 = written a ++ bs ∧ ordM a2)) ∨
    (roomOpt a = some 0 ∧ ∃ b2, writeAdvance (chunkMut e (.chain a b)).2 bs = .ok (.chain a b2) ∧
        (ordM b → written b2 = written b ++ bs ∧ ordM b2)) := by
  rcases chain_round e he a b bs h.1 hl.1 hb with ⟨hne, hba, hra, eq⟩ | ⟨h0, hbb, eq⟩
  · obtain ⟨a2, w1, -, w4, -, w6⟩ := chunk_write e he a bs h.1 hl.1 hba
    exact .inl ⟨a2, by rw [eq, w1]; rfl, w4,
      fun r hr => Nat.le_trans hra (remainingMut_le_room hr), w6⟩
  · obtain ⟨b2, w1, -, -, -, w6⟩ := chunk_write e he b bs h.2 hl.2 hbb
    exact .inr ⟨roomOpt_of_rem_zero h.1 hl.1 h0, b2, by rw [eq, w1]; rfl, w6⟩

/-- `t'` is reached from `t` by in-range (chunk_mut; write; advance_mut) rounds writing `bs` in
total (the write-side analogue of `Buf.Adv`). -/
inductive Wr (e : Env) : MutT → Bs → MutT → Prop where
  | refl (t : MutT) : Wr e t [] t
  | step {t t1 t' : MutT} {bs rest : Bs} : wfM t → noHardLimit t 64 → bs.length ≤ (chunkMut e t).1 →
      writeAdvance (chunkMut e t).2 bs = .ok t1 → Wr e t1 rest t' → Wr e t (bs ++ rest) t'

theorem Wr.cast {e : Env} {t t' : MutT} {bs cs : Bs} (h : Wr e t bs t') (hc : bs = cs) : Wr e t cs t' :=
  hc ▸ h

/-- What the rounds of `chunk_write` add up to. -/
theorem Wr.spec {e : Env} (he : e.ok) {t t' : MutT} {bs : Bs} (h : Wr e t bs t') :
    (wfM t → wfM t') ∧ roomOpt t' = (roomOpt t).map (· - bs.length) ∧
      (∀ m, noHardLimit t (m + bs.length) → noHardLimit t' m) ∧
      (ordM t → written t' = written t ++ bs ∧ ordM t') := by
  induction h with
  | refl t => exact ⟨id, by cases roomOpt t <;> rfl, fun m hm => hm, fun ho => ⟨by simp, ho⟩⟩
  | @step t t1 t' bs rest hw hl hb hwa _ ih =>
    obtain ⟨t2, w1, w3, w4, w5, w6⟩ := chunk_write e he t bs hw hl hb
    rw [hwa] at w1; cases w1
    obtain ⟨r1, r2, r3, r4⟩ := ih
    refine ⟨fun _ => r1 w3, ?_, fun m hm => r3 m (w5 _ ?_), fun ho => ?_⟩
    · rw [r2, w4]
      cases roomOpt t with
      | none => rfl
      | some r => exact congrArg some ((Nat.sub_sub ..).trans (congrArg _ List.length_append.symm))
    · rw [Nat.add_assoc, Nat.add_comm rest.length, ← List.length_append]; exact hm
    · obtain ⟨x1, x2⟩ := w6 ho
      obtain ⟨y1, y2⟩ := r4 x2
      exact ⟨by rw [y1, x1, List.append_assoc], y2⟩

theorem Wr.limit_shape {e : Env} {x t' : MutT} {bs : Bs} (h : Wr e x bs t') :
    ∀ i lim, x = .limit i lim → ∃ i', t' = .limit i' (lim - bs.length) := by
  induction h with
  | refl t => intro i lim hx; subst hx; exact ⟨i, by simp⟩
  | @step t t1 t' bs rest hw hl hb hwa _ ih =>
    intro i lim hx; subst hx
    rw [chunkMut_limit, writeAdvance_limit] at hwa
    split at hwa
    · obtain ⟨i2, -, rfl⟩ := Res.map_eq_ok hwa
      obtain ⟨i', hi'⟩ := ih i2 _ rfl
      exact ⟨i', by rw [hi', List.length_append, Nat.sub_sub]⟩
    · cases hwa

theorem Wr.chain_shape {e : Env} (he : e.ok) {x t' : MutT} {bs : Bs} (h : Wr e x bs t') :
    ∀ a b, x = .chain a b → ordM a → ∃ a' b', t' = .chain a' b' ∧
      (∀ ra, roomOpt a = some ra → written a' = written a ++ bs.take ra) ∧
      (roomOpt a = none → written a' = written a ++ bs) := by
  induction h with
  | refl t => intro a b hx _; subst hx; exact ⟨a, b, rfl, by simp, by simp⟩
  | @step t t1 t' bs rest hw hl hb hwa _ ih =>
    intro a b hx hoa; subst hx
    rcases chain_step e he a b bs hw hl hb with ⟨a2, s1, s2, s3, s4⟩ | ⟨s0, b2, s1, _⟩
    · rw [hwa] at s1; cases s1
      obtain ⟨x1, x2⟩ := s4 hoa
      obtain ⟨a', b', e1, r1, r2⟩ := ih a2 b rfl x2
      refine ⟨a', b', e1, ?_, ?_⟩
      · intro ra hra
        have hle := s3 ra hra
        rw [hra] at s2
        rw [r1 (ra - bs.length) s2, x1, List.append_assoc]
        congr 1
        rw [List.take_append, List.take_of_length_le hle]
      · intro hn
        rw [hn] at s2
        rw [r2 s2, x1, List.append_assoc]
    · rw [hwa] at s1; cases s1
      obtain ⟨a', b', e1, r1, _⟩ := ih a b2 rfl hoa
      refine ⟨a', b', e1, ?_, ?_⟩
      · intro ra hra
        rw [s0] at hra; cases hra
        rw [r1 0 s0]; simp
      · intro hn; rw [hn] at s0; cases s0

theorem Wr.chain_right {e : Env} (he : e.ok) {x t' : MutT} {bs : Bs} (h : Wr e x bs t') :
    ∀ a b ra, x = .chain a b → roomOpt a = some ra → ordM b →
      ∃ a' b', t' = .chain a' b' ∧ written b' = written b ++ bs.drop ra := by
  induction h with
  | refl t => intro a b ra hx _ _; subst hx; exact ⟨a, b, rfl, by simp⟩
  | @step t t1 t' bs rest hw hl hb hwa _ ih =>
    intro a b ra hx hra hob; subst hx
    rcases chain_step e he a b bs hw hl hb with ⟨a2, s1, s2, s3, -⟩ | ⟨s0, b2, s1, s4⟩
    · rw [hwa] at s1; cases s1
      rw [hra] at s2
      obtain ⟨a', b', e1, r⟩ := ih a2 b (ra - bs.length) rfl s2 hob
      refine ⟨a', b', e1, ?_⟩
      rw [r, List.drop_append, List.drop_eq_nil_of_le (s3 ra hra), List.nil_append]
    · rw [hwa] at s1; cases s1
      rw [hra] at s0; cases s0
      obtain ⟨x1, x2⟩ := s4 hob
      obtain ⟨a', b', e1, r⟩ := ih a b2 0 rfl hra x2
      exact ⟨a', b', e1, by rw [r, x1, List.append_assoc]; rfl⟩

theorem putLoop_wr (e : Env) (he : e.ok) (fuel : Nat) (t : MutT) (src : Bs) (hf : src.length ≤ fuel)
    (hi : Inv t src.length) (hw : src.length < W) :
    ∃ t', putLoop e fuel t src = .ok t' ∧ Wr e t src t' := by
  induction fuel generalizing t src with
  | zero =>
    have : src = [] := List.eq_nil_of_length_eq_zero (Nat.le_zero.1 hf)
    subst this
    exact ⟨t, putLoop_nil _ _ _, Wr.refl t⟩
  | succ fuel ih =>
    by_cases hsrc : src = []
    · subst hsrc; exact ⟨t, putLoop_nil _ _ _, Wr.refl t⟩
    · have hpos : 0 < src.length := List.length_pos_iff.mpr hsrc
      obtain ⟨hc, t2, w1, w2⟩ := loop_step e he t src src.length hi hw hpos (Nat.le_refl _)
      rw [putLoop_succ e fuel t src hsrc, w1, Res.bind_ok]
      have hcl : min src.length (chunkMut e t).1 ≤ src.length := Nat.min_le_left _ _
      have hcc : min src.length (chunkMut e t).1 ≤ (chunkMut e t).1 := Nat.min_le_right _ _
      generalize min src.length (chunkMut e t).1 = cnt at hc hcl hcc w1 w2 ⊢
      have hdl : (src.drop cnt).length = src.length - cnt := List.length_drop
      have htl : (src.take cnt).length = cnt := List.length_take.trans (Nat.min_eq_left hcl)
      have hlt : src.length - cnt < src.length := Nat.sub_lt hpos hc
      obtain ⟨t', r1, r2⟩ := ih t2 (src.drop cnt)
        (hdl ▸ Nat.le_of_lt_succ (Nat.lt_of_lt_of_le hlt hf)) (hdl ▸ w2) (hdl ▸ Nat.lt_trans hlt hw)
      exact ⟨t', r1, (Wr.step hi.wf hi.lim64 (htl.symm ▸ hcc) w1 r2).cast (List.take_append_drop _ _)⟩

theorem putSlice_chain (e : Env) (a b : MutT) (src : Bs) :
    putSlice e (.chain a b) src = putSliceDefault e (.chain a b) src := by
  simp only [putSlice]

theorem putSlice_limit (e : Env) (i : MutT) (n : Nat) (src : Bs) :
    putSlice e (.limit i n) src = putSliceDefault e (.limit i n) src := by
  simp only [putSlice]

theorem putSlice_ok_aux (e : Env) (he : e.ok) (t : MutT) (src : Bs)
    (hi : Inv t src.length) (hw : src.length < W) :
    ∃ t', putSlice e t src = .ok t' ∧ wfM t' ∧ roomOpt t' = (roomOpt t).map (· - src.length) ∧
      (ordM t → written t' = written t ++ src ∧ ordM t') ∧
      (∀ m, noHardLimit t (m + src.length) → noHardLimit t' m) := by
  induction t with
  | grow k pre w spare =>
    have h := hi.wf; have hl := hi.lim
    simp only [wfM, noHardLimit] at h hl
    have hnp : ¬ (isizeMax - growLen pre w < src.length) := by omega
    simp only [putSlice, hnp, ↓reduceIte]
    by_cases hsp : src.length ≤ spare
    · simp only [hsp, ↓reduceIte]
      refine ⟨_, rfl, ?_, rfl, fun _ => ⟨rfl, trivial⟩, ?_⟩
      · simp only [wfM, growLen_append]; omega
      · intro m hm; simp only [noHardLimit, growLen_append] at hm ⊢; omega
    · simp only [hsp, ↓reduceIte]
      refine ⟨_, rfl, ?_, rfl, fun _ => ⟨rfl, trivial⟩, ?_⟩
      · have := he.2 (growLen pre w) spare src.length (by omega)
        simp only [wfM, growLen_append]; omega
      · intro m hm; simp only [noHardLimit, growLen_append] at hm ⊢; omega
  | fixed k w room =>
    have h := hi.wf; have hf := hi.fit
    simp only [wfM] at h
    simp only [fits, roomOpt] at hf
    simp only [putSlice, Nat.not_lt.mpr hf, ↓reduceIte]
    refine ⟨_, rfl, ?_, rfl, fun _ => ⟨rfl, trivial⟩, fun _ _ => trivial⟩
    simp only [wfM, List.length_append]; omega
  -- no override: `putSlice` unfolds to `putSliceDefault` (`putSlice_chain`, `putSlice_limit`)
  | chain a b _ _ | limit i n _ =>
    have := hi.rem_ge hw
    simp only [putSlice, putSliceDefault, Nat.not_lt.mpr this, ↓reduceIte]
    obtain ⟨t', h1, hwr⟩ := putLoop_wr e he _ _ src (Nat.le_succ _) hi hw
    obtain ⟨r1, r2, r3, r4⟩ := hwr.spec he
    exact ⟨t', h1, r1 hi.wf, r2, r4, r3⟩
  | refMut i ih | box i ih =>
    obtain ⟨i', w1, w2, w3, w4, w5⟩ := ih ⟨hi.wf, hi.fit, hi.lim⟩
    simp only [putSlice, w1]
    exact ⟨_, rfl, w2, w3, w4, w5⟩

theorem putBufLoop_done (e : Env) (fuel : Nat) (t : MutT) (src : BufT) (h : remaining src = 0) :
    putBufLoop e fuel t src = .ok (t, src) := by
  cases fuel <;> simp only [putBufLoop, h, ↓reduceIte]

theorem putBufLoop_succ (e : Env) (fuel : Nat) (t : MutT) (src : BufT) (h : remaining src ≠ 0) :
    putBufLoop e (fuel + 1) t src =
      (writeAdvance (chunkMut e t).2 ((chunk src).take (min (chunk src).length (chunkMut e t).1))).bind
        fun t2 => match advance src (min (chunk src).length (chunkMut e t).1) with
          | .ok src' => putBufLoop e fuel t2 src'
          | .panic => .panic := by
  simp only [putBufLoop, h, ↓reduceIte]; rfl

theorem putBufLoop_run (e : Env) (he : e.ok) (fuel : Nat) (t : MutT) (src : BufT)
    (hf : remaining src ≤ fuel) (hs : wf src) (hi : Inv t (remaining src)) :
    ∃ t' src', putBufLoop e fuel t src = .ok (t', src') ∧ Wr e t (den src) t' ∧ den src' = [] := by
  induction fuel generalizing t src with
  | zero =>
    have h0 : remaining src = 0 := Nat.le_zero.1 hf
    have hd := den_nil_of_remaining hs h0
    exact ⟨t, src, putBufLoop_done _ _ _ _ h0, hd ▸ Wr.refl t, hd⟩
  | succ fuel ih =>
    by_cases h0 : remaining src = 0
    · have hd := den_nil_of_remaining hs h0
      exact ⟨t, src, putBufLoop_done _ _ _ _ h0, hd ▸ Wr.refl t, hd⟩
    · have hW := remaining_lt_W src hs
      have hcp := chunk_length_pos src hs h0
      have hcl := chunk_length_le src hs
      obtain ⟨hc, t2, w1, w2⟩ := loop_step e he t (chunk src) (remaining src) hi hW hcp hcl
      rw [putBufLoop_succ e fuel t src h0, w1, Res.bind_ok]
      have hcc : min (chunk src).length (chunkMut e t).1 ≤ (chunk src).length := Nat.min_le_left _ _
      have hcm : min (chunk src).length (chunkMut e t).1 ≤ (chunkMut e t).1 := Nat.min_le_right _ _
      generalize min (chunk src).length (chunkMut e t).1 = cnt at hc hcc hcm w1 w2 ⊢
      obtain ⟨src', a1, a2, a3⟩ := advance_ok src cnt hs (Nat.le_trans hcc hcl)
      have hr' := remaining_of_den_drop hs a3 a2
      rw [a1]
      obtain ⟨t', s', r1, r2, r3⟩ := ih t2 src'
        (hr' ▸ Nat.le_of_lt_succ (Nat.lt_of_lt_of_le (Nat.sub_lt (Nat.pos_of_ne_zero h0) hc) hf)) a3 (hr' ▸ w2)
      refine ⟨t', s', r1, ?_, r3⟩
      have htl : ((chunk src).take cnt).length = cnt := List.length_take.trans (Nat.min_eq_left hcc)
      refine (Wr.step hi.wf hi.lim64 (htl.symm ▸ hcm) w1 r2).cast ?_
      rw [a2, chunk_take_eq src hs cnt hcc, List.take_append_drop]

theorem putBufGrowLoop_done (e : Env) (fuel : Nat) (t : MutT) (src : BufT) (h : remaining src = 0) :
    putBufGrowLoop e fuel t src = .ok (t, src) := by
  cases fuel <;> simp only [putBufGrowLoop, h, ↓reduceIte]

theorem putBufGrowLoop_succ (e : Env) (fuel : Nat) (t : MutT) (src : BufT) (h : remaining src ≠ 0) :
    putBufGrowLoop e (fuel + 1) t src =
      (putSlice e t (chunk src)).bind fun t' =>
        match advance src (chunk src).length with
        | .ok src' => putBufGrowLoop e fuel t' src'
        | .panic => .panic := by
  simp only [putBufGrowLoop, h, ↓reduceIte]; rfl

theorem putBufGrowLoop_ok (e : Env) (he : e.ok) (fuel : Nat) (t : MutT) (src : BufT)
    (hf : remaining src ≤ fuel) (hs : wf src) (hi : Inv t (remaining src)) :
    ∃ t' src', putBufGrowLoop e fuel t src = .ok (t', src') ∧ wfM t' ∧ den src' = [] ∧
      (ordM t → written t' = written t ++ den src ∧ ordM t') := by
  induction fuel generalizing t src with
  | zero =>
    have h0 : remaining src = 0 := by omega
    have hd := den_nil_of_remaining hs h0
    exact ⟨t, src, putBufGrowLoop_done _ _ _ _ h0, hi.wf, hd, fun ho => ⟨by simp [hd], ho⟩⟩
  | succ fuel ih =>
    by_cases h0 : remaining src = 0
    · have hd := den_nil_of_remaining hs h0
      exact ⟨t, src, putBufGrowLoop_done _ _ _ _ h0, hi.wf, hd, fun ho => ⟨by simp [hd], ho⟩⟩
    · have hW := remaining_lt_W src hs
      have hcp := chunk_length_pos src hs h0
      have hcl := chunk_length_le src hs
      have hi1 : Inv t (chunk src).length := hi.mono hcl
      obtain ⟨t2, w1, w2, w3, w4, w5⟩ := putSlice_ok_aux e he t (chunk src) hi1 (by omega)
      rw [putBufGrowLoop_succ e fuel t src h0, w1, Res.bind_ok]
      obtain ⟨src', a1, a2, a3⟩ := advance_ok src (chunk src).length hs hcl
      have hr' := remaining_of_den_drop hs a3 a2
      rw [a1]
      obtain ⟨t', s', r1, r2, r3, r4⟩ := ih t2 src' (by omega) a3 (hr' ▸ hi.sub hcl w2 w3 w5)
      refine ⟨t', s', r1, r2, r3, ?_⟩
      intro ho
      obtain ⟨x1, x2⟩ := w4 ho
      obtain ⟨y1, y2⟩ := r4 x2
      refine ⟨?_, y2⟩
      rw [y1, x1, a2, List.append_assoc]
      congr 1
      exact prefix_append_drop (chunk_prefix src hs)

theorem putSlice_grow_shape (e : Env) (k : Grow) (p w : Bs) (sp : Nat) (src : Bs) (t' : MutT)
    (h : putSlice e (.grow k p w sp) src = .ok t') : ∃ w' sp', t' = .grow k p w' sp' := by
  simp only [putSlice] at h
  split at h
  · cases h
  · split at h <;> (cases h; exact ⟨_, _, rfl⟩)

theorem putBufGrowLoop_grow (e : Env) (fuel : Nat) (k : Grow) (p w : Bs) (sp : Nat) (src : BufT)
    (t' : MutT) (src' : BufT) (h : putBufGrowLoop e fuel (.grow k p w sp) src = .ok (t', src')) :
    ∃ w' sp', t' = .grow k p w' sp' := by
  induction fuel generalizing w sp src with
  | zero =>
    simp only [putBufGrowLoop] at h
    split at h
    · cases h; exact ⟨_, _, rfl⟩
    · cases h
  | succ fuel ih =>
    by_cases h0 : remaining src = 0
    · rw [putBufGrowLoop_done _ _ _ _ h0] at h; cases h; exact ⟨_, _, rfl⟩
    · rw [putBufGrowLoop_succ _ _ _ _ h0] at h
      cases hp : putSlice e (.grow k p w sp) (chunk src) with
      | panic => rw [hp] at h; cases h
      | ok t1 =>
        obtain ⟨w1, sp1, rfl⟩ := putSlice_grow_shape e k p w sp _ _ hp
        rw [hp, Res.bind_ok] at h
        cases ha : advance src (chunk src).length with
        | panic => rw [ha] at h; cases h
        | ok s1 => rw [ha] at h; exact ih _ _ _ h

/-- `put(src)`: a `Vec` / `BytesMut` stays one and has `den src` appended; every other target runs
the default loop, i.e. rounds of `chunk_write`. -/
theorem putBuf_run (e : Env) (he : e.ok) (t : MutT) (src : BufT) (hs : wf src)
    (hi : Inv t (remaining src)) :
    (∃ k p w sp t' src', t = .grow k p w sp ∧ putBuf e t src = .ok (t', src') ∧
        (∃ w' sp', t' = .grow k p w' sp') ∧ wfM t' ∧ den src' = [] ∧
        written t' = written t ++ den src) ∨
    (∃ t' src', putBuf e t src = .ok (t', src') ∧ Wr e t (den src) t' ∧ den src' = []) := by
  have hrem : ¬ remainingMut t < remaining src := Nat.not_lt.mpr (hi.rem_ge (remaining_lt_W src hs))
  cases t with
  | grow k p w sp =>
    obtain ⟨t', src', h1, h2, h3, h4⟩ :=
      putBufGrowLoop_ok e he (remaining src + 1) _ src (Nat.le_succ _) hs hi
    exact .inl ⟨k, p, w, sp, t', src', rfl, by simp only [putBuf, hrem, ↓reduceIte, h1],
      putBufGrowLoop_grow e _ k p w sp src t' src' h1, h2, h3, (h4 trivial).1⟩
  | _ =>
    obtain ⟨t', src', h1, hwr, hd⟩ := putBufLoop_run e he (remaining src + 1) _ src (Nat.le_succ _) hs hi
    exact .inr ⟨t', src', by simp only [putBuf, hrem, ↓reduceIte, h1], hwr, hd⟩

/-- `put_slice` keeps the write-order invariant (so `putSlice_ok` composes over sequences of writes). -/
theorem putSlice_ordM (e : Env) (he : e.ok) (t : MutT) (src : Bs) (h : wfM t) (ho : ordM t)
    (hf : fits t src.length) (hl : noHardLimit t (src.length + 64)) (hw : src.length < W)
    (t' : MutT) (hp : putSlice e t src = .ok t') : ordM t' := by
  obtain ⟨t2, h1, _, _, h4, _⟩ := putSlice_ok_aux e he t src ⟨h, hf, hl⟩ hw
  rw [hp] at h1; cases h1
  exact (h4 ho).2

/-- … and the distance to the hard limit shrinks by exactly the bytes written. -/
theorem putSlice_noHardLimit (e : Env) (he : e.ok) (t : MutT) (src : Bs) (h : wfM t)
    (hf : fits t src.length) (hl : noHardLimit t (src.length + 64)) (hw : src.length < W)
    (t' : MutT) (hp : putSlice e t src = .ok t') (m : Nat) (hm : noHardLimit t (m + src.length)) :
    noHardLimit t' m := by
  obtain ⟨t2, h1, _, _, _, h5⟩ := putSlice_ok_aux e he t src ⟨h, hf, hl⟩ hw
  rw [hp] at h1; cases h1
  exact h5 m hm

/-- A fresh target (nothing written through any leaf yet) respects write order. -/
theorem ordM_of_fresh (t : MutT) : written t = [] → ordM t := by
  induction t with
  | grow k pre w spare => intro _; trivial
  | fixed k w room => intro _; trivial
  | chain a b iha ihb =>
    intro hw
    simp only [written, List.append_eq_nil_iff] at hw
    exact ⟨iha hw.1, ihb hw.2, Or.inl hw.2⟩
  | limit i n ih | refMut i ih | box i ih => exact ih

/-! ### Why the side conditions `ordM` / `noHardLimit t r` are needed

With `wfM` alone the statements of C11 fail on these states. -/

/-- `wfM` alone does not make `written` of a chain "in write order": `b` was written before `a`
was full, and the new byte lands *before* the old one in `written`. -/
def badChain : MutT := .chain (.fixed .slice [] 2) (.fixed .slice [9] 3)
example : wfM badChain := by simp [badChain, wfM, W_eq]
example : ¬ ordM badChain := by simp [badChain, ordM, written, remainingMut]
example : fits badChain 1 ∧ noHardLimit badChain (1 + 64) := by simp [badChain, fits, roomOpt, noHardLimit]
example : (putSlice defaultEnv badChain [1]).map written = .ok [1, 9] := by decide
example : written badChain ++ [1] = [9, 1] := by decide
-- the same state below a `limit`, as the `a` of a chain, and through `Writer::write`
example : (putSlice defaultEnv (.limit badChain 5) [1]).map written = .ok [1, 9] := by decide
example : (putSlice defaultEnv (.chain badChain (.fixed .slice [] 0)) [1]).map written = .ok [1, 9] := by decide
example : (writerWrite defaultEnv badChain [1]).map (fun p => written p.2) = .ok [1, 9] := by decide
example : (putBuf defaultEnv badChain (.flat .slice [1])).map (fun p => written p.1) = .ok [1, 9] := by decide

/-- `remaining_mut()` of a `limit` over a growable target is capped by the hard limit of the
target, not only by the limit: room `W - 1`, but `remaining_mut() = isize::MAX`. -/
def bigLimit : MutT := .limit (.grow .vec [] [] 0) (W - 1)
example : wfM bigLimit := by simp [bigLimit, wfM, growLen, isizeMax, W_eq]
example : roomOpt bigLimit = some (W - 1) := by simp [bigLimit, roomOpt]
example : remainingMut bigLimit = isizeMax ∧ isizeMax ≠ W - 1 := by
  simp [bigLimit, remainingMut, growLen, isizeMax, W_eq]

end BytesVerif.BufMut

namespace BytesVerif.PutCodec
open BytesVerif.Buf BytesVerif.Codec BytesVerif.BufMut

theorem leBytes_length (n v : Nat) : (leBytes n v).length = n := by
  induction n generalizing v with
  | zero => rfl
  | succ n ih => simp only [leBytes, List.length_cons, ih]

theorem beBytes_length (n v : Nat) : (beBytes n v).length = n := by
  simp only [beBytes, List.length_reverse, leBytes_length]

theorem leBytes_lt (n v : Nat) : ∀ x ∈ leBytes n v, x < 256 := by
  induction n generalizing v with
  | zero => intro x hx; cases hx
  | succ n ih =>
    intro x hx
    simp only [leBytes, List.mem_cons] at hx
    rcases hx with rfl | hx
    · omega
    · exact ih _ x hx

theorem leVal_leBytes (n v : Nat) : leVal (leBytes n v) = v % 256 ^ n := by
  induction n generalizing v with
  | zero => simp [leBytes, leVal, Nat.mod_one]
  | succ n ih =>
    simp only [leBytes, leVal, ih]
    rw [Nat.pow_succ, Nat.mul_comm (256 ^ n) 256, Nat.mod_mul]

theorem beVal_beBytes (n v : Nat) : beVal (beBytes n v) = v % 256 ^ n := by
  rw [beBytes, beVal_reverse, leVal_leBytes]

theorem leBytes_mod (n v : Nat) : leBytes n (v % 256 ^ n) = leBytes n v := by
  induction n generalizing v with
  | zero => rfl
  | succ n ih =>
    simp only [leBytes]
    rw [Nat.pow_succ, Nat.mul_comm (256 ^ n) 256, Nat.mod_mul_right_div_self, ih,
      Nat.mod_mul_right_mod]

theorem leBytes_take (m n v : Nat) (h : n ≤ m) : (leBytes m v).take n = leBytes n v := by
  induction n generalizing m v with
  | zero => simp [leBytes]
  | succ n ih =>
    obtain ⟨m', rfl⟩ : ∃ m', m = m' + 1 := ⟨m - 1, by omega⟩
    simp only [leBytes, List.take_succ_cons, ih m' _ (by omega)]

theorem beBytes_drop (m n v : Nat) (h : n ≤ m) : (beBytes m v).drop (m - n) = beBytes n v := by
  simp only [beBytes]
  rw [List.drop_reverse, leBytes_length, show m - (m - n) = n by omega, leBytes_take m n v h]

theorem pow_pos_int (bits : Nat) : (0 : Int) < ((2 ^ bits : Nat) : Int) := by
  exact_mod_cast Nat.two_pow_pos bits

theorem toUnsigned_cast (bits : Nat) (v : Int) :
    ((toUnsigned bits v : Nat) : Int) = v % ((2 ^ bits : Nat) : Int) := by
  unfold toUnsigned
  exact Int.toNat_of_nonneg (Int.emod_nonneg _ (Int.ne_of_gt (pow_pos_int bits)))

theorem toUnsigned_lt (bits : Nat) (v : Int) : toUnsigned bits v < 2 ^ bits := by
  have h := Int.emod_lt_of_pos v (pow_pos_int bits)
  rw [← toUnsigned_cast] at h
  exact_mod_cast h

theorem toUnsigned_of_range (bits : Nat) (v : Int) (h : 0 ≤ v ∧ v < (2 ^ bits : Int)) :
    ((toUnsigned bits v : Nat) : Int) = v := by
  rw [toUnsigned_cast, Int.natCast_pow]; exact Int.emod_eq_of_lt h.1 h.2

theorem toUnsigned_mod (bits bits' : Nat) (v : Int) (h : bits' ≤ bits) :
    toUnsigned bits v % 2 ^ bits' = toUnsigned bits' v := by
  apply Int.ofNat.inj
  show ((toUnsigned bits v % 2 ^ bits' : Nat) : Int) = ((toUnsigned bits' v : Nat) : Int)
  rw [Int.natCast_emod, toUnsigned_cast, toUnsigned_cast]
  apply Int.emod_emod_of_dvd
  exact_mod_cast Nat.pow_dvd_pow 2 h

theorem toSigned_toUnsigned (bits : Nat) (v : Int)
    (h : if bits = 0 then v = 0 else -(2 ^ (bits - 1) : Int) ≤ v ∧ v < (2 ^ (bits - 1) : Int)) :
    toSigned bits (toUnsigned bits v) = v := by
  split at h
  · next h0 => rw [h0, h]; rfl
  next hb =>
  rw [show (2 : Int) ^ (bits - 1) = ((2 ^ (bits - 1) : Nat) : Int) from (Int.natCast_pow 2 _).symm] at h
  obtain ⟨h0, h1⟩ := h
  have hM : (2 ^ bits : Nat) = 2 * 2 ^ (bits - 1) := by
    conv => lhs; rw [show bits = (bits - 1) + 1 by omega, Nat.pow_succ]
    omega
  have hc := toUnsigned_cast bits v
  generalize toUnsigned bits v = u at hc
  generalize hH : (2 ^ (bits - 1) : Nat) = H at *
  unfold toSigned
  rw [if_neg hb, hH, hM]
  rw [hM] at hc
  by_cases hv : 0 ≤ v
  · rw [Int.emod_eq_of_lt hv (by omega)] at hc
    rw [if_pos (by omega)]; exact hc
  · have : v % ((2 * H : Nat) : Int) = v + (2 * H : Nat) := by
      rw [← Int.add_emod_right, Int.emod_eq_of_lt (by omega) (by omega)]
    rw [this] at hc
    rw [if_neg (by omega)]; omega

/-- The body shapes accepted by `putRowOK`; `varLe` also stands for the `_ne` rows, whose dispatch
evaluates to the little-endian body. -/
inductive PShape (r : PutRow) : Prop
  | byte (s : Bool) (hk : r.spec.kind = .int 1 s) (hb : r.body = .byteDirect)
  | fixed (k : Nat) (s : Bool) (hk : r.spec.kind = .int k s) (h16 : k ≤ 16)
      (hb : r.body = .fixed k r.spec.endian)
  | float (k : Nat) (hk : r.spec.kind = .float k) (h8 : k ≤ 8)
      (hb : r.body = .floatBits (.fixed k r.spec.endian))
  | varBe (hk : r.spec.kind = .varUint ∨ r.spec.kind = .varInt) (he : r.spec.endian = .be)
      (hb : r.body = .varBe)
  | varLe (hk : r.spec.kind = .varUint ∨ r.spec.kind = .varInt) (he : r.spec.endian ≠ .be)
      (hb : ∀ w v n, bodyBytes r.body w v n = bodyBytes .varLe w v n)

theorem putRowOK_shape (r : PutRow) (h : putRowOK r = true) : PShape r := by
  unfold putRowOK at h
  rw [Bool.and_eq_true] at h
  replace h := h.2
  -- one bullet per alternative of the `match` in `putRowOK`, in the order of its text
  split at h
  · next s hk hb => exact .byte s hk hb
  · next n s b e' hk hb =>
    simp only [Bool.and_eq_true, decide_eq_true_eq, beq_iff_eq] at h
    obtain ⟨⟨⟨-, h16⟩, rfl⟩, rfl⟩ := h
    exact .fixed b s hk h16 hb
  · next n b e' hk hb =>
    simp only [Bool.and_eq_true, Bool.or_eq_true, beq_iff_eq] at h
    obtain ⟨⟨h48, rfl⟩, rfl⟩ := h
    exact .float b hk (by omega) hb
  · next hk he hb => exact .varBe (.inl hk) he hb
  · next hk he hb => exact .varBe (.inr hk) he hb
  · next hk he hb => exact .varLe (.inl hk) (by rw [he]; decide) (by rw [hb]; intros; rfl)
  · next hk he hb => exact .varLe (.inr hk) (by rw [he]; decide) (by rw [hb]; intros; rfl)
  · next hk he hb => exact .varLe (.inl hk) (by rw [he]; decide) (by rw [hb]; intros; rfl)
  · next hk he hb => exact .varLe (.inr hk) (by rw [he]; decide) (by rw [hb]; intros; rfl)
  · cases h

theorem pow256 (n : Nat) : 256 ^ n = 2 ^ (8 * n) := by
  rw [Nat.pow_mul]

theorem leBytes_toUnsigned (n : Nat) (v : Int) (hn : n ≤ 8) :
    leBytes n (toUnsigned 64 v) = leBytes n (toUnsigned (8 * n) v) := by
  rw [← leBytes_mod n (toUnsigned 64 v), pow256, toUnsigned_mod 64 (8 * n) v (by omega)]

theorem bodyBytes_eq_encode (r : PutRow) (hr : putRowOK r = true) (v : Int) (nbytes : Nat)
    (hn : r.spec.kind = .varUint ∨ r.spec.kind = .varInt → nbytes ≤ 8) : bodyBytes r.body 0 v nbytes = some (encode r.spec v nbytes) := by
  have hs := putRowOK_shape r hr
  obtain ⟨name, ⟨t, kind, e⟩, body⟩ := r
  cases hs with
  | byte s hk hb =>
    simp only at hk hb; subst hk hb
    have h8 := toUnsigned_lt 8 v
    have : toUnsigned 8 v % 256 = toUnsigned 8 v := Nat.mod_eq_of_lt h8
    cases e <;> simp [bodyBytes, encode, Spec.size, beBytes, leBytes, this]
  | fixed k s hk h16 hb | float k hk h8 hb =>
    simp only at hk hb; subst hk hb
    cases e <;> simp only [bodyBytes, encode, Spec.size]
  | varBe hk he hb =>
    replace hn := hn hk
    simp only at hk he hb; subst he hb
    have hsz : Spec.size ⟨t, kind, .be⟩ nbytes = nbytes := by
      rcases hk with rfl | rfl <;> rfl
    simp only [bodyBytes, hn, ↓reduceIte, encode, hsz]
    rw [beBytes_drop 8 nbytes _ hn, beBytes, beBytes, leBytes_toUnsigned nbytes v hn]
  | varLe hk he hb =>
    replace hn := hn hk
    simp only at hk he hb
    have hsz : Spec.size ⟨t, kind, e⟩ nbytes = nbytes := by
      rcases hk with rfl | rfl <;> rfl
    rw [hb]
    simp only [bodyBytes, hn, ↓reduceIte, encode, hsz]
    rw [leBytes_take 8 nbytes _ hn, leBytes_toUnsigned nbytes v hn]

theorem bodyBytes_too_wide (r : PutRow) (hr : putRowOK r = true) (v : Int) (nbytes : Nat)
    (hk : r.spec.kind = .varUint ∨ r.spec.kind = .varInt) (hn : 8 < nbytes) :
    bodyBytes r.body 0 v nbytes = none := by
  have hs := putRowOK_shape r hr
  have hn' : ¬ nbytes ≤ 8 := by omega
  cases hs with
  | byte s hk' hb | fixed k s hk' h16 hb | float k hk' h8 hb =>
    rcases hk with h | h <;> rw [hk'] at h <;> cases h
  | varBe _ he hb | varLe _ he hb => rw [hb]; simp only [bodyBytes, hn', ↓reduceIte]

theorem size_le_16 (r : PutRow) (hr : putRowOK r = true) (nbytes : Nat)
    (hn : r.spec.kind = .varUint ∨ r.spec.kind = .varInt → nbytes ≤ 8) :
    r.spec.size nbytes ≤ 16 := by
  have hs := putRowOK_shape r hr
  unfold Spec.size
  cases hs with
  | byte s hk hb => rw [hk]; simp
  | fixed k s hk h16 hb => rw [hk]; exact h16
  | float k hk h8 hb => rw [hk]; simp only; omega
  | varBe hk he hb | varLe hk he hb =>
    replace hn := hn hk
    rcases hk with h | h <;> rw [h] <;> simp only <;> omega

theorem unsignedVal_encode (s : Spec) (v : Int) (nbytes : Nat) :
    unsignedVal s.endian (encode s v nbytes) = toUnsigned (8 * s.size nbytes) v := by
  have hlt := toUnsigned_lt (8 * s.size nbytes) v
  rw [← pow256] at hlt
  unfold encode unsignedVal
  cases s.endian <;> simp only [beVal_beBytes, leVal_leBytes, Nat.mod_eq_of_lt hlt]

end BytesVerif.PutCodec
