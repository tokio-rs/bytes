/-
Facts about the read-side model (M2), by structural induction over `BufT`.  The loop-based default
methods (`copy_to_slice`, `copy_to_bytes` via `drain`) are handled through `Adv`: each loop reaches
its result by in-range `advance` calls, and what such calls preserve (the denoted bytes, `wf`, the
constructor of an adapter and the state of its inner buffers) is proved once, for `Adv`.
-/
import BytesVerif.Model.Buf
namespace BytesVerif.Buf

theorem Res.bind_ok {α β : Type} (f : α → Res β) (a : α) : (Res.ok a).bind f = f a := rfl

theorem Res.map_eq_ok {α β : Type} {f : α → β} {r : Res α} {y : β} (h : r.map f = .ok y) :
    ∃ x, r = .ok x ∧ f x = y := by
  cases r with
  | ok x => exact ⟨x, rfl, Res.ok.inj h⟩
  | panic => cases h

theorem satAdd_eq_min (a b : Nat) : satAdd a b = min (a + b) (W - 1) := by
  have := W_pos
  unfold satAdd; split <;> omega

theorem satAdd_eq {a b : Nat} (h : a + b < W) : satAdd a b = a + b :=
  (satAdd_eq_min a b).trans (Nat.min_eq_left (Nat.le_pred_of_lt h))

theorem satAdd_eq_zero_iff {a b : Nat} : satAdd a b = 0 ↔ a = 0 ∧ b = 0 := by
  rw [satAdd_eq_min, Nat.min_eq_zero_iff, Nat.add_eq_zero_iff]
  exact or_iff_left (by rw [W_eq]; decide)

theorem satAdd_lt (a b : Nat) : satAdd a b < W :=
  satAdd_eq_min a b ▸ Nat.lt_of_le_of_lt (Nat.min_le_right _ _) (Nat.sub_lt W_pos Nat.one_pos)

theorem satAdd_le (a b : Nat) : satAdd a b ≤ a + b :=
  satAdd_eq_min a b ▸ Nat.min_le_left _ _

theorem le_satAdd {c a b : Nat} (hc : c < W) (h : c ≤ a + b) : c ≤ satAdd a b :=
  satAdd_eq_min a b ▸ Nat.le_min.mpr ⟨h, Nat.le_pred_of_lt hc⟩

theorem prefix_append_drop {l1 l2 : Bs} (h : l1 <+: l2) : l1 ++ l2.drop l1.length = l2 := by
  obtain ⟨t, rfl⟩ := h
  simp

theorem prefix_nil {l : Bs} (h : l <+: []) : l = [] := by
  simpa using h

theorem take_take_drop (l : Bs) (c n : Nat) (h : c ≤ n) :
    l.take c ++ (l.drop c).take (n - c) = l.take n := by
  have : n = c + (n - c) := by omega
  conv => rhs; rw [this, List.take_add]

theorem segChunk_prefix (cs : List Bs) : segChunk cs <+: cs.flatten := by
  induction cs with
  | nil => simp [segChunk]
  | cons c r ih =>
    simp only [segChunk, List.flatten_cons]
    split
    · next hc => subst hc; simpa using ih
    · exact List.prefix_append _ _

theorem segChunk_nil_iff (cs : List Bs) : segChunk cs = [] ↔ cs.flatten = [] := by
  induction cs with
  | nil => simp [segChunk]
  | cons c r ih =>
    simp only [segChunk, List.flatten_cons, List.append_eq_nil_iff]
    split
    · next hc => subst hc; simpa using ih
    · next hc => simp [hc]

theorem segAdvance_flatten (cs : List Bs) (n : Nat) :
    (segAdvance cs n).flatten = cs.flatten.drop n := by
  induction cs generalizing n with
  | nil => simp [segAdvance]
  | cons c r ih =>
    simp only [segAdvance, List.flatten_cons]
    split
    · next hlt =>
      simp only [List.flatten_cons]
      rw [List.drop_append_of_le_length (Nat.le_of_lt hlt)]
    · next hge =>
      rw [ih, List.drop_append, List.drop_eq_nil_of_le (Nat.le_of_not_lt hge)]
      simp

theorem wf_flat_drop {k : Flat} {bs : Bs} (n : Nat) (h : wf (.flat k bs)) : wf (.flat k (bs.drop n)) :=
  Nat.lt_of_le_of_lt (List.length_drop ▸ Nat.sub_le _ _) h

theorem remaining_eq' (b : BufT) (h : wf b) : remaining b = (den b).length := by
  induction b with
  | seg cs => rfl
  | flat k bs => rfl
  | cursor d p => simp [remaining, den]
  | deque s1 s2 => simp [remaining, den]
  | chain a b iha ihb =>
    obtain ⟨ha, hb, hlt⟩ := h
    simp only [remaining, den, List.length_append]
    rw [iha ha, ihb hb, satAdd_eq hlt]
  | take i n ih =>
    obtain ⟨hi, _⟩ := h
    simp only [remaining, den, List.length_take]
    rw [ih hi]; exact Nat.min_comm _ _
  | refMut i ih | box i ih => exact ih h

theorem den_nil_of_remaining {b : BufT} (h : wf b) (h0 : remaining b = 0) : den b = [] := by
  rw [remaining_eq' b h] at h0
  exact List.eq_nil_of_length_eq_zero h0

theorem remaining_chain {a b : BufT} (h : wf (.chain a b)) :
    remaining (.chain a b) = remaining a + remaining b :=
  satAdd_eq (remaining_eq' a h.1 ▸ remaining_eq' b h.2.1 ▸ h.2.2)

theorem chunk_prefix' (b : BufT) (h : wf b) : chunk b <+: den b := by
  induction b with
  | seg cs => exact segChunk_prefix cs
  | flat k bs => exact List.prefix_refl _
  | cursor d p =>
    simp only [chunk, den]
    rw [← List.drop_eq_drop_min]; exact List.prefix_refl _
  | deque s1 s2 =>
    simp only [chunk, den]
    split
    · next h1 => subst h1; simp
    · exact List.prefix_append _ _
  | chain a b iha ihb =>
    obtain ⟨ha, hb, _⟩ := h
    simp only [chunk, den]
    split
    · exact (iha ha).trans (List.prefix_append _ _)
    · next h0 =>
      have : den a = [] := den_nil_of_remaining ha (by omega)
      rw [this]; simpa using ihb hb
  | take i n ih =>
    simp only [chunk, den]
    rw [Nat.min_comm, ← List.take_eq_take_min]
    obtain ⟨t, ht⟩ := ih h.1
    rw [← ht, List.take_append]
    exact List.prefix_append _ _
  | refMut i ih | box i ih => exact ih h

theorem chunk_nil_iff' (b : BufT) (h : wf b) : chunk b = [] ↔ remaining b = 0 := by
  induction b with
  | seg cs => exact (segChunk_nil_iff cs).trans List.length_eq_zero_iff.symm
  | flat k bs => exact List.length_eq_zero_iff.symm
  | cursor d p =>
    simp only [chunk, remaining]
    rw [List.drop_eq_nil_iff]
    omega
  | deque s1 s2 =>
    simp only [chunk, remaining]
    split
    · next h1 => subst h1; simp [h.2 rfl]
    · next h1 =>
      have : 0 < s1.length := List.length_pos_iff.mpr h1
      simp only [h1, false_iff]; omega
  | chain a b iha ihb =>
    simp only [chunk, remaining]
    rw [satAdd_eq_zero_iff]
    split
    · next hpos => rw [iha h.1]; exact ⟨fun h0 => absurd h0 (Nat.ne_of_gt hpos), And.left⟩
    · next h0 => rw [ihb h.2.1]; exact ⟨fun hb => ⟨Nat.eq_zero_of_not_pos h0, hb⟩, And.right⟩
  | take i n ih =>
    simp only [chunk, remaining]
    rw [List.take_eq_nil_iff, Nat.min_eq_zero_iff, Nat.min_eq_zero_iff, List.length_eq_zero_iff,
      ih h.1]
    exact ⟨fun h => h.elim id .inl, .inl⟩
  | refMut i ih | box i ih => exact ih h

theorem remaining_lt_W (b : BufT) (h : wf b) : remaining b < W := by
  induction b with
  | seg cs => exact h
  | flat k bs => exact h
  | cursor d p => have := h.1; simp only [remaining]; omega
  | deque s1 s2 => exact h.1
  | chain a b _ _ => exact satAdd_lt _ _
  | take i n _ => have := h.2; simp only [remaining]; omega
  | refMut i ih | box i ih => exact ih h

theorem chunk_length_le (b : BufT) (h : wf b) : (chunk b).length ≤ remaining b := by
  rw [remaining_eq' b h]; exact (chunk_prefix' b h).length_le

theorem chunk_length_pos (b : BufT) (h : wf b) (h0 : remaining b ≠ 0) : 0 < (chunk b).length :=
  List.length_pos_iff.mpr fun e => h0 ((chunk_nil_iff' b h).mp e)

theorem chunk_take_eq (b : BufT) (h : wf b) (n : Nat) (hn : n ≤ (chunk b).length) :
    (chunk b).take n = (den b).take n := by
  obtain ⟨t, ht⟩ := chunk_prefix' b h
  rw [← ht, List.take_append_of_le_length hn]

theorem remaining_of_den_drop {b b' : BufT} {n : Nat} (h : wf b) (h' : wf b')
    (hd : den b' = (den b).drop n) : remaining b' = remaining b - n := by
  rw [remaining_eq' b' h', hd, List.length_drop, remaining_eq' b h]

theorem chain_of_inner {a b a' b' : BufT} {n : Nat} (h : wf (.chain a b))
    (hda : den a' = (den a).drop n) (hdb : den b' = (den b).drop (n - (den a).length))
    (hwa : wf a') (hwb : wf b') :
    den (.chain a' b') = (den (.chain a b)).drop n ∧ wf (.chain a' b') := by
  refine ⟨by simp only [den, hda, hdb, List.drop_append], hwa, hwb, ?_⟩
  rw [hda, hdb, List.length_drop, List.length_drop]
  exact Nat.lt_of_le_of_lt (Nat.add_le_add (Nat.sub_le _ _) (Nat.sub_le _ _)) h.2.2

theorem take_of_inner {i i' : BufT} {lim n : Nat} (h : wf (.take i lim))
    (hd : den i' = (den i).drop n) (hw : wf i') :
    den (.take i' (lim - n)) = (den (.take i lim)).drop n ∧ wf (.take i' (lim - n)) :=
  ⟨by simp only [den, hd, List.drop_take], hw, Nat.lt_of_le_of_lt (Nat.sub_le _ _) h.2⟩

/-- chain case of `advance`, given the facts for the two children -/
theorem advance_chain_aux (a b : BufT) (n : Nat) (ha : wf a) (hb : wf b)
    (iha : ∀ n, n ≤ remaining a → ∃ a', advance a n = .ok a' ∧ den a' = (den a).drop n ∧ wf a')
    (ihb : ∀ n, n ≤ remaining b → ∃ b', advance b n = .ok b' ∧ den b' = (den b).drop n ∧ wf b')
    (hn : n ≤ remaining a + remaining b) :
    ∃ a' b', advance (.chain a b) n = .ok (.chain a' b') ∧
      den a' = (den a).drop n ∧ den b' = (den b).drop (n - (den a).length) ∧ wf a' ∧ wf b' := by
  rw [← remaining_eq' a ha]
  simp only [advance]
  by_cases h0 : remaining a = 0
  · obtain ⟨b', hb', hd, hw⟩ := ihb n (by omega)
    refine ⟨a, b', by rw [if_neg (fun hne => hne h0), hb']; rfl, ?_, by rw [hd, h0]; rfl, ha, hw⟩
    rw [den_nil_of_remaining ha h0, List.drop_nil]
  · rw [if_pos h0]
    by_cases hge : n ≤ remaining a
    · obtain ⟨a', ha', hd, hw⟩ := iha n hge
      refine ⟨a', b, by rw [if_pos hge, ha']; rfl, hd, ?_, hw, hb⟩
      rw [Nat.sub_eq_zero_of_le hge]; rfl
    · obtain ⟨a', ha', hda, hwa⟩ := iha (remaining a) (Nat.le_refl _)
      obtain ⟨b', hb', hdb, hwb⟩ := ihb (n - remaining a) (by omega)
      refine ⟨a', b', by rw [if_neg hge, ha', Res.bind, hb']; rfl, ?_, hdb, hwa, hwb⟩
      have hl := remaining_eq' a ha
      rw [hda, List.drop_eq_nil_of_le (Nat.le_of_eq hl.symm),
        List.drop_eq_nil_of_le (hl ▸ Nat.le_of_not_le hge)]

theorem advance_ok' (b : BufT) (n : Nat) (h : wf b) (hn : n ≤ remaining b) :
    ∃ b', advance b n = .ok b' ∧ den b' = (den b).drop n ∧ wf b' := by
  induction b generalizing n with
  | seg cs =>
    refine ⟨.seg (segAdvance cs n), if_neg (Nat.not_lt.mpr hn), segAdvance_flatten cs n, ?_⟩
    show (segAdvance cs n).flatten.length < W
    rw [segAdvance_flatten, List.length_drop]; exact Nat.lt_of_le_of_lt (Nat.sub_le _ _) h
  | flat k bs => exact ⟨_, if_neg (Nat.not_lt.mpr hn), rfl, wf_flat_drop n h⟩
  | cursor d p =>
    have hn' : n ≤ d.length - p := hn  -- `remaining` unfolded for `omega`
    exact ⟨.cursor d (p + n), if_neg (Nat.not_lt.mpr hn), by simp only [den, List.drop_drop], h.1,
      by have := h.1; have := h.2; omega⟩
  | deque s1 s2 =>
    have hn' : n ≤ s1.length + s2.length := hn
    obtain ⟨hl, -⟩ := h
    simp only [advance, if_neg (Nat.not_lt.mpr hn')]
    by_cases h1 : n < s1.length
    · refine ⟨.deque (s1.drop n) s2, by rw [if_pos h1],
        (List.drop_append_of_le_length (Nat.le_of_lt h1)).symm, ?_, ?_⟩
      · rw [List.length_drop]
        exact Nat.lt_of_le_of_lt (Nat.add_le_add_right (Nat.sub_le _ _) _) hl
      · exact fun e => absurd (List.drop_eq_nil_iff.mp e) (Nat.not_le.mpr h1)
    · refine ⟨.deque (s2.drop (n - s1.length)) [], by rw [if_neg h1], ?_, ?_, fun _ => rfl⟩
      · simp only [den]
        rw [List.append_nil, List.drop_append, List.drop_eq_nil_of_le (Nat.le_of_not_lt h1),
          List.nil_append]
      · rw [List.length_drop]
        exact Nat.lt_of_le_of_lt (Nat.sub_le _ _) (Nat.lt_of_le_of_lt (Nat.le_add_left _ _) hl)
  | chain a b iha ihb =>
    obtain ⟨a', b', he, hda, hdb, hwa, hwb⟩ := advance_chain_aux a b n h.1 h.2.1
      (fun n hn => iha n h.1 hn) (fun n hn => ihb n h.2.1 hn) (remaining_chain h ▸ hn)
    exact ⟨_, he, chain_of_inner h hda hdb hwa hwb⟩
  | take i lim ih =>
    obtain ⟨i', hi', hd, hw⟩ := ih n h.1 (Nat.le_trans hn (Nat.min_le_left _ _))
    refine ⟨.take i' (lim - n), ?_, take_of_inner h hd hw⟩
    simp only [advance, if_pos (Nat.le_trans hn (Nat.min_le_right _ _)), hi', Res.map]
  | refMut i ih | box i ih =>
    obtain ⟨i', hi', hd, hw⟩ := ih n h hn
    rw [advance, hi']
    exact ⟨_, rfl, hd, hw⟩

/-- `b'` is reached from `b` by in-range `advance` calls totalling `c` bytes. -/
inductive Adv : BufT → Nat → BufT → Prop where
  | refl (b : BufT) : Adv b 0 b
  | step {b b1 b' : BufT} {m c : Nat} : wf b → m ≤ remaining b → advance b m = .ok b1 →
      Adv b1 c b' → Adv b (m + c) b'

theorem Adv.cast {b b' : BufT} {c d : Nat} (h : Adv b c b') (e : c = d) : Adv b d b' := e ▸ h

theorem Adv.spec {b b' : BufT} {c : Nat} (h : Adv b c b') (hw : wf b) :
    den b' = (den b).drop c ∧ wf b' := by
  induction h with
  | refl b => exact ⟨rfl, hw⟩
  | @step b b1 b' m c hwb hm ha _ ih =>
    obtain ⟨b2, h2, hd, hw2⟩ := advance_ok' b m hwb hm
    rw [ha] at h2; cases h2
    obtain ⟨hd', hw'⟩ := ih hw2
    refine ⟨?_, hw'⟩
    rw [hd', hd, List.drop_drop]

theorem Adv.take_shape {x y : BufT} {c : Nat} (h : Adv x c y) :
    ∀ i lim, x = .take i lim → ∃ i', y = .take i' (lim - c) ∧ Adv i c i' := by
  induction h with
  | refl b => intro i lim e; subst e; exact ⟨i, rfl, Adv.refl i⟩
  | @step b b1 b' m c hwb hm ha _ ih =>
    intro i lim e; subst e
    simp only [advance] at ha
    split at ha
    · obtain ⟨i1, hi1, e1⟩ := Res.map_eq_ok ha
      obtain ⟨i', ey, hadv⟩ := ih i1 (lim - m) e1.symm
      refine ⟨i', ?_, Adv.step hwb.1 ?_ hi1 hadv⟩
      · rw [ey, Nat.sub_sub]
      · simp only [remaining] at hm; omega
    · cases ha

theorem Adv.refMut_shape {x y : BufT} {c : Nat} (h : Adv x c y) :
    ∀ i, x = .refMut i → ∃ i', y = .refMut i' ∧ Adv i c i' := by
  induction h with
  | refl b => intro i e; subst e; exact ⟨i, rfl, Adv.refl i⟩
  | @step b b1 b' m c hwb hm ha _ ih =>
    intro i e; subst e
    obtain ⟨i1, hi1, e1⟩ := Res.map_eq_ok (show (advance i m).map .refMut = .ok b1 from ha)
    obtain ⟨i', ey, hadv⟩ := ih i1 e1.symm
    exact ⟨i', ey, Adv.step hwb hm hi1 hadv⟩

theorem Adv.chain_left {x y : BufT} {c : Nat} (h : Adv x c y) :
    ∀ a b, x = .chain a b → wf (.chain a b) → ∃ a' b', y = .chain a' b' ∧
      den a' = (den a).drop c ∧ wf a' ∧ wf b' := by
  induction h with
  | refl b => intro a b e hw; subst e; exact ⟨a, b, rfl, rfl, hw.1, hw.2.1⟩
  | @step b0 b1 b' m c hwb hm ha _ ih =>
    intro a b e hw; subst e
    obtain ⟨a1, b1', he, hda, -⟩ := advance_chain_aux a b m hw.1 hw.2.1
      (fun n hn => advance_ok' a n hw.1 hn) (fun n hn => advance_ok' b n hw.2.1 hn)
      (remaining_chain hw ▸ hm)
    obtain ⟨x, hx, -, hwx⟩ := advance_ok' _ m hw hm
    rw [ha] at he hx; cases he; cases hx
    obtain ⟨a', b', ey, hda', hw'⟩ := ih a1 b1' rfl hwx
    exact ⟨a', b', ey, by rw [hda', hda, List.drop_drop], hw'⟩

/-- The second half: `den` of the whole result is known from `Adv.spec`, and the first half cancels. -/
theorem Adv.chain_shape {x y : BufT} {c : Nat} (h : Adv x c y) :
    ∀ a b, x = .chain a b → wf (.chain a b) → ∃ a' b', y = .chain a' b' ∧
      den a' = (den a).drop c ∧ den b' = (den b).drop (c - (den a).length) ∧ wf a' ∧ wf b' := by
  intro a b e hw; subst e
  obtain ⟨a', b', rfl, hda, hwa, hwb⟩ := h.chain_left a b rfl hw
  have hd := (h.spec hw).1
  simp only [den, List.drop_append, hda] at hd
  exact ⟨a', b', rfl, hda, List.append_cancel_left hd, hwa, hwb⟩

theorem copyLoop_ok (fuel : Nat) (b : BufT) (need : Nat) (acc : Bs) (h : wf b)
    (hn : need ≤ remaining b) (hf : need ≤ fuel) :
    ∃ b', copyLoop fuel b need acc = .ok (acc ++ (den b).take need, b') ∧ Adv b need b' := by
  induction fuel generalizing b need acc with
  | zero =>
    obtain rfl : need = 0 := Nat.le_zero.mp hf
    exact ⟨b, by simp [copyLoop], Adv.refl b⟩
  | succ fuel ih =>
    by_cases h0 : need = 0
    · subst h0
      exact ⟨b, by simp [copyLoop], Adv.refl b⟩
    · have hcl := chunk_length_pos b h (by omega)
      have hcr := chunk_length_le b h
      simp only [copyLoop, h0, if_false]
      have hc0 : 0 < min (chunk b).length need := Nat.lt_min.mpr ⟨hcl, Nat.pos_of_ne_zero h0⟩
      have hcc : min (chunk b).length need ≤ (chunk b).length := Nat.min_le_left _ _
      have hcn : min (chunk b).length need ≤ need := Nat.min_le_right _ _
      generalize min (chunk b).length need = cnt at hc0 hcc hcn ⊢
      have hcnt : cnt ≤ remaining b := Nat.le_trans hcc hcr
      obtain ⟨b1, hb1, hd1, hw1⟩ := advance_ok' b cnt h hcnt
      have hr1 := remaining_of_den_drop h hw1 hd1
      obtain ⟨b', hb', hadv⟩ := ih b1 (need - cnt) (acc ++ (chunk b).take cnt) hw1
        (hr1 ▸ Nat.sub_le_sub_right hn cnt) (by omega)
      refine ⟨b', ?_, (Adv.step h hcnt hb1 hadv).cast (Nat.add_sub_cancel' hcn)⟩
      rw [hb1, Res.bind, hb', hd1, chunk_take_eq b h cnt hcc, List.append_assoc,
        take_take_drop _ _ _ hcn]

theorem tryCopyToSlice_adv (b : BufT) (n : Nat) (h : wf b) (hn : n ≤ remaining b) :
    ∃ b', tryCopyToSlice b n = .ok (some ((den b).take n), b') ∧ Adv b n b' := by
  obtain ⟨b', hb', hadv⟩ := copyLoop_ok (n + 1) b n [] h hn (by omega)
  refine ⟨b', ?_, hadv⟩
  simp [tryCopyToSlice, Nat.not_lt.mpr hn, hb', Res.map]

theorem drainLoop_ok (fuel : Nat) (b : BufT) (acc : Bs) (h : wf b) (hf : remaining b ≤ fuel) :
    ∃ b', drainLoop fuel b acc = .ok (acc ++ den b, b') ∧ Adv b (remaining b) b' := by
  induction fuel generalizing b acc with
  | zero =>
    have h0 : remaining b = 0 := Nat.le_zero.mp hf
    refine ⟨b, ?_, (Adv.refl b).cast h0.symm⟩
    simp [drainLoop, h0, den_nil_of_remaining h h0]
  | succ fuel ih =>
    by_cases h0 : remaining b = 0
    · refine ⟨b, ?_, (Adv.refl b).cast h0.symm⟩
      simp [drainLoop, h0, den_nil_of_remaining h h0]
    · have hcl := chunk_length_pos b h h0
      have hcr := chunk_length_le b h
      obtain ⟨b1, hb1, hd1, hw1⟩ := advance_ok' b _ h hcr
      have hr1 := remaining_of_den_drop h hw1 hd1
      obtain ⟨b', hb', hadv⟩ := ih b1 (acc ++ chunk b) hw1 (by omega)
      refine ⟨b', ?_, (Adv.step h hcr hb1 (hr1 ▸ hadv)).cast (Nat.add_sub_cancel' hcr)⟩
      simp only [drainLoop, h0, if_false, hb1, Res.bind]
      rw [hb', hd1, List.append_assoc, prefix_append_drop (chunk_prefix' b h)]

theorem drain_ok (b : BufT) (h : wf b) :
    ∃ b', drain b = .ok (den b, b') ∧ Adv b (remaining b) b' := by
  obtain ⟨b', hb', hadv⟩ := drainLoop_ok (remaining b + 1) b [] h (by omega)
  exact ⟨b', by simpa [drain] using hb', hadv⟩

theorem drain_take_ok (i : BufT) (lim : Nat) (h : wf i) (hl : lim ≤ remaining i) :
    ∃ i' l', drain (.take i lim) = .ok ((den i).take lim, .take i' l') ∧ Adv i lim i' := by
  have hw : wf (.take i lim) := ⟨h, Nat.lt_of_le_of_lt hl (remaining_lt_W i h)⟩
  obtain ⟨b', hb', hadv⟩ := drain_ok (.take i lim) hw
  obtain ⟨i', e, hadv'⟩ := hadv.take_shape i lim rfl
  have hr : remaining (.take i lim) = lim := by simp only [remaining]; omega
  subst e
  exact ⟨i', _, hb', hadv'.cast hr⟩

theorem takeLoop_length (sl : List Bs) (lim : Nat) : (takeLoop sl lim).length ≤ sl.length := by
  induction sl generalizing lim with
  | nil => simp [takeLoop]
  | cons s r ih =>
    simp only [takeLoop]
    split
    · simp
    · have := ih (lim - s.length); simp only [List.length_cons]; omega

theorem takeLoop_flatten (sl : List Bs) (lim : Nat) :
    (takeLoop sl lim).flatten = sl.flatten.take lim := by
  induction sl generalizing lim with
  | nil => simp [takeLoop]
  | cons s r ih =>
    simp only [takeLoop]
    split
    · next hle =>
      simp only [List.flatten_cons, List.flatten_nil, List.append_nil]
      rw [List.take_append_of_le_length hle]
    · next hgt =>
      simp only [List.flatten_cons, ih, List.take_append]
      rw [List.take_of_length_le (l := s) (by omega)]

theorem takeLoop_nonempty (sl : List Bs) (lim : Nat) (hl : 0 < lim) (h : ∃ s ∈ sl, s ≠ []) :
    ∃ s ∈ takeLoop sl lim, s ≠ [] := by
  induction sl generalizing lim with
  | nil => obtain ⟨s, hs, _⟩ := h; cases hs
  | cons s r ih =>
    simp only [takeLoop]
    split
    · next hle =>
      refine ⟨s.take lim, by simp, ?_⟩
      intro e
      have : (s.take lim).length = 0 := by rw [e]; rfl
      simp only [List.length_take] at this; omega
    · next hgt =>
      by_cases hs : s = []
      · subst hs
        obtain ⟨t, ht, htne⟩ := h
        have htr : t ∈ r := by
          cases ht with
          | head => exact absurd rfl htne
          | tail _ h' => exact h'
        obtain ⟨u, hu, hune⟩ := ih lim hl ⟨t, htr, htne⟩
        exact ⟨u, by simpa using Or.inr hu, hune⟩
      · exact ⟨s, by simp, hs⟩

/-- `chunks_vectored` of a leaf with one visible chunk (`seg`, `flat`, `cursor`): the current
chunk if there is room for a slice and anything remains.  `chunksVectored b k` unfolds to it by
`rfl` for these three constructors, which is how the lemmas below are applied. -/
def leafSlices (b : BufT) (k : Nat) : List Bs :=
  if k = 0 then [] else if remaining b > 0 then [chunk b] else []

theorem leafSlices_length (b : BufT) (k : Nat) : (leafSlices b k).length ≤ k := by
  unfold leafSlices
  split
  · exact Nat.zero_le _
  · split
    · exact Nat.pos_of_ne_zero ‹_›
    · exact Nat.zero_le _

theorem leafSlices_prefix (b : BufT) (k : Nat) (h : wf b) : (leafSlices b k).flatten <+: den b := by
  unfold leafSlices
  split
  · exact List.nil_prefix
  · split
    · simpa using chunk_prefix' b h
    · exact List.nil_prefix

theorem leafSlices_nil (b : BufT) (k : Nat) (h0 : remaining b = 0) : leafSlices b k = [] := by
  unfold leafSlices
  rw [if_neg (show ¬ remaining b > 0 by omega), ite_self]

theorem leafSlices_nonempty (b : BufT) (k : Nat) (h : wf b) (hr : 0 < remaining b) (hk : 0 < k) :
    ∃ s ∈ leafSlices b k, s ≠ [] := by
  refine ⟨chunk b, ?_, fun e => ?_⟩
  · rw [leafSlices, if_neg (Nat.ne_of_gt hk), if_pos hr]; exact List.mem_singleton_self _
  · have := (chunk_nil_iff' b h).mp e; omega

theorem chunksVectored_nil_of_remaining (b : BufT) (k : Nat) (h : wf b) (h0 : remaining b = 0) :
    chunksVectored b k = [] := by
  induction b generalizing k with
  | seg cs => exact leafSlices_nil (.seg cs) k h0
  | flat f bs => exact leafSlices_nil (.flat f bs) k h0
  | cursor d p => exact leafSlices_nil (.cursor d p) k h0
  | deque s1 s2 => simp only [remaining] at h0; simp [chunksVectored, h0]
  | chain a b iha ihb =>
    obtain ⟨ha, hb, _⟩ := h
    obtain ⟨h0a, h0b⟩ := satAdd_eq_zero_iff.mp h0
    simp [chunksVectored, iha k ha h0a, ihb _ hb h0b]
  | take i lim ih =>
    obtain ⟨hi, _⟩ := h
    simp only [remaining] at h0
    simp only [chunksVectored]
    split
    · rfl
    · rw [ih _ hi (by omega)]; rfl
  | refMut i ih | box i ih => exact ih k h h0

/-- The default `copy_to_slice`: `copyToSlice b n` reduces to this for every `b` but `&[u8]` and
the forwarders. -/
def copyToSliceDefault (b : BufT) (n : Nat) : Res (Bs × BufT) :=
  match tryCopyToSlice b n with
  | .ok (some bs, b') => .ok (bs, b')
  | .ok (none, _) => .panic
  | .panic => .panic

theorem copyToSliceDefault_adv (b : BufT) (n : Nat) (h : wf b) (hn : n ≤ remaining b) :
    ∃ b', copyToSliceDefault b n = .ok ((den b).take n, b') ∧ Adv b n b' := by
  obtain ⟨b', hb', hadv⟩ := tryCopyToSlice_adv b n h hn
  exact ⟨b', by rw [copyToSliceDefault, hb'], hadv⟩

theorem copyToSliceDefault_spec (b : BufT) (n : Nat) (h : wf b) (hn : n ≤ remaining b) :
    ∃ b', copyToSliceDefault b n = .ok ((den b).take n, b') ∧ den b' = (den b).drop n ∧ wf b' := by
  obtain ⟨b', hb', hadv⟩ := copyToSliceDefault_adv b n h hn
  exact ⟨b', hb', hadv.spec h⟩

theorem copyToSliceDefault_panic (b : BufT) (n : Nat) (hn : remaining b < n) :
    copyToSliceDefault b n = .panic := by
  simp only [copyToSliceDefault, tryCopyToSlice, if_pos hn]

theorem copyToBytesDefault_spec (b : BufT) (n : Nat) (h : wf b) (hn : n ≤ remaining b) :
    ∃ b', copyToBytesDefault b n = .ok ((den b).take n, b') ∧ den b' = (den b).drop n ∧ wf b' := by
  obtain ⟨i', l', hd, hadv⟩ := drain_take_ok b n h hn
  exact ⟨i', by rw [copyToBytesDefault, if_neg (Nat.not_lt.mpr hn), hd], hadv.spec h⟩

theorem copyToBytesDefault_panic (b : BufT) (n : Nat) (hn : remaining b < n) :
    copyToBytesDefault b n = .panic := by
  rw [copyToBytesDefault, if_pos hn]

theorem copyToBytes_chain_aux (a b : BufT) (n : Nat) (hw : wf (.chain a b))
    (iha : ∀ n, n ≤ remaining a →
      ∃ a', copyToBytes a n = .ok ((den a).take n, a') ∧ den a' = (den a).drop n ∧ wf a')
    (ihb : ∀ n, n ≤ remaining b →
      ∃ b', copyToBytes b n = .ok ((den b).take n, b') ∧ den b' = (den b).drop n ∧ wf b')
    (hn : n ≤ remaining (.chain a b)) :
    ∃ a' b', copyToBytes (.chain a b) n = .ok ((den a ++ den b).take n, .chain a' b') ∧
      den a' = (den a).drop n ∧ den b' = (den b).drop (n - (den a).length) ∧ wf a' ∧ wf b' := by
  rw [remaining_chain hw] at hn
  obtain ⟨ha, hb, _⟩ := hw
  have ra := remaining_eq' a ha
  -- `eq_3` is the `chain` arm; `simp only [copyToBytes]` would also unfold the calls on `a` and `b`
  rw [← ra, copyToBytes.eq_3]
  by_cases hge : remaining a ≥ n
  · obtain ⟨a', ha', hd, hwa⟩ := iha n hge
    refine ⟨a', b, ?_, hd, by rw [Nat.sub_eq_zero_of_le hge]; rfl, hwa, hb⟩
    rw [if_pos hge, ha', List.take_append_of_le_length (ra ▸ hge)]; rfl
  · rw [if_neg hge]
    by_cases h0 : remaining a = 0
    · have hda : den a = [] := den_nil_of_remaining ha h0
      obtain ⟨b', hb', hd, hwb⟩ := ihb n (by omega)
      refine ⟨a, b', by rw [if_pos h0, hb', hda]; rfl, by rw [hda, List.drop_nil],
        by rw [hd, h0]; rfl, ha, hwb⟩
    · rw [if_neg h0, if_pos (by omega)]
      obtain ⟨x, hx, hxa⟩ := drain_ok (.refMut a) ha
      obtain ⟨a1, rfl, haa⟩ := hxa.refMut_shape a rfl
      obtain ⟨y, l', hy, hya⟩ := drain_take_ok (.refMut b) (n - remaining a) hb
        (show n - remaining a ≤ remaining b by omega)
      obtain ⟨b1, rfl, hbb⟩ := hya.refMut_shape b rfl
      obtain ⟨hda1, hwa1⟩ := haa.spec ha
      obtain ⟨hdb1, hwb1⟩ := hbb.spec hb
      have hla : (den a).length ≤ n := ra ▸ Nat.le_of_not_le hge
      refine ⟨a1, b1, ?_, ?_, hdb1, hwa1, hwb1⟩
      · rw [hx, Res.bind, hy]
        simp only [Res.bind, den]
        rw [List.take_append, List.take_of_length_le hla, ra]
      · rw [show den a1 = (den a).drop (remaining a) from hda1, List.drop_eq_nil_of_le (Nat.le_of_eq ra.symm), List.drop_eq_nil_of_le hla]

theorem copyToBytes_take_aux (i : BufT) (lim n : Nat)
    (ih : ∀ n, n ≤ remaining i →
      ∃ i', copyToBytes i n = .ok ((den i).take n, i') ∧ den i' = (den i).drop n ∧ wf i')
    (hn : n ≤ remaining (.take i lim)) :
    ∃ i', copyToBytes (.take i lim) n = .ok ((den i).take n, .take i' (lim - n)) ∧
      den i' = (den i).drop n ∧ wf i' := by
  simp only [remaining] at hn
  obtain ⟨i', hi', hd, hwi⟩ := ih n (by omega)
  refine ⟨i', ?_, hd, hwi⟩
  simp only [copyToBytes]
  rw [if_pos hn, hi']; rfl

end BytesVerif.Buf
