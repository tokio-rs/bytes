/-
The observation the judge would see if the implementation behaved exactly like M1 (`obsOfModel`,
`evsOfModel`) and the lemmas relating the judge's oracles, evaluated on these observations, to facts
about model states.
-/
import BytesVerif.Judge.Seq
import BytesVerif.Lemmas.Core.Sound
import BytesVerif.Lemmas.Core.PropC07
import BytesVerif.Lemmas.Core.PropC08
import BytesVerif.Lemmas.Core.PropC01
import BytesVerif.Lemmas.Core.PropC16Cfg
namespace BytesVerif.Judge.SeqJ
open BytesVerif.Core BytesVerif.Judge

/-- `ledger::find_block` on a model address `(reg, off)`: the address lies in (or one past the end
of) the live block `r`.  Result: (block serial = region index, offset, block size). -/
def locate (s : St) (reg : Option Nat) (off : Nat) : Option (Nat × Nat × Nat) :=
  match reg with
  | none => none
  | some r =>
    match s.regions[r]? with
    | some rg => if rg.live && off ≤ rg.size then some (r, off, rg.size) else none
    | none => none

/-- one `h` line of the harness (`World::print_handles`):
* `Bytes`: the address is printed when `find_block(ptr)` succeeds; when it fails the line says
  `none` for an empty view and `wild` otherwise;
* `BytesMut`: likewise with "capacity = 0" in place of "empty";
* `Vec`: `none` when the capacity is 0 (dangling pointer), else as above with the base address. -/
def obsOfHandle (s : St) (i : Nat) (h : Handle) : Obs :=
  let c := contentsStr ((viewOf s h).getD [])
  match h with
  | .bytes _ reg off len =>
    let a := locate s reg off
    { id := i, kind := .bytes, blk := a, wild := len != 0 && a.isNone, len := len, cap := none,
      uniq := (match bytesIsUnique h s with | .ok b _ => some b | _ => none), contents := c }
  | .mut _ reg off len cap _ =>
    let a := locate s reg off
    { id := i, kind := .mut, blk := a, wild := cap != 0 && a.isNone, len := len, cap := some cap,
      uniq := none, contents := c }
  | .vec reg len cap =>
    let a := if cap = 0 then none else locate s reg 0
    { id := i, kind := .vec, blk := a, wild := cap != 0 && a.isNone, len := len, cap := some cap,
      uniq := none, contents := c }

/-- the `h` lines after an operation: one per live handle, in slot order -/
def obsOfModel (s : St) : List Obs :=
  (s.hs.zipIdx).filterMap fun (oh, i) => oh.map (obsOfHandle s i)

/-- an allocator event of the model as an `ev` line (tracked, i.e. non-noise; byte buffers have
alignment 1, control blocks alignment 8; the size of a control block is not modelled and never read
by an oracle; owner bookkeeping events are not allocator events) -/
def evtOf : Ev → Option Evt
  | .alloc r z => some { alloc := true, serial := r, size := z, align := 1, noise := false, bad := 0 }
  | .dealloc r z => some { alloc := false, serial := r, size := z, align := 1, noise := false, bad := 0 }
  | .allocCtrl c => some { alloc := true, serial := c, size := 0, align := 8, noise := false, bad := 0 }
  | .deallocCtrl c => some { alloc := false, serial := c, size := 0, align := 8, noise := false, bad := 0 }
  | .ownerAsRef _ | .ownerDrop _ => none

/-- events appended by the step `s → s'` (the model keeps them newest first), oldest first -/
def newEvents (s s' : St) : List Ev := (s'.events.take (s'.events.length - s.events.length)).reverse

def evsOfModel (s s' : St) : List Evt := (newEvents s s').filterMap evtOf

def obsList (F : Nat → Handle → Obs) (l : List (Option Handle)) (k : Nat) : List Obs :=
  (l.zipIdx k).filterMap fun (oh, i) => oh.map (F i)

theorem obsOfModel_eq (s : St) : obsOfModel s = obsList (obsOfHandle s) s.hs 0 := rfl

theorem obsList_nil (F) (k) : obsList F [] k = [] := rfl
theorem obsList_cons_none (F) (l) (k) : obsList F (none :: l) k = obsList F l (k+1) := by
  simp [obsList, List.zipIdx_cons]
theorem obsList_cons_some (F) (h) (l) (k) : obsList F (some h :: l) k = F k h :: obsList F l (k+1) := by
  simp [obsList, List.zipIdx_cons]

theorem find_obsList (F : Nat → Handle → Obs) (hF : ∀ i h, (F i h).id = i) (l : List (Option Handle)) (k i : Nat) :
    (obsList F l k).find? (fun o => o.id == i) =
      if i < k then none else ((l[i - k]?).join).map (F i) := by
  induction l generalizing k with
  | nil => simp [obsList_nil]
  | cons a l ih =>
    have tail : i ≠ k → (obsList F l (k+1)).find? (fun o => o.id == i) =
        if i < k then none else (((a :: l)[i - k]?).join).map (F i) := by
      intro hik
      rw [ih]
      by_cases h1 : i < k
      · rw [if_pos h1, if_pos (Nat.lt_succ_of_lt h1)]
      · rw [if_neg h1, if_neg (by omega), show i - k = (i - (k+1)) + 1 by omega, List.getElem?_cons_succ]
    cases a with
    | none =>
      rw [obsList_cons_none]
      by_cases h2 : i = k
      · subst h2; rw [ih]; simp
      · exact tail h2
    | some h =>
      rw [obsList_cons_some, List.find?_cons, hF]
      by_cases h2 : i = k
      · subst h2; simp
      · rw [show (k == i) = false by simp; omega]; exact tail h2

theorem obsOfHandle_id (s : St) (i : Nat) (h : Handle) : (obsOfHandle s i h).id = i := by
  cases h <;> rfl

theorem findObs_live {s : St} {i : Nat} {x : Handle} (hi : s.hs[i]? = some (some x)) :
    findObs (obsOfModel s) i = some (obsOfHandle s i x) := by
  unfold findObs
  rw [obsOfModel_eq, find_obsList _ (obsOfHandle_id s), Nat.sub_zero, hi]
  rfl

theorem mem_obsOfModel {s : St} {o : Obs} :
    o ∈ obsOfModel s ↔ ∃ i h, s.hs[i]? = some (some h) ∧ o = obsOfHandle s i h := by
  unfold obsOfModel
  simp only [List.mem_filterMap, List.mem_zipIdx_iff_getElem?, Prod.exists]
  constructor
  · rintro ⟨oh, i, hi, ho⟩
    cases oh with
    | none => simp at ho
    | some h => simp at ho; exact ⟨i, h, hi, ho.symm⟩
  · rintro ⟨i, h, hi, rfl⟩
    exact ⟨some h, i, hi, rfl⟩

theorem length_obsList (F) (l : List (Option Handle)) (k : Nat) : (obsList F l k).length = (liveHs l).length := by
  induction l generalizing k with
  | nil => rfl
  | cons a l ih =>
    cases a with
    | none => rw [obsList_cons_none, ih]; simp [liveHs]
    | some h => rw [obsList_cons_some]; simp [liveHs, ih]

/-- the `cap` column -/
def hcapO : Handle → Option Nat
  | .bytes .. => none
  | .mut _ _ _ _ cap _ => some cap
  | .vec _ _ cap => some cap

/-- the number of bytes the handle may touch: `cap.getD len` -/
def extent (h : Handle) : Nat := (hcapO h).getD (hlen h)

theorem obs_len (s : St) (i : Nat) (h : Handle) : (obsOfHandle s i h).len = hlen h := by cases h <;> rfl
theorem obs_cap (s : St) (i : Nat) (h : Handle) : (obsOfHandle s i h).cap = hcapO h := by cases h <;> rfl
theorem obs_kind (s : St) (i : Nat) (h : Handle) : (obsOfHandle s i h).kind = kindOf h := by cases h <;> rfl
theorem obs_contents (s : St) (i : Nat) (h : Handle) :
    (obsOfHandle s i h).contents = contentsStr ((viewOfL s.regions h).getD []) := by
  rw [← viewOf_eq]; cases h <;> rfl
theorem obs_blk (s : St) (i : Nat) (h : Handle) :
    (obsOfHandle s i h).blk =
      if kindOf h = .vec ∧ extent h = 0 then none else locate s (hreg h) (hoff h) := by
  cases h with
  | vec reg len cap =>
    simp only [obsOfHandle, kindOf, hreg, hoff, extent, hcapO, Option.getD_some, true_and]
  | _ => simp [obsOfHandle, kindOf, hreg, hoff]
theorem obs_uniq_mut (s : St) (i : Nat) (h : Handle) (hk : kindOf h ≠ .bytes) :
    (obsOfHandle s i h).uniq = none := by
  cases h <;> first | rfl | exact (hk rfl).elim

theorem locate_some_of {s : St} {r off : Nat} {rg : Region} (hr : s.regions[r]? = some rg)
    (hl : rg.live = true) (hb : off ≤ rg.size) : locate s (some r) off = some (r, off, rg.size) := by
  simp [locate, hr, hl, hb]

theorem locate_eq_some {s : St} {reg : Option Nat} {off r o z : Nat}
    (h : locate s reg off = some (r, o, z)) :
    reg = some r ∧ o = off ∧ ∃ rg, s.regions[r]? = some rg ∧ rg.live = true ∧ off ≤ rg.size ∧ z = rg.size := by
  unfold locate at h
  split at h
  · cases h
  · split at h
    · next rg hr =>
      split at h
      · next hc =>
        simp only [Bool.and_eq_true, decide_eq_true_eq] at hc
        cases h
        exact ⟨rfl, rfl, rg, hr, hc.1, hc.2, rfl⟩
      · cases h
    · cases h

theorem locate_congr {s s' : St} {r : Nat} (off : Nat)
    (h : (s'.regions[r]?).map (fun rg => (rg.live, rg.size)) = (s.regions[r]?).map (fun rg => (rg.live, rg.size))) :
    locate s' (some r) off = locate s (some r) off := by
  cases h1 : s'.regions[r]? with
  | none =>
    rw [h1] at h
    cases h2 : s.regions[r]? with
    | none => simp only [locate, h1, h2]
    | some rg => rw [h2] at h; cases h
  | some rg' =>
    rw [h1] at h
    cases h2 : s.regions[r]? with
    | none => rw [h2] at h; cases h
    | some rg =>
      rw [h2] at h
      simp only [Option.map_some, Option.some.injEq, Prod.mk.injEq] at h
      simp only [locate, h1, h2, h.1, h.2]

theorem locate_same_regions {s s' : St} (h : s'.regions = s.regions) (reg : Option Nat) (off : Nat) :
    locate s' reg off = locate s reg off := by
  unfold locate; rw [h]

theorem locate_of_rd {s : St} {reg : Option Nat} {off len : Nat}
    (h : (rdL s.regions reg off len).isSome = true) (hl : len ≠ 0) :
    ∃ r rg, reg = some r ∧ s.regions[r]? = some rg ∧ rg.live = true ∧ off + len ≤ rg.size ∧
      locate s reg off = some (r, off, rg.size) := by
  obtain ⟨v, hv⟩ := Option.isSome_iff_exists.mp h
  rcases rdL_eq_some_iff.mp hv with ⟨h0, _⟩ | ⟨_, r, rg, rfl, hr, hlv, hb, _⟩
  · exact (hl h0).elim
  · exact ⟨r, rg, rfl, hr, hlv, hb, locate_some_of hr hlv (by omega)⟩

theorem extent_eq (s : St) (i : Nat) (h : Handle) :
    (obsOfHandle s i h).cap.getD (obsOfHandle s i h).len = extent h := by
  rw [obs_cap, obs_len]; rfl

theorem obs_wild (s : St) (i : Nat) (h : Handle) :
    (obsOfHandle s i h).wild = (extent h != 0 && (obsOfHandle s i h).blk.isNone) := by
  cases h with
  | vec reg len cap => simp only [obsOfHandle, extent, hcapO, Option.getD_some]
  | _ => rfl

theorem locate_of_blk {s : St} {i : Nat} {h : Handle} {r o z : Nat}
    (hb : (obsOfHandle s i h).blk = some (r, o, z)) : locate s (hreg h) (hoff h) = some (r, o, z) := by
  rw [obs_blk] at hb
  split at hb
  · cases hb
  · exact hb

/-- the span of a handle, read off its observation as `boundsOracle` reads it -/
theorem span_of_blk {s : St} {i : Nat} {h : Handle} {r o z : Nat}
    (hb : (obsOfHandle s i h).blk = some (r, o, z)) :
    span h = some (r, o, if (obsOfHandle s i h).kind == .bytes then (obsOfHandle s i h).len
      else (obsOfHandle s i h).cap.getD 0) := by
  obtain ⟨h1, h2, _⟩ := locate_eq_some (locate_of_blk hb)
  cases h <;> (simp only [hreg, hoff] at h1 h2; subst h1 h2; rfl)

section HandleInv
variable {s : St} (hI : Inv s) {i : Nat} {h : Handle} (hi : s.hs[i]? = some (some h))
include hI hi

theorem located_of_span {r o c : Nat} (hm : isMutable h = true) (hs : span h = some (r, o, c)) :
    ∃ z, locate s (some r) o = some (r, o, z) ∧ o + c ≤ z := by
  obtain ⟨rg, _, hr, hl, _, hb⟩ := hI.span_le_size hi hm hs
  exact ⟨rg.size, locate_some_of hr hl (by omega), hb⟩

theorem located_of_inv (he : extent h ≠ 0) :
    ∃ r z, hreg h = some r ∧ locate s (hreg h) (hoff h) = some (r, hoff h, z) ∧ hoff h + extent h ≤ z := by
  have hok := hI.hok i h hi
  cases h with
  | bytes repr reg off len =>
    obtain ⟨r, rg, h1, h2, h3, h4, h5⟩ := locate_of_rd (handleOKL_rd hok) he
    exact ⟨r, rg.size, h1, h5, h4⟩
  | «mut» arc reg off len cap orig =>
    cases reg with
    | some r =>
      obtain ⟨z, h1, h2⟩ := located_of_span hI hi rfl rfl
      exact ⟨r, z, rfl, h1, h2⟩
    | none =>
      exact (he (mut_none_cap hI hi)).elim
  | vec reg len cap =>
    cases reg with
    | some r =>
      obtain ⟨z, h1, h2⟩ := located_of_span hI hi rfl rfl
      exact ⟨r, z, rfl, h1, h2⟩
    | none =>
      exfalso
      simp only [extent, hcapO, Option.getD_some] at he
      have := (handleOKL_vec.mp hok).2.1; simp only at this; omega

theorem hlen_le_hcap {c : Nat} (hc : hcapO h = some c) : hlen h ≤ c := by
  have hok := hI.hok i _ hi
  cases h with
  | bytes repr reg off len => cases hc
  | «mut» arc reg off len cap orig =>
    cases hc
    exact mut_len_le_cap hok
  | vec reg len cap =>
    cases hc
    exact (handleOKL_vec.mp hok).1

theorem extent_ne_zero (hl : hlen h ≠ 0) : extent h ≠ 0 := by
  unfold extent
  cases hc : hcapO h with
  | none => exact hl
  | some c => have := hlen_le_hcap hI hi hc; simp only [Option.getD_some]; omega

theorem hlen_le_isizeMax : hlen h ≤ isizeMax := by
  by_cases h0 : hlen h = 0
  · omega
  · obtain ⟨r, rg, _, hr, _, hb, _⟩ := locate_of_rd (handleOKL_rd (hI.hok i h hi)) h0
    have := (region_size_le hI.regs hr).1
    omega

end HandleInv

theorem bytes_bound {s : St} (hI : Inv s) {i : Nat} {repr : BRepr} {reg : Option Nat} {off len : Nat}
    (hi : s.hs[i]? = some (some (.bytes repr reg off len))) {r o z : Nat}
    (h : locate s reg off = some (r, o, z)) : o + len ≤ z := by
  by_cases hl : len = 0
  · obtain ⟨_, h2, rg, _, _, h5, h6⟩ := locate_eq_some h
    omega
  · obtain ⟨r', rg, _, _, _, h4, h5⟩ := locate_of_rd (handleOKL_rd (hI.hok i _ hi)) hl
    simp only [hreg, hoff, hlen] at h4 h5
    rw [h5] at h; cases h; exact h4

theorem obs_uniq_bytes {s : St} (hI : Inv s) {i : Nat} {repr : BRepr} {reg : Option Nat} {off len : Nat}
    (hi : s.hs[i]? = some (some (.bytes repr reg off len))) :
    (obsOfHandle s i (.bytes repr reg off len)).uniq = some (PropC08.uniqueB s repr) := by
  simp only [obsOfHandle, PropC08.bytesIsUnique_eq hI hi]

section NoP
variable {α β : Type}

/-- `m` never panics (it may return or be `ub`) -/
def NoP (m : M α) : Prop := ∀ s s', m s ≠ .panic s'
def NoPAt (m : M α) (s : St) : Prop := ∀ s', m s ≠ .panic s'
/-- a panic of `m` from `s` leaves `s` -/
def PS (m : M α) (s : St) : Prop := ∀ s', m s = .panic s' → s' = s

theorem NoP.at {m : M α} (h : NoP m) (s : St) : NoPAt m s := h s
theorem NoPAt.ps {m : M α} {s : St} (h : NoPAt m s) : PS m s := fun s' hp => (h s' hp).elim

theorem NoPAt_of_ok {α : Type} {m : M α} {s s1 : St} {a : α} (h : m s = .ok a s1) : NoPAt m s := by
  intro s' hp; rw [h] at hp; cases hp

theorem NoPAt.bind {m : M α} {f : α → M β} {s : St} (hm : NoPAt m s)
    (hf : ∀ a s1, m s = .ok a s1 → NoPAt (f a) s1) : NoPAt (m >>= f) s := by
  intro s' h
  simp only [bind_apply] at h
  cases hm' : m s with
  | ok a s1 => rw [hm'] at h; exact hf a s1 hm' s' h
  | panic s1 => exact hm s1 hm'
  | ub w s1 => rw [hm'] at h; cases h

theorem NoP.bind {m : M α} {f : α → M β} (hm : NoP m) (hf : ∀ a, NoP (f a)) : NoP (m >>= f) :=
  fun s => (hm.at s).bind fun a s1 _ => (hf a).at s1

theorem NoP.pure (a : α) : NoP (pure a : M α) := by intro s s' h; cases h
theorem NoP.ub (w : String) : NoP (ub w : M α) := by intro s s' h; cases h
theorem NoP.ite {c : Prop} [Decidable c] {m1 m2 : M α} (h1 : NoP m1) (h2 : NoP m2) :
    NoP (if c then m1 else m2) := by
  split
  · exact h1
  · exact h2
theorem NoP.modify (f : St → St) : NoP (modify f) := by intro s s' h; cases h
theorem NoP.get : NoP get := by intro s s' h; cases h
theorem NoP.emit (e : Ev) : NoP (Core.emit e) := NoP.modify _

theorem PS.bindN {m : M α} {f : α → M β} {s : St} (hm : PS m s)
    (hf : ∀ a s1, m s = .ok a s1 → NoPAt (f a) s1) : PS (m >>= f) s := by
  intro s' h
  simp only [bind_apply] at h
  cases hm' : m s with
  | ok a s1 => rw [hm'] at h; exact (hf a s1 hm' s' h).elim
  | panic s1 => rw [hm'] at h; cases h; exact hm _ hm'
  | ub w s1 => rw [hm'] at h; cases h

theorem PS.bindR {m : M α} {f : α → M β} {s : St} (hm : PS m s)
    (hf : ∀ a s1, m s = .ok a s1 → s1 = s ∧ PS (f a) s) : PS (m >>= f) s := by
  intro s' h
  simp only [bind_apply] at h
  cases hm' : m s with
  | ok a s1 =>
    rw [hm'] at h
    obtain ⟨rfl, hp⟩ := hf a s1 hm'
    exact hp s' h
  | panic s1 => rw [hm'] at h; cases h; exact hm _ hm'
  | ub w s1 => rw [hm'] at h; cases h

theorem PS.panic (s : St) : PS (panic : M α) s := by intro s' h; cases h; rfl

theorem NoP_getRegion (r : Nat) : NoP (getRegion r) := by
  intro s s' h; unfold getRegion at h; split at h <;> cases h
theorem NoP_setRegion (r : Nat) (rg : Region) : NoP (setRegion r rg) := NoP.modify _
theorem NoP_allocRegion (e : Env) (z : Nat) (d : List (Option Byte)) : NoP (allocRegion e z d) := by
  intro s s' h; cases h
theorem NoP_getCtrl (c : Nat) : NoP (getCtrl c) := by
  intro s s' h; unfold getCtrl at h
  split at h
  · split at h <;> cases h
  · cases h
theorem NoP_setCtrl (c : Nat) (e : CtrlE) : NoP (setCtrl c e) := NoP.modify _
theorem NoP_newCtrl (ct : Ctrl) (rc : Nat) : NoP (newCtrl ct rc) := by intro s s' h; cases h
theorem NoP_newHandle (h : Handle) : NoP (newHandle h) := by intro s s' h'; cases h'
theorem NoP_setHandle (i : Nat) (h : Handle) : NoP (setHandle i h) := NoP.modify _
theorem NoP_killHandle (i : Nat) : NoP (killHandle i) := NoP.modify _

theorem NoP_register {α : Type} (h : Handle) (f : Nat → α) : NoP (newHandle h >>= fun j => pure (f j)) :=
  (NoP_newHandle _).bind fun _ => NoP.pure _
theorem NoP_store {α : Type} (i : Nat) (h : Handle) (a : α) : NoP (setHandle i h >>= fun _ => pure a) :=
  (NoP_setHandle _ _).bind fun _ => NoP.pure _

theorem NoP_freeCtrl (c : Nat) : NoP (freeCtrl c) :=
  (NoP_getCtrl c).bind fun _ => (NoP_setCtrl _ _).bind fun _ => NoP.emit _
theorem NoP_incCtrl (c : Nat) : NoP (incCtrl c) := (NoP_getCtrl c).bind fun _ => NoP_setCtrl _ _
theorem NoP_ctrlIsUnique (c : Nat) : NoP (ctrlIsUnique c) := (NoP_getCtrl c).bind fun _ => NoP.pure _

theorem NoP_freeRegion (r z : Nat) : NoP (freeRegion r z) := by
  unfold freeRegion
  refine (NoP_getRegion r).bind fun rg => ?_
  refine NoP.ite (NoP.ub _) (NoP.ite (NoP.ub _) ?_)
  split
  · exact (NoP_setRegion _ _).bind fun _ => NoP.emit _
  · exact NoP.ub _

theorem NoP_readRange (reg : Option Nat) (off len : Nat) : NoP (readRange reg off len) := by
  unfold readRange
  refine NoP.ite (NoP.pure _) ?_
  split
  · exact NoP.ub _
  · refine (NoP_getRegion _).bind fun rg => NoP.ite (NoP.ub _) (NoP.ite (NoP.ub _) ?_)
    dsimp only
    split
    · exact NoP.pure _
    · exact NoP.ub _

theorem NoP_writeRange (reg : Option Nat) (off : Nat) (bs : List Byte) : NoP (writeRange reg off bs) := by
  unfold writeRange
  refine NoP.ite (NoP.pure _) ?_
  split
  · exact NoP.ub _
  · refine (NoP_getRegion _).bind fun rg => NoP.ite (NoP.ub _) (NoP.ite (NoP.ub _) ?_)
    split
    · exact NoP_setRegion _ _
    · exact NoP.ub _

theorem NoP_copyWithin (reg : Option Nat) (a b n : Nat) : NoP (copyWithin reg a b n) :=
  NoP.ite (NoP.pure _) ((NoP_readRange _ _ _).bind fun _ => NoP_writeRange _ _ _)

theorem NoP_vecFree (reg : Option Nat) (cap : Nat) : NoP (vecFree reg cap) := by
  unfold vecFree
  split
  · exact NoP.ite (NoP.pure _) (NoP.ub _)
  · exact NoP.ite (NoP.ub _) (NoP_freeRegion _ _)

theorem NoP_releaseCtrl (c : Nat) : NoP (releaseCtrl c) := by
  unfold releaseCtrl
  refine (NoP_getCtrl c).bind fun e => ?_
  refine NoP.ite (NoP.ub _) (NoP.ite (NoP_setCtrl _ _) ?_)
  refine (NoP_setCtrl _ _).bind fun _ => ?_
  split
  · exact (NoP_freeRegion _ _).bind fun _ => NoP_freeCtrl _
  · exact (NoP_vecFree _ _).bind fun _ => NoP_freeCtrl _
  · exact (NoP.emit _).bind fun _ => (NoP.modify _).bind fun _ => NoP_freeCtrl _

theorem NoP_regionOdd (r : Option Nat) : NoP (regionOdd r) := by
  unfold regionOdd
  split
  · exact NoP.pure _
  · refine (NoP_getRegion _).bind fun rg => ?_
    split <;> exact NoP.pure _

theorem NoP_promDecode (vt : Bool) (reg : Option Nat) : NoP (promDecode vt reg) :=
  (NoP_regionOdd _).bind fun _ => NoP.ite (NoP.pure _) (NoP.ub _)

theorem NoP_bytesFromVec (reg : Option Nat) (len cap : Nat) : NoP (bytesFromVec reg len cap) := by
  unfold bytesFromVec
  refine NoP.ite (NoP.ite (NoP.pure _) ((NoP_regionOdd _).bind fun _ => NoP.pure _)) ?_
  split
  · exact NoP.ub _
  · exact (NoP_newCtrl _ _).bind fun _ => NoP.pure _

theorem NoP_takeSharedB (c : Nat) : NoP (takeSharedB c) := by
  unfold takeSharedB
  refine (NoP_getCtrl c).bind fun e => ?_
  split
  · exact (NoP_setCtrl _ _).bind fun _ => (NoP_freeCtrl _).bind fun _ => NoP.pure _
  · exact NoP.ub _

theorem NoP_bytesDrop (repr : BRepr) (reg : Option Nat) (off len : Nat) :
    NoP (bytesDrop (.bytes repr reg off len)) := by
  cases repr with
  | «static» => exact NoP.pure _
  | owned c | shared c | sharedV c => exact NoP_releaseCtrl _
  | prom vt oc =>
    cases oc with
    | some c => exact NoP_releaseCtrl _
    | none =>
      cases reg with
      | none => exact NoP.ub _
      | some r => exact (NoP_promDecode _ _).bind fun _ => NoP_freeRegion _ _

theorem NoP_mutDrop (arc reg : Option Nat) (off len cap orig : Nat) :
    NoP (mutDrop (.mut arc reg off len cap orig)) := by
  cases arc with
  | none => exact NoP_vecFree _ _
  | some c => exact NoP_releaseCtrl _

theorem NoP_bytesIsUnique (repr : BRepr) (reg : Option Nat) (off len : Nat) :
    NoP (bytesIsUnique (.bytes repr reg off len)) := by
  cases repr with
  | «static» | owned c => exact NoP.pure _
  | shared c | sharedV c => exact NoP_ctrlIsUnique _
  | prom vt oc => cases oc <;> first | exact NoP.pure _ | exact NoP_ctrlIsUnique _

/-- the release profile: unchecked arithmetic wraps, `debug_assert!` is compiled out -/
def cfg0 : Cfg := ⟨false, false⟩

theorem NoP_dassert0 (b : Bool) : NoP (dassert cfg0 b) := NoP.pure _
theorem NoP_usub0 (a b : Nat) : NoP (usub cfg0 a b) := NoP.ite (NoP.pure _) (NoP.pure _)
theorem NoP_uadd0 (a b : Nat) : NoP (uadd cfg0 a b) := NoP.ite (NoP.pure _) (NoP.pure _)

theorem NoP_mutAdvance0 (arc reg : Option Nat) (off len cap orig k : Nat) :
    NoP (mutAdvanceUnchecked cfg0 (.mut arc reg off len cap orig) k) := by
  unfold mutAdvanceUnchecked
  refine NoP.ite (NoP.pure _) ?_
  refine (NoP_dassert0 _).bind fun _ => (NoP_usub0 _ _).bind fun _ => ?_
  cases arc with
  | none => exact NoP.ite (NoP.pure _) ((NoP_newCtrl _ _).bind fun _ => NoP.pure _)
  | some c => exact NoP.pure _

theorem NoP_mutShallowClone (arc reg : Option Nat) (off len cap orig : Nat) :
    NoP (mutShallowClone (.mut arc reg off len cap orig)) := by
  cases arc with
  | some c => exact (NoP_incCtrl _).bind fun _ => NoP.pure _
  | none =>
    unfold mutShallowClone mutPromote
    exact ((NoP_newCtrl _ _).bind fun _ => NoP.pure _).bind fun _ => NoP.pure _

theorem vecNew_panic {e : Env} {bs : List Byte} {cap : Nat} {s s' : St}
    (h : vecNew e bs cap s = .panic s') : s' = s ∧ cap > isizeMax := by
  unfold vecNew at h
  split at h
  · cases h
  · split at h
    · next hc => cases h; exact ⟨rfl, hc⟩
    · simp only [bind_apply, allocRegion_apply, pure_apply] at h; cases h

theorem NoP_vecNew (e : Env) (bs : List Byte) {cap : Nat} (hc : cap ≤ isizeMax) : NoP (vecNew e bs cap) := by
  intro s s' h
  have := (vecNew_panic h).2
  omega

theorem toVecCopy_ok {e : Env} {reg : Option Nat} {off len : Nat} {s s1 : St} {v : Handle}
    (h : toVecCopy e reg off len s = .ok v s1) : ∃ r, v = .vec r len len := by
  unfold toVecCopy at h
  obtain ⟨bs, s2, _, h⟩ := ok_of_bind h
  obtain ⟨r, s3, _, h⟩ := ok_of_bind h
  cases h
  exact ⟨r, rfl⟩

theorem NoP_toVecCopy (e : Env) (reg : Option Nat) (off : Nat) {len : Nat} (hl : len ≤ isizeMax) :
    NoP (toVecCopy e reg off len) :=
  (NoP_readRange _ _ _).bind fun _ => (NoP_vecNew e _ hl).bind fun _ => NoP.pure _

theorem NoP_toVecCopy_then {α : Type} (e : Env) (reg : Option Nat) (off : Nat) {len : Nat} (hl : len ≤ isizeMax)
    (k : Handle → M α) (hk : ∀ r, NoP (k (.vec r len len))) :
    NoP (toVecCopy e reg off len >>= k) := by
  intro s
  refine ((NoP_toVecCopy e reg off hl).at s).bind fun a s1 h => ?_
  obtain ⟨r, rfl⟩ := toVecCopy_ok h
  exact (hk r).at s1

/-- the fallback of every conversion of a shared `Bytes`: copy the bytes out, give up the reference -/
theorem NoP_copyRelease {α : Type} (e : Env) (reg : Option Nat) (off : Nat) {len : Nat} (hl : len ≤ isizeMax)
    (c : Nat) (k : Handle → M α) (hk : ∀ r, NoP (k (.vec r len len))) :
    NoP (toVecCopy e reg off len >>= fun v => releaseCtrl c >>= fun _ => k v) :=
  NoP_toVecCopy_then e reg off hl _ fun r => (NoP_releaseCtrl c).bind fun _ => hk r

/-- `Bytes → BytesMut` only panics on capacity overflow -/
theorem NoP_bytesIntoMut0 (e : Env) (repr : BRepr) (reg : Option Nat) (off : Nat) {len : Nat}
    (hl : len ≤ isizeMax) : NoP (bytesIntoMut cfg0 e (.bytes repr reg off len)) := by
  have copy := fun c => NoP_copyRelease e reg off hl c
    (fun v => match v with | .vec r l cp => (pure (mutFromVec r l cp) : M Handle) | _ => panic)
    fun r => NoP.pure _
  cases repr with
  | «static» => exact NoP_toVecCopy_then e reg off hl _ fun r => NoP.pure _
  | owned c => exact copy c
  | shared c =>
    exact (NoP_ctrlIsUnique c).bind fun u => NoP.ite
      ((NoP_takeSharedB c).bind fun p => NoP_mutAdvance0 _ _ _ _ _ _ _) (copy c)
  | sharedV c =>
    refine (NoP_ctrlIsUnique c).bind fun u => NoP.ite ((NoP_getCtrl c).bind fun ce => ?_) (copy c)
    split
    · exact NoP.pure _
    · exact NoP.ub _
  | prom vt oc =>
    cases oc with
    | some c =>
      exact (NoP_ctrlIsUnique c).bind fun u => NoP.ite
        ((NoP_takeSharedB c).bind fun p => NoP_mutAdvance0 _ _ _ _ _ _ _) (copy c)
    | none => exact (NoP_promDecode _ _).bind fun _ => NoP_mutAdvance0 _ _ _ _ _ _ _

theorem NoP_bytesIntoVec (e : Env) (repr : BRepr) (reg : Option Nat) (off : Nat) {len : Nat}
    (hl : len ≤ isizeMax) : NoP (bytesIntoVec e (.bytes repr reg off len)) := by
  have copy := fun c => NoP_copyRelease e reg off hl c pure fun r => NoP.pure _
  cases repr with
  | «static» => exact NoP_toVecCopy e reg off hl
  | owned c => exact copy c
  | shared c =>
    exact (NoP_ctrlIsUnique c).bind fun u => NoP.ite
      ((NoP_takeSharedB c).bind fun p => (NoP_copyWithin _ _ _ _).bind fun _ => NoP.pure _) (copy c)
  | sharedV c =>
    refine (NoP_ctrlIsUnique c).bind fun u => NoP.ite ((NoP_getCtrl c).bind fun ce => ?_) (copy c)
    split
    · exact (NoP_setCtrl _ _).bind fun _ => (NoP_releaseCtrl c).bind fun _ =>
        (NoP_copyWithin _ _ _ _).bind fun _ => NoP.pure _
    · exact NoP.ub _
  | prom vt oc =>
    cases oc with
    | some c =>
      exact (NoP_ctrlIsUnique c).bind fun u => NoP.ite
        ((NoP_takeSharedB c).bind fun p => (NoP_copyWithin _ _ _ _).bind fun _ => NoP.pure _) (copy c)
    | none => exact (NoP_promDecode _ _).bind fun _ => (NoP_copyWithin _ _ _ _).bind fun _ => NoP.pure _

end NoP

def kindAt (s : St) (i : Nat) : Option Kind := ((s.hs[i]?).join).map kindOf

/-- What Rust's type system (and the harness) guarantees about a call: the operand slots hold live
handles of a type that has the method; `unsplit` consumes a second, different `BytesMut`.  The model
treats everything else as a rejected call (`panic`). -/
def typedB (op : Op) (s : St) : Bool :=
  let k := kindAt s
  match op with
  | .fromStatic _ | .newVec .. | .copyFromSlice _ | .fromOwner .. | .mutWithCapacity _ | .mutFromSlice _
  | .mutZeroed _ => true
  | .fromVec i => k i == some .vec
  | .clone i | .truncate i _ | .clear i | .drop i => (k i).isSome
  | .slice i _ _ | .isUnique i | .tryIntoMut i | .intoMut i => k i == some .bytes
  | .splitOff i _ | .splitTo i _ | .advance i _ | .intoVec i => k i == some .bytes || k i == some .mut
  | .split i | .freeze i | .reserve i _ | .tryReclaim i _ | .extend i _ | .resize i _ _ | .setByte i _ _
  | .fillSpare i _ => k i == some .mut
  | .unsplit i j => i != j && k i == some .mut && k j == some .mut

def Typed (op : Op) (s : St) : Prop := typedB op s = true

instance (op : Op) (s : St) : Decidable (Typed op s) := by unfold Typed; infer_instance

theorem kindAt_some {s : St} {i : Nat} {k : Kind} (h : kindAt s i = some k) :
    ∃ x, s.hs[i]? = some (some x) ∧ kindOf x = k := by
  obtain ⟨x, hx, hk⟩ := Option.map_eq_some_iff.mp h
  exact ⟨x, Option.join_eq_some_iff.mp hx, hk⟩

theorem kindAt_isSome {s : St} {i : Nat} (h : (kindAt s i).isSome = true) :
    ∃ x, s.hs[i]? = some (some x) := by
  obtain ⟨k, hk⟩ := Option.isSome_iff_exists.mp h
  obtain ⟨x, hx, _⟩ := kindAt_some hk
  exact ⟨x, hx⟩

theorem kindAt_bytes {s : St} {i : Nat} (h : (kindAt s i == some .bytes) = true) :
    ∃ repr reg off len, s.hs[i]? = some (some (.bytes repr reg off len)) := by
  obtain ⟨x, hx, hk⟩ := kindAt_some (eq_of_beq h)
  cases x with
  | bytes repr reg off len => exact ⟨_, _, _, _, hx⟩
  | _ => cases hk

theorem kindAt_mut {s : St} {i : Nat} (h : (kindAt s i == some .mut) = true) :
    ∃ arc reg off len cap orig, s.hs[i]? = some (some (.mut arc reg off len cap orig)) := by
  obtain ⟨x, hx, hk⟩ := kindAt_some (eq_of_beq h)
  cases x with
  | «mut» arc reg off len cap orig => exact ⟨_, _, _, _, _, _, hx⟩
  | _ => cases hk

theorem kindAt_vec {s : St} {i : Nat} (h : (kindAt s i == some .vec) = true) :
    ∃ reg len cap, s.hs[i]? = some (some (.vec reg len cap)) := by
  obtain ⟨x, hx, hk⟩ := kindAt_some (eq_of_beq h)
  cases x with
  | vec reg len cap => exact ⟨_, _, _, hx⟩
  | _ => cases hk

theorem kindAt_live {s : St} {i : Nat} {k : Kind} (h : (kindAt s i == some k) = true) :
    ∃ x, s.hs[i]? = some (some x) := by
  obtain ⟨x, hx, _⟩ := kindAt_some (eq_of_beq h)
  exact ⟨x, hx⟩

theorem typed_unsplit {s : St} {i j : Nat} (ht : Typed (.unsplit i j) s) :
    i ≠ j ∧ ∃ arc reg off len cap orig oarc oreg ooff olen ocap oorig,
      s.hs[i]? = some (some (.mut arc reg off len cap orig)) ∧
      s.hs[j]? = some (some (.mut oarc oreg ooff olen ocap oorig)) := by
  simp only [Typed, typedB, Bool.and_eq_true, bne_iff_ne, ne_eq] at ht
  obtain ⟨⟨hij, hki⟩, hkj⟩ := ht
  obtain ⟨arc, reg, off, len, cap, orig, hi⟩ := kindAt_mut hki
  obtain ⟨oarc, oreg, ooff, olen, ocap, oorig, hj⟩ := kindAt_mut hkj
  exact ⟨hij, _, _, _, _, _, _, _, _, _, _, _, _, hi, hj⟩

section PanicIff
variable {α : Type} {m m' : M α} {s : St} {C c : Prop}

/-- `m` panics from `s` exactly when `C` holds, and then nothing has happened -/
def PanicIff (m : M α) (s : St) (C : Prop) : Prop :=
  (C → m s = .panic s) ∧ ∀ s', m s = .panic s' → s' = s ∧ C

theorem PanicIff.ps (h : PanicIff m s C) : PS m s := fun s' hp => (h.2 s' hp).1

theorem PanicIff.never (h : NoPAt m s) : PanicIff m s False :=
  ⟨fun hc => hc.elim, fun s' hp => (h s' hp).elim⟩

theorem PanicIff.guard [Decidable c] (h : PanicIff m s C) :
    PanicIff (if c then panic else m) s (c ∨ C) := by
  unfold PanicIff
  by_cases hc : c
  · rw [if_pos hc]
    exact ⟨fun _ => rfl, fun s' hp => by cases hp; exact ⟨rfl, .inl hc⟩⟩
  · rw [if_neg hc]
    exact ⟨fun hC => h.1 (hC.resolve_left hc), fun s' hp => ⟨(h.2 s' hp).1, .inr (h.2 s' hp).2⟩⟩

theorem PanicIff.guard_nop [Decidable c] (h : NoPAt m s) : PanicIff (if c then panic else m) s c := by
  unfold PanicIff
  by_cases hc : c
  · rw [if_pos hc]
    exact ⟨fun _ => rfl, fun s' hp => by cases hp; exact ⟨rfl, hc⟩⟩
  · rw [if_neg hc]
    exact ⟨fun hC => (hc hC).elim, fun s' hp => (h s' hp).elim⟩

theorem PanicIff.of_eq (h : m s = m' s) (hm : PanicIff m' s C) : PanicIff m s C := by
  unfold PanicIff; rw [h]; exact hm

theorem PanicIff.of_panic (h : m s = .panic s) (hc : C) : PanicIff m s C :=
  ⟨fun _ => h, fun s' hp => by rw [h] at hp; cases hp; exact ⟨rfl, hc⟩⟩

theorem PanicIff.of_ok {a : α} {s1 : St} (h : m s = .ok a s1) (hc : ¬ C) : PanicIff m s C :=
  ⟨fun hc' => (hc hc').elim, fun s' hp => by rw [h] at hp; cases hp⟩

theorem NoPAt.of_eq (h : m s = m' s) (hm : NoPAt m' s) : NoPAt m s := by
  unfold NoPAt; rw [h]; exact hm

theorem PS.of_eq (h : m s = m' s) (hm : PS m' s) : PS m s := by
  unfold PS; rw [h]; exact hm

end PanicIff

section BytesOperand
variable {s : St} {i : Nat} {repr : BRepr} {reg : Option Nat} {off len : Nat}
  (hi : s.hs[i]? = some (some (.bytes repr reg off len)))
include hi

theorem splitOff_bytes_spec (cfg : Cfg) (e : Env) (hI : Inv s) (k : Nat) :
    (k > len ∧ Core.step cfg e (.splitOff i k) s = .panic s) ∨
    (k ≤ len ∧ ∃ (s1 : St) (repr' orepr : BRepr),
      Core.step cfg e (.splitOff i k) s = .ok (.handle s.hs.length) s1 ∧
      s1.hs = s.hs.set i (some (.bytes repr' reg off k)) ++ [some (.bytes orepr reg (off + k) (len - k))] ∧
      s1.regions = s.regions) := by
  have h0 : Core.step cfg e (.splitOff i k) s =
      (bytesSplitOffCore i k >>= fun o => newHandle o >>= fun j => pure (.handle j)) s :=
    getHandle_bind_eq hi _
  rcases OpsB.bytesSplitOffCore_spec hI hi k with ⟨hk, heq⟩ | ⟨hk, repr', orepr, C', ev, heq, _⟩
  · exact .inl ⟨hk, by rw [h0, bind_apply, heq]⟩
  · refine .inr ⟨hk, ⟨s.regions, C', _, s.owners, ev⟩, repr', orepr, ?_, rfl, rfl⟩
    rw [h0, bind_apply, heq]
    simp only [bind_apply, newHandle_apply, pure_apply, List.length_set]

theorem splitTo_bytes_spec (cfg : Cfg) (e : Env) (hI : Inv s) (k : Nat) :
    (k > len ∧ Core.step cfg e (.splitTo i k) s = .panic s) ∨
    (k ≤ len ∧ ∃ (s1 : St) (repr' crepr : BRepr),
      Core.step cfg e (.splitTo i k) s = .ok (.handle s.hs.length) s1 ∧
      s1.hs = s.hs.set i (some (.bytes repr' reg (off + k) (len - k))) ++ [some (.bytes crepr reg off k)] ∧
      s1.regions = s.regions) := by
  rw [show Core.step cfg e (.splitTo i k) s = _ from getHandle_bind_eq hi _]
  by_cases h1 : k = len
  · subst h1
    refine .inr ⟨Nat.le_refl _, ⟨s.regions, s.ctrls, _, s.owners, s.events⟩, .static, repr, ?_, rfl, rfl⟩
    simp [emptyWithPtr]
  by_cases h2 : k = 0
  · subst h2
    refine .inr ⟨Nat.zero_le _, ⟨s.regions, s.ctrls, _, s.owners, s.events⟩, repr, .static, ?_, rfl, rfl⟩
    simp [emptyWithPtr, set_self hi, h1]
  by_cases h3 : k > len
  · exact .inl ⟨h3, by simp only [h1, h2, h3, if_false, if_true, ite_apply', panic_apply]⟩
  obtain ⟨repr', crepr, C', ev, heq, _⟩ := bytesClone_spec hI hi
  have hg : getHandle i ⟨s.regions, C', s.hs.set i (some (.bytes repr' reg off len)), s.owners, ev⟩
      = .ok (.bytes repr' reg off len) _ := getHandle_eq (lookup_set_eq _ hi)
  refine .inr ⟨by omega, ⟨s.regions, C', _, s.owners, ev⟩, repr', crepr, ?_, rfl, rfl⟩
  simp only [h1, h2, h3, if_false, ite_apply', bind_apply, heq, hg, setHandle_apply, newHandle_apply,
    pure_apply, List.set_set, List.length_set]

end BytesOperand

section AnyOperand
variable {s : St} {i : Nat} {x : Handle} (hi : s.hs[i]? = some (some x))
include hi

theorem NoPAt_opTruncate (hI : Inv s) (n : Nat) : NoPAt (opTruncate i n) s := by
  refine .of_eq (getHandle_bind_eq hi _) ?_
  cases x with
  | bytes repr reg off len =>
    show NoPAt (if n < len then _ else _) s
    split
    · next hn =>
      cases repr with
      | prom vt oc =>
        -- `drop(self.split_off(n))`
        rcases OpsB.bytesSplitOffCore_spec hI hi n with ⟨hk, _⟩ | ⟨hk, repr', orepr, C', ev, heq, _⟩
        · omega
        · refine (NoPAt_of_ok heq).bind fun o s1 ho => ?_
          rw [heq] at ho; cases ho
          exact ((NoP_bytesDrop _ _ _ _).bind fun _ => NoP.pure _).at _
      | _ => exact (NoP_store _ _ _).at s
    · exact (NoP.pure _).at s
  | _ => exact (NoP.ite (NoP_store _ _ _) (NoP.pure _)).at s

theorem nop_intoVec (e : Env) (hI : Inv s) (hk : kindOf x ≠ .vec) :
    NoPAt (Core.step cfg0 e (.intoVec i)) s := by
  refine .of_eq (getHandle_bind_eq hi _) ?_
  have hl := hlen_le_isizeMax hI hi
  cases x with
  | bytes repr reg off len =>
    exact ((NoP_bytesIntoVec e repr reg off hl).bind fun _ => NoP_store _ _ _).at s
  | «mut» arc reg off len cap orig =>
    cases arc with
    | none =>
      exact ((NoP_copyWithin _ _ _ _).bind fun _ => NoP_store _ _ _).at s
    | some c =>
      refine ((NoP_getCtrl c).bind fun ce => NoP.ite ?_ ?_).at s
      · split
        · exact (NoP_setCtrl _ _).bind fun _ => (NoP_releaseCtrl c).bind fun _ =>
            (NoP_copyWithin _ _ _ _).bind fun _ => NoP_store _ _ _
        · exact NoP.ub _
      · exact (NoP_toVecCopy e reg off hl).bind fun _ => (NoP_releaseCtrl c).bind fun _ =>
          NoP_store _ _ _
  | vec reg len cap => exact (hk rfl).elim

end AnyOperand

theorem NoPAt_mutSplit {α : Type} (s : St) (arc reg : Option Nat) (off len cap orig : Nat)
    (f : Handle × Handle → M α)
    (hf : ∀ c, NoP (f (.mut (some c) reg off len cap orig, .mut (some c) reg off len cap orig))) :
    NoPAt (mutShallowClone (.mut arc reg off len cap orig) >>= f) s := by
  refine ((NoP_mutShallowClone arc reg off len cap orig).at s).bind fun p s1 hc => ?_
  obtain ⟨a, b⟩ := p
  obtain ⟨_, c, rfl, rfl⟩ := mutShallowClone_ok hc
  exact (hf c).at s1

section MutOperand
variable {s : St} {i : Nat} {arc reg : Option Nat} {off len cap orig : Nat}
  (hi : s.hs[i]? = some (some (.mut arc reg off len cap orig)))
include hi

theorem panic_splitTo_mut (e : Env) (k : Nat) :
    PanicIff (Core.step cfg0 e (.splitTo i k)) s (k > len) :=
  .of_eq (getHandle_bind_eq hi _) <| .guard_nop <| NoPAt_mutSplit s arc reg off len cap orig _ fun _ =>
    (NoP_mutAdvance0 _ _ _ _ _ _ _).bind fun _ => (NoP_setHandle _ _).bind fun _ =>
      NoP_register _ _

theorem mutReserve_ps (hI : Inv s) (cfg : Cfg) (e : Env) (n : Nat) :
    PS (mutReserve cfg e (.mut arc reg off len cap orig) n) s ∧
    ∀ h' s1, mutReserve cfg e (.mut arc reg off len cap orig) n s = .ok h' s1 →
      s1.hs = s.hs ∧ viewOfL s1.regions h' = viewOfL s.regions (.mut arc reg off len cap orig) ∧
      ∃ arc' reg' off' cap' orig', h' = .mut arc' reg' off' len cap' orig' ∧ n ≤ cap' - len := by
  rcases OpsD.mutReserve_spec hI cfg e hi n with hp | ⟨h', R1, C1, heq, hG⟩
  · have h1 : mutReserve cfg e (.mut arc reg off len cap orig) n s = .panic s := hp s.hs s.events
    exact ⟨fun s' h => by rw [h1] at h; cases h; rfl, fun h' s1 h => by rw [h1] at h; cases h⟩
  · obtain ⟨ev1, h1⟩ := heq s.hs s.events
    have h1' : mutReserve cfg e (.mut arc reg off len cap orig) n s =
        .ok h' ⟨R1, C1, s.hs, s.owners, ev1⟩ := h1
    exact ⟨(NoPAt_of_ok h1').ps, fun h'' s1 h => by
      rw [h1'] at h; cases h; exact ⟨rfl, hG.view, hG.shape⟩⟩

theorem reserve_fits (cfg : Cfg) (e : Env) {n : Nat} (hn : n ≤ cap - len) :
    Core.step cfg e (.reserve i n) s = .ok .unit s := by
  simp only [Core.step, bind_apply, getHandle_eq hi, mutReserve, if_pos hn, pure_apply, setHandle_apply,
    set_self hi]

end MutOperand

theorem ps_vecNew_then {α : Type} (e : Env) (bs : List Byte) (cap : Nat) (k : Option Nat → M α)
    (hk : ∀ r, NoP (k r)) (s : St) : PS (vecNew e bs cap >>= k) s :=
  PS.bindN (fun _ h => (vecNew_panic h).1) fun a s1 _ => (hk a).at s1

/-- What `mustPanic` and the panic branch of `opOracle` ask of a call (in the release profile): a
panic leaves the state as it was, except for `unsplit` and `from_owner` with a panicking `as_ref`,
and `mustPanic`, where it gives an answer, is right. -/
def PanicSpec (e : Env) (op : Op) (s : St) : Prop :=
  ((∀ i j, op ≠ .unsplit i j) → (∀ bs, op ≠ .fromOwner bs true) → PS (Core.step cfg0 e op) s) ∧
  ∀ b, mustPanic op (obsOfModel s) = some b → (b = true ↔ ∃ s', Core.step cfg0 e op s = .panic s')

section PanicSpec
variable {e : Env} {op : Op} {s : St}

theorem PanicIff.spec {C : Prop} [Decidable C] (h : PanicIff (Core.step cfg0 e op) s C)
    (hm : mustPanic op (obsOfModel s) = some (decide C)) : PanicSpec e op s :=
  ⟨fun _ _ => h.ps, fun b hb => by
    rw [hm] at hb; cases hb
    rw [decide_eq_true_eq]
    exact ⟨fun hc => ⟨s, h.1 hc⟩, fun ⟨s', hp⟩ => (h.2 s' hp).2⟩⟩

theorem NoPAt.spec (h : NoPAt (Core.step cfg0 e op) s) (hm : mustPanic op (obsOfModel s) = some false) :
    PanicSpec e op s :=
  (PanicIff.never h).spec hm

theorem PS.spec (h : PS (Core.step cfg0 e op) s) (hm : mustPanic op (obsOfModel s) = none) :
    PanicSpec e op s :=
  ⟨fun _ _ => h, fun b hb => by rw [hm] at hb; cases hb⟩

end PanicSpec

theorem panic_spec (e : Env) {op : Op} {s : St} (hI : Inv s) (ht : Typed op s) : PanicSpec e op s := by
  unfold Typed typedB at ht
  cases op with
  | fromStatic bs =>
    exact PS.spec (fun s' h => ((NoP_register _ _) _ s' h).elim) rfl
  | newVec bs cap =>
    refine PS.spec ?_ rfl
    show PS (if cap < bs.length then _ else _) s
    split
    · exact PS.panic s
    · exact ps_vecNew_then e bs cap _ (fun r => NoP_register _ _) s
  | fromVec i =>
    obtain ⟨reg, len, cap, hi⟩ := kindAt_vec ht
    exact PS.spec (NoPAt.ps <| .of_eq (getHandle_bind_eq hi _) <|
      ((NoP_bytesFromVec _ _ _).bind fun _ => NoP_store _ _ _).at s) rfl
  | copyFromSlice bs =>
    exact PS.spec (ps_vecNew_then e bs _ _ (fun r => (NoP_bytesFromVec _ _ _).bind fun _ =>
      NoP_register _ _) s) rfl
  | fromOwner bs p =>
    cases p with
    | true => exact ⟨fun _ ho => (ho bs rfl).elim, fun b h => by cases h⟩
    | false =>
      refine PS.spec (NoPAt.ps <| NoP.at ?_ s) rfl
      exact NoP.get.bind fun _ => (NoP.modify _).bind fun _ => (NoP_newCtrl _ _).bind fun c =>
        (NoP.emit _).bind fun _ => NoP.get.bind fun _ => NoP.ite (NoP_register _ _)
          ((NoP.modify _).bind fun _ => NoP_register _ _)
  | mutWithCapacity _ | mutFromSlice _ | mutZeroed _ =>
    exact PS.spec (ps_vecNew_then e _ _ _ (fun r => NoP_register _ _) s) rfl
  | clone i =>
    obtain ⟨x, hi⟩ := kindAt_isSome ht
    refine NoPAt.spec ?_ rfl
    refine .of_eq (getHandle_bind_eq hi _) ?_
    have hl := hlen_le_isizeMax hI hi
    cases x with
    | bytes repr reg off len =>
      obtain ⟨repr', crepr, C', ev, heq, _⟩ := bytesClone_spec hI hi
      exact (NoPAt_of_ok heq).bind fun c s1 _ => (NoP_register _ _).at s1
    | «mut» arc reg off len cap orig =>
      exact ((NoP_readRange reg off len).bind fun bs => (NoP_vecNew e bs hl).bind fun r =>
        NoP_register _ _).at s
    | vec reg len cap =>
      exact ((NoP_readRange reg 0 len).bind fun bs => (NoP_vecNew e bs hl).bind fun r =>
        NoP_register _ _).at s
  | slice i lo hi' =>
    obtain ⟨repr, reg, off, len, hi⟩ := kindAt_bytes ht
    refine PanicIff.spec (C := lo > hi' ∨ hi' > len) ?_ (congrArg (Option.map _) (findObs_live hi))
    refine .of_eq (getHandle_bind_eq hi _) (.guard (.guard_nop ?_))
    split
    · exact (NoP_register _ _).at s
    · obtain ⟨repr', crepr, C', ev, heq, _⟩ := bytesClone_spec hI hi
      refine (NoPAt_of_ok heq).bind fun c s1 hc => ?_
      rw [heq] at hc; cases hc
      exact (NoP_register _ _).at _
  | splitOff i k =>
    rcases (Bool.or_eq_true _ _).mp ht with ht | ht
    · obtain ⟨repr, reg, off, len, hi⟩ := kindAt_bytes ht
      have hm : mustPanic (.splitOff i k) (obsOfModel s) = some (decide (k > len)) :=
        congrArg (Option.map _) (findObs_live hi)
      rcases splitOff_bytes_spec hi cfg0 e hI k with ⟨hk, h⟩ | ⟨hk, _, _, _, h, _⟩
      · exact (PanicIff.of_panic h hk).spec hm
      · exact (PanicIff.of_ok h (Nat.not_lt.mpr hk)).spec hm
    · obtain ⟨arc, reg, off, len, cap, orig, hi⟩ := kindAt_mut ht
      exact PanicIff.spec (C := k > cap) (.of_eq (getHandle_bind_eq hi _) <| .guard_nop <|
        NoPAt_mutSplit s arc reg off len cap orig _ fun c => (NoP_mutAdvance0 _ _ _ _ _ _ _).bind fun o =>
          (NoP_setHandle _ _).bind fun _ => NoP_register _ _)
        (congrArg (Option.map _) (findObs_live hi))
  | splitTo i k =>
    rcases (Bool.or_eq_true _ _).mp ht with ht | ht
    · obtain ⟨repr, reg, off, len, hi⟩ := kindAt_bytes ht
      have hm : mustPanic (.splitTo i k) (obsOfModel s) = some (decide (k > len)) :=
        congrArg (Option.map _) (findObs_live hi)
      rcases splitTo_bytes_spec hi cfg0 e hI k with ⟨hk, h⟩ | ⟨hk, _, _, _, h, _⟩
      · exact (PanicIff.of_panic h hk).spec hm
      · exact (PanicIff.of_ok h (Nat.not_lt.mpr hk)).spec hm
    · obtain ⟨arc, reg, off, len, cap, orig, hi⟩ := kindAt_mut ht
      exact (panic_splitTo_mut hi e k).spec (congrArg (Option.map _) (findObs_live hi))
  | split i =>
    obtain ⟨arc, reg, off, len, cap, orig, hi⟩ := kindAt_mut ht
    refine NoPAt.spec ?_ rfl
    refine .of_eq (getHandle_bind_eq hi _) fun s' hp => ?_
    have := ((panic_splitTo_mut hi e len).2 s' hp).2
    omega
  | truncate i n =>
    obtain ⟨x, hi⟩ := kindAt_isSome ht
    exact NoPAt.spec (op := .truncate i n) (NoPAt_opTruncate hi hI n) rfl
  | clear i =>
    obtain ⟨x, hi⟩ := kindAt_isSome ht
    exact NoPAt.spec (op := .clear i) (NoPAt_opTruncate hi hI 0) rfl
  | advance i n =>
    rcases (Bool.or_eq_true _ _).mp ht with ht | ht
    · obtain ⟨repr, reg, off, len, hi⟩ := kindAt_bytes ht
      exact PanicIff.spec (C := n > len) (.of_eq (getHandle_bind_eq hi _) <| .guard_nop <|
        (NoP_store _ _ _).at s) (congrArg (Option.map _) (findObs_live hi))
    · obtain ⟨arc, reg, off, len, cap, orig, hi⟩ := kindAt_mut ht
      exact PanicIff.spec (C := n > len) (.of_eq (getHandle_bind_eq hi _) <| .guard_nop <|
        ((NoP_mutAdvance0 _ _ _ _ _ _ _).bind fun o => NoP_store _ _ _).at s)
        (congrArg (Option.map _) (findObs_live hi))
  | isUnique i =>
    obtain ⟨repr, reg, off, len, hi⟩ := kindAt_bytes ht
    exact NoPAt.spec (.of_eq (getHandle_bind_eq hi _) <|
      ((NoP_bytesIsUnique repr reg off len).bind fun _ => NoP.pure _).at s) rfl
  | tryIntoMut i =>
    obtain ⟨repr, reg, off, len, hi⟩ := kindAt_bytes ht
    exact NoPAt.spec (.of_eq (getHandle_bind_eq hi _) <| ((NoP_bytesIsUnique repr reg off len).bind fun u =>
      NoP.ite ((NoP_bytesIntoMut0 e repr reg off (hlen_le_isizeMax hI hi)).bind fun _ =>
        NoP_store _ _ _) (NoP.pure _)).at s) rfl
  | intoMut i =>
    obtain ⟨repr, reg, off, len, hi⟩ := kindAt_bytes ht
    exact NoPAt.spec (.of_eq (getHandle_bind_eq hi _) <|
      ((NoP_bytesIntoMut0 e repr reg off (hlen_le_isizeMax hI hi)).bind fun _ =>
        NoP_store _ _ _).at s) rfl
  | intoVec i =>
    rcases (Bool.or_eq_true _ _).mp ht with ht | ht
    · obtain ⟨repr, reg, off, len, hi⟩ := kindAt_bytes ht
      exact (nop_intoVec hi e hI nofun).spec rfl
    · obtain ⟨arc, reg, off, len, cap, orig, hi⟩ := kindAt_mut ht
      exact (nop_intoVec hi e hI nofun).spec rfl
  | freeze i =>
    obtain ⟨arc, reg, off, len, cap, orig, hi⟩ := kindAt_mut ht
    refine NoPAt.spec ?_ rfl
    refine .of_eq (getHandle_bind_eq hi _) ?_
    cases arc with
    | some c => exact (NoP_store _ _ _).at s
    | none =>
      refine ((NoP_bytesFromVec reg (off + len) (off + cap)).at s).bind fun b s1 hb => ?_
      obtain ⟨_, repr, reg', rfl, _⟩ := bytesFromVec_ok hb
      show NoPAt (if off > off + len then _ else _) s1
      split
      · omega
      · exact (NoP_store _ _ _).at s1
  | reserve i n =>
    obtain ⟨arc, reg, off, len, cap, orig, hi⟩ := kindAt_mut ht
    refine ⟨fun _ _ => .of_eq (getHandle_bind_eq hi _) <|
      (mutReserve_ps hi hI cfg0 e n).1.bindN fun _ s1 _ => (NoP_store _ _ _).at s1, fun b h => ?_⟩
    simp only [mustPanic, findObs_live hi, Option.bind_some, obs_len, obs_cap, hlen, hcapO,
      Option.getD_some] at h
    split at h
    · next hbig =>
      cases h
      have : isizeMax < len + n := by rw [W_eq] at hbig; rw [isizeMax_eq]; omega
      exact ⟨fun _ => ⟨s, PropC08.reserve_huge hI cfg0 e hi this⟩, fun _ => rfl⟩
    · split at h
      · next hfit =>
        cases h
        rw [reserve_fits hi cfg0 e hfit]
        exact ⟨fun hh => (by cases hh), fun ⟨s', hp⟩ => (by cases hp)⟩
      · cases h
  | tryReclaim i n =>
    obtain ⟨arc, reg, off, len, cap, orig, hi⟩ := kindAt_mut ht
    refine NoPAt.spec ?_ rfl
    refine .of_eq (getHandle_bind_eq hi _) ?_
    show NoPAt (if n ≤ cap - len then _ else _) s
    split
    · exact (NoP.pure _).at s
    · rcases PropC08.mri_false hI cfg0 e hi n with h1 | ⟨R1, off', cap', h1, _⟩ <;>
      · refine (NoPAt_of_ok h1).bind fun p s1 hp => ?_
        rw [h1] at hp; cases hp
        exact (NoP_store _ _ _).at _
  | extend i bs =>
    obtain ⟨arc, reg, off, len, cap, orig, hi⟩ := kindAt_mut ht
    refine PS.spec ?_ rfl
    refine .of_eq (getHandle_bind_eq hi _) <| PS.bindN ?_ fun _ s1 _ =>
      (NoP_store _ _ _).at s1
    obtain ⟨v, hv, _⟩ := hI.view hi
    rcases OpsD.mutExtend_spec hI cfg0 e hi bs hv with hp | ⟨h'', R2, C2, heq, _⟩
    · intro s' h
      rw [show mutExtend cfg0 e (.mut arc reg off len cap orig) bs s = .panic s from hp s.hs s.events] at h
      cases h; rfl
    · obtain ⟨ev1, h1⟩ := heq s.hs s.events
      exact (NoPAt_of_ok (s := s) h1).ps
  | resize i n b =>
    obtain ⟨arc, reg, off, len, cap, orig, hi⟩ := kindAt_mut ht
    refine PS.spec ?_ rfl
    refine .of_eq (getHandle_bind_eq hi _) ?_
    show PS (if n ≤ len then _ else _) s
    split
    · exact (NoP_store _ _ _).at s |>.ps
    · obtain ⟨hps, hok⟩ := mutReserve_ps hi hI cfg0 e (n - len)
      refine hps.bindN fun h' s1 h1 => ?_
      obtain ⟨_, _, arc', reg', off', cap', orig', rfl, _⟩ := hok h' s1 h1
      exact ((NoP_writeRange _ _ _).bind fun _ => NoP_store _ _ _).at s1
  | unsplit i j => exact ⟨fun hu _ => (hu i j rfl).elim, fun b h => by cases h⟩
  | setByte i k b =>
    obtain ⟨arc, reg, off, len, cap, orig, hi⟩ := kindAt_mut ht
    exact PanicIff.spec (C := k ≥ len) (.of_eq (getHandle_bind_eq hi _) <| .guard_nop <|
      ((NoP_writeRange _ _ _).bind fun _ => NoP.pure _).at s) (congrArg (Option.map _) (findObs_live hi))
  | fillSpare i b =>
    obtain ⟨arc, reg, off, len, cap, orig, hi⟩ := kindAt_mut ht
    exact PS.spec (NoPAt.ps <| .of_eq (getHandle_bind_eq hi _) <|
      ((NoP_writeRange _ _ _).bind fun _ => NoP.pure _).at s) rfl
  | drop i =>
    obtain ⟨x, hi⟩ := kindAt_isSome ht
    refine NoPAt.spec ?_ rfl
    refine .of_eq (getHandle_bind_eq hi _) <| ((NoP_killHandle i).at s).bind fun _ s1 _ => ?_
    cases x with
    | bytes repr reg off len => exact ((NoP_bytesDrop repr reg off len).bind fun _ => NoP.pure _).at s1
    | «mut» arc reg off len cap orig =>
      exact ((NoP_mutDrop arc reg off len cap orig).bind fun _ => NoP.pure _).at s1
    | vec reg len cap => exact ((NoP_vecFree reg cap).bind fun _ => NoP.pure _).at s1

/-- "a byte buffer was allocated during the call" as `opOracle` computes it -/
def a1allocOf (evs : List Evt) : Bool := evs.any fun e => e.alloc && e.align == 1 && !e.noise

/-- `opOracle`'s local function `zeroCopy`, verbatim -/
def zc (pre post : List Obs) (a1alloc pack : Bool) (src res delta : Nat) (checkEmpty : Bool) :
    Option (String × String) :=
  match findObs pre src, findObs post res with
  | some a, some b =>
    if a1alloc then some ("C07", "a byte buffer was allocated by a sharing operation")
    else if (b.len > 0 || (checkEmpty && !pack && (a.len > 0 || (a.cap.getD 0) > 0 || a.uniq == some true))) && a.blk.isSome then
      (match addrOf a, addrOf b with
       | some (s, o), some (s', o') => if s == s' && o' == o + delta then none else some ("C07", s!"result handle {res} does not start at the source address + {delta}")
       | _, _ => some ("C07", s!"result handle {res} has no address"))
    else none
  | _, _ => none

section Equations
variable (i j k : Nat) (v : Val) (pre post : List Obs) (evs : List Evt) (pack : Bool)

theorem opOracle_splitOff : opOracle (.splitOff i k) (.ok (.handle j)) pre post evs pack =
    (zc pre post (a1allocOf evs) pack i j k true).orElse fun _ => zc pre post (a1allocOf evs) pack i i 0 true := rfl
theorem opOracle_splitTo : opOracle (.splitTo i k) (.ok (.handle j)) pre post evs pack =
    (zc pre post (a1allocOf evs) pack i j 0 true).orElse fun _ => zc pre post (a1allocOf evs) pack i i k true := rfl
theorem opOracle_tryIntoMut : opOracle (.tryIntoMut i) (.ok (.handle j)) pre post evs pack =
    (zc pre post (a1allocOf evs) pack i i 0 true).map fun (_, m) => ("C07+C08", m) := rfl
theorem opOracle_intoMut : opOracle (.intoMut i) (.ok (.handle j)) pre post evs pack =
    if ((findObs pre i).bind (·.uniq)) == some true then
      (zc pre post (a1allocOf evs) pack i i 0 true).map fun (_, m) => ("C07+C08", m) else none := rfl
theorem opOracle_unsplit : opOracle (.unsplit i j) (.ok v) pre post evs pack =
    match findObs pre i, findObs pre j with
    | some a, some b =>
      match addrOf a, addrOf b with
      | some (s, o), some (s', o') =>
        if s == s' && o' == o + a.len && a.len > 0 && a.cap == some a.len && (b.cap.getD 0) > 0 then
          zc pre post (a1allocOf evs) pack i i 0 false else none
      | _, _ => none
    | _, _ => none := by
  cases v <;> rfl

end Equations

def NoAllocStep (s s' : St) : Prop :=
  ∀ ev ∈ s'.events.take (s'.events.length - s.events.length), ∀ r z, ev ≠ Ev.alloc r z

theorem a1alloc_false {s s' : St} (h : NoAllocStep s s') : a1allocOf (evsOfModel s s') = false := by
  unfold a1allocOf
  rw [List.any_eq_false]
  intro x hx
  simp only [evsOfModel, newEvents, List.mem_filterMap, List.mem_reverse] at hx
  obtain ⟨ev, hev, hx⟩ := hx
  have := h ev hev
  cases ev with
  | alloc r z => exact (this r z rfl).elim
  | dealloc _ _ | allocCtrl _ | deallocCtrl _ => simp [evtOf] at hx; subst hx; simp
  | ownerAsRef _ | ownerDrop _ => simp [evtOf] at hx

theorem NoAllocStep.same {s s' : St} (h : s'.events = s.events) : NoAllocStep s s' :=
  PropC08.NoAlloc_take (evs := []) (by simpa using h) PropC08.NoAlloc_nil

/-- the general shape of every zero-copy obligation: no allocation, and *if* the oracle looks at
the addresses (non-empty result, or possibly an empty one when `checkEmpty`) and the source has one,
the result sits `delta` bytes further in the same block -/
theorem zc_none {s s' : St} {src res delta : Nat} {ce : Bool} {x y : Handle}
    (hx : s.hs[src]? = some (some x)) (hy : s'.hs[res]? = some (some y))
    (hev : NoAllocStep s s')
    (haddr : (ce = false → hlen y ≠ 0) → ∀ r o z, (obsOfHandle s src x).blk = some (r, o, z) →
        ∃ z', (obsOfHandle s' res y).blk = some (r, o + delta, z')) :
    zc (obsOfModel s) (obsOfModel s') (a1allocOf (evsOfModel s s')) false src res delta ce = none := by
  unfold zc
  rw [findObs_live hx, findObs_live hy, a1alloc_false hev]
  simp only [Bool.false_eq_true, if_false, Bool.not_false, Bool.and_true]
  split
  · next hg =>
    simp only [Bool.and_eq_true, Bool.or_eq_true, decide_eq_true_eq, obs_len] at hg
    obtain ⟨hg, hb⟩ := hg
    obtain ⟨⟨r, o, z⟩, hblk⟩ := Option.isSome_iff_exists.mp hb
    obtain ⟨z', hb'⟩ := haddr (fun hce => by
      rcases hg with hg | ⟨hce', _⟩
      · omega
      · rw [hce] at hce'; cases hce') r o z hblk
    simp [addrOf, hblk, hb']
  · rfl

/-- zero-copy obligation without the empty-result clause, from a zero-copy theorem of C07: the
invariant of the successor state locates a non-empty result -/
theorem zc_none_false {s s' : St} (hI' : Inv s') {src res delta : Nat} {x : Handle}
    (hx : s.hs[src]? = some (some x))
    (h : Core.NoCopy s s' ∧ ∃ y, s'.hs[res]? = some (some y) ∧
      (Core.lenOf y ≠ 0 → Core.addrOf y = Core.shift (Core.addrOf x) delta)) :
    zc (obsOfModel s) (obsOfModel s') (a1allocOf (evsOfModel s s')) false src res delta false = none := by
  obtain ⟨hnc, y, hy, h⟩ := h
  refine zc_none hx hy hnc.1 fun hl r o z hb => ?_
  have ha := h (by rw [lenOf_eq]; exact hl rfl)
  rw [addrOf_eq, addrOf_eq] at ha
  obtain ⟨hreg', hoff'⟩ := Prod.mk.inj ha
  obtain ⟨h1, h2, _⟩ := locate_eq_some (locate_of_blk hb)
  have hext := extent_ne_zero hI' hy (hl rfl)
  obtain ⟨r', z', h3, h4, _⟩ := located_of_inv hI' hy hext
  rw [hreg', h1] at h3; cases h3
  exact ⟨z', by rw [obs_blk, if_neg (fun h => hext h.2), h4, hoff', h2]⟩

/-- zero-copy obligation for a `BytesMut` result that names the source's region: it is located there
whatever its capacity -/
theorem zc_mut {s s' : St} (hI' : Inv s') {src res delta : Nat} {ce : Bool} {x : Handle}
    {arc : Option Nat} {len cap orig : Nat} (hx : s.hs[src]? = some (some x))
    (hy : s'.hs[res]? = some (some (.mut arc (hreg x) (hoff x + delta) len cap orig)))
    (hev : NoAllocStep s s') :
    zc (obsOfModel s) (obsOfModel s') (a1allocOf (evsOfModel s s')) false src res delta ce = none := by
  refine zc_none hx hy hev fun _ r o z hb => ?_
  obtain ⟨h1, h2, _⟩ := locate_eq_some (locate_of_blk hb)
  rw [h1] at hy
  obtain ⟨z', h4, _⟩ := located_of_span hI' hy rfl rfl
  refine ⟨z', ?_⟩
  rw [obs_blk, if_neg (fun h => nomatch h.1), h2]
  show locate s' (hreg x) _ = _
  rw [h1]; exact h4

theorem zc_bytes {s s' : St} (hI : Inv s) (hR : s'.regions = s.regions) {src res delta : Nat} {ce : Bool}
    {repr repr' : BRepr} {reg : Option Nat} {off len len' : Nat}
    (hx : s.hs[src]? = some (some (.bytes repr reg off len)))
    (hy : s'.hs[res]? = some (some (.bytes repr' reg (off + delta) len'))) (hd : delta ≤ len)
    (hev : NoAllocStep s s') :
    zc (obsOfModel s) (obsOfModel s') (a1allocOf (evsOfModel s s')) false src res delta ce = none := by
  refine zc_none hx hy hev fun _ r o z hb => ?_
  have hle := bytes_bound hI hx (locate_of_blk hb)
  obtain ⟨h1, h2, rg, h3, h4, h5, h6⟩ := locate_eq_some (locate_of_blk hb)
  simp only [hreg, hoff] at h1 h2 h5
  subst h1 h2 h6
  rw [obs_blk, if_neg (fun h => nomatch h.1)]
  exact ⟨_, locate_some_of (off := o + delta) (by rw [hR]; exact h3) h4 (by omega)⟩

/-- `opOracle`'s local predicate `same`, verbatim -/
def sameObs (pre post : List Obs) (i : Nat) : Bool :=
  match findObs pre i, findObs post i with
  | some a, some b => a.len == b.len && a.cap == b.cap && a.contents == b.contents && (a.blk == b.blk || (a.cap.getD a.len) == 0)
  | none, none => true
  | _, _ => false

def movedOf : Op → List Nat
  | .unsplit _ j => [j]
  | _ => []

def isFromOwner : Op → Bool
  | .fromOwner .. => true
  | _ => false

theorem opOracle_panic (op : Op) (pre post : List Obs) (evs : List Evt) (pack : Bool) :
    opOracle op .panic pre post evs pack =
      match pre.find? fun o => !(movedOf op).contains o.id && !sameObs pre post o.id with
      | some o => some ("C13", s!"handle {o.id} changed although the call panicked")
      | none => if post.length + (movedOf op).length != pre.length && !isFromOwner op then
          some ("C13", "set of live handles changed across a panic") else none := rfl

theorem opOracle_reserve_none {i n : Nat} {v : Val} {pre post : List Obs} {evs : List Evt} {pack : Bool}
    {a b : Obs} (ha : findObs pre i = some a) (hb : findObs post i = some b)
    (h1 : n ≤ (b.cap.getD 0) - b.len) (h2 : a.len = b.len) (h3 : a.contents = b.contents)
    (h4 : a.len + n < W) : opOracle (.reserve i n) (.ok v) pre post evs pack = none := by
  have h1' : ¬ (b.cap.getD 0) - b.len < n := by omega
  have h4' : ¬ b.len + n ≥ W := by omega
  rw [show opOracle (.reserve i n) (.ok v) pre post evs pack =
    opOracle (.reserve i n) (.ok .unit) pre post evs pack by cases v <;> rfl]
  simp [opOracle, ha, hb, h1', h2, h3, h4']

theorem opOracle_tryReclaim_true {i n : Nat} {pre post : List Obs} {evs : List Evt} {pack : Bool}
    {a b : Obs} (ha : findObs pre i = some a) (hb : findObs post i = some b)
    (h1 : n ≤ (b.cap.getD 0) - b.len) (h2 : a.len = b.len) (h3 : a.contents = b.contents)
    (h4 : a1allocOf evs = false) : opOracle (.tryReclaim i n) (.ok (.bool true)) pre post evs pack = none := by
  have h1' : ¬ (b.cap.getD 0) - b.len < n := by omega
  unfold a1allocOf at h4
  simp [opOracle, ha, hb, h1', h2, h3, h4]

end BytesVerif.Judge.SeqJ
