/-
The workhorse of M1: one step of the model preserves the (strengthened) representation invariant,
never reaches undefined behaviour, and refines the reference model in which every handle is an
independent `Vec<u8>` value.
-/
import BytesVerif.Lemmas.Core.OpsA
import BytesVerif.Lemmas.Core.OpsB
import BytesVerif.Lemmas.Core.OpsC
import BytesVerif.Lemmas.Core.OpsD
namespace BytesVerif.Core

/-- Preconditions on operation *arguments* that the Rust type system guarantees: a slice handed to
`from_static` / returned by an owner's `as_ref` has at most `isize::MAX` bytes.  The bound is consumed
by `regionOKB`, which limits the size of every region, whatever its kind (see the remark before
`OpsA.Inv_push_static`). -/
def OpOK : Op → Prop
  | .fromStatic bs => bs.length ≤ isizeMax
  | .fromOwner bs _ => bs.length ≤ isizeMax
  | _ => True

theorem step_sound (cfg : Cfg) (e : Env) (op : Op) (s : St) (h : WFx s) (ho : OpOK op) :
    StepOKx cfg e op s := by
  cases op with
  | fromStatic bs => exact OpsA.step_fromStatic cfg e bs ho s h
  | newVec bs cap => exact OpsA.step_newVec cfg e bs cap s h
  | fromVec v => exact OpsA.step_fromVec cfg e v s h
  | copyFromSlice bs => exact OpsA.step_copyFromSlice cfg e bs s h
  | fromOwner bs p => exact OpsA.step_fromOwner cfg e bs p ho s h
  | mutWithCapacity cap => exact OpsA.step_mutWithCapacity cfg e cap s h
  | mutFromSlice bs => exact OpsA.step_mutFromSlice cfg e bs s h
  | mutZeroed n => exact OpsA.step_mutZeroed cfg e n s h
  | clone i => exact step_clone cfg e i s h
  | slice i lo hi => exact OpsB.step_slice cfg e i lo hi s h
  | splitOff i k => exact step_splitOff cfg e i k s h
  | splitTo i k => exact OpsB.step_splitTo cfg e i k s h
  | split i => exact OpsB.step_split cfg e i s h
  | truncate i n => exact OpsB.step_truncate cfg e i n s h
  | clear i => exact OpsB.step_clear cfg e i s h
  | advance i n => exact OpsB.step_advance cfg e i n s h
  | isUnique i => exact OpsA.step_isUnique cfg e i s h
  | tryIntoMut i => exact OpsC.step_tryIntoMut cfg e i s h
  | intoMut i => exact OpsC.step_intoMut cfg e i s h
  | intoVec i => exact OpsC.step_intoVec cfg e i s h
  | freeze i => exact OpsC.step_freeze cfg e i s h
  | reserve i n => exact OpsD.step_reserve cfg e i n s h
  | tryReclaim i n => exact OpsD.step_tryReclaim cfg e i n s h
  | extend i bs => exact OpsD.step_extend cfg e i bs s h
  | resize i n b => exact OpsD.step_resize cfg e i n b s h
  | unsplit i j => exact OpsD.step_unsplit cfg e i j s h
  | setByte i k b => exact OpsA.step_setByte cfg e i k b s h
  | fillSpare i b => exact OpsA.step_fillSpare cfg e i b s h
  | drop i => exact step_drop cfg e i s h

theorem WFx_step {cfg : Cfg} {e : Env} {op : Op} {s s' : St} {v : Val} (hw : WFx s)
    (h : step cfg e op s = .ok v s') (ho : OpOK op) : WFx s' := by
  have := step_sound cfg e op s hw ho
  unfold StepOKx at this
  rw [h] at this
  exact this.1

end BytesVerif.Core
