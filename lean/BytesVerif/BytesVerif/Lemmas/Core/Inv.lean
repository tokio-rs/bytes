/-
Prop-level reading of the representation invariant of M1, and how every observable it mentions
changes under the state updates the model performs.

Every observable of CoreWF.lean depends on only one or two *components* of the state, so each gets a
list-level version (suffix `L`) taking exactly these components (`refCountL hs c`, `isHeapLiveL R r`,
`liveCtrlL C c`, `handleOKL R C h`, `absL R hs`, …) and a bridge lemma (`refCount_eq`, `handleOKB_eq`,
`abs_eq`, …) that rewrites the state-level function into it.  After symbolic execution a final state
is a record `{ regions := …, ctrls := …, hs := …, owners := …, events := … }`; `simp` reduces the
projections, so updates of a component an observable does not read need no lemma at all.

`rdL R reg off len : Option (List Byte)` is the central region observable: the bytes that `readRange`
returns (`none` = `readRange` would be `ub`).  `initRange = (rdL …).isSome`, `viewOf s h = rdL s.regions
(hreg h) (hoff h) (hlen h)`.
-/
import BytesVerif.Lemmas.Core.Monad
import BytesVerif.Model.CoreWF
namespace BytesVerif.Core

theorem mapM_id_cons {α} (a : Option α) (l : List (Option α)) :
    (a :: l).mapM id = a.bind fun v => (l.mapM id).map (v :: ·) := by
  rw [List.mapM_cons]; cases a <;> cases l.mapM id <;> rfl

theorem mapM_id_eq_some {α} (l : List (Option α)) (bs : List α) :
    l.mapM id = some bs ↔ l = bs.map some := by
  induction l generalizing bs with
  | nil => cases bs <;> simp
  | cons a l ih =>
    rw [mapM_id_cons]
    cases a <;> cases bs <;> simp [ih]
    exact and_comm

theorem mapM_id_isSome {α} (l : List (Option α)) :
    (l.mapM id).isSome = l.all (·.isSome) := by
  induction l with
  | nil => rfl
  | cons a l ih => rw [mapM_id_cons]; cases a <;> simp [← ih]

theorem lookup_lt {α} {l : List α} {i : Nat} {x : α} (h : l[i]? = some x) : i < l.length :=
  let ⟨hi, _⟩ := List.getElem?_eq_some_iff.mp h; hi

theorem set_self {α} {l : List α} {i : Nat} {x : α} (h : l[i]? = some x) : l.set i x = l := by
  obtain ⟨hi, rfl⟩ := List.getElem?_eq_some_iff.mp h
  exact List.set_getElem_self hi

/-- contribution of one slot of the handle table to a count -/
def optCount {α} (p : α → Bool) : Option α → Nat
  | some a => if p a then 1 else 0
  | none => 0

@[simp] theorem optCount_none {α} (p : α → Bool) : optCount p none = 0 := rfl
@[simp] theorem optCount_some {α} (p : α → Bool) (a : α) :
    optCount p (some a) = if p a then 1 else 0 := rfl

theorem countP_filterMap_cons {α} (p : α → Bool) (a : Option α) (l : List (Option α)) :
    ((a :: l).filterMap id).countP p = optCount p a + (l.filterMap id).countP p := by
  cases a with
  | none => simp
  | some v => simp [List.countP_cons, Nat.add_comm]

theorem countP_filterMap_set {α} (p : α → Bool) (l : List (Option α)) (i : Nat) (x y : Option α)
    (h : l[i]? = some x) :
    ((l.set i y).filterMap id).countP p + optCount p x =
    (l.filterMap id).countP p + optCount p y := by
  induction l generalizing i with
  | nil => cases h
  | cons a l ih =>
    cases i with
    | zero =>
      rw [List.getElem?_cons_zero] at h; cases h
      rw [List.set_cons_zero, countP_filterMap_cons, countP_filterMap_cons]; omega
    | succ i =>
      have := ih i h
      rw [List.set_cons_succ, countP_filterMap_cons, countP_filterMap_cons]; omega

def liveHs (hs : List (Option Handle)) : List Handle := hs.filterMap id
def refCountL (hs : List (Option Handle)) (c : Nat) : Nat :=
  (liveHs hs).countP fun h => ctrlOf h == some c
def dirCountL (hs : List (Option Handle)) (r : Nat) : Nat :=
  (liveHs hs).countP fun h => directRegion h == some r
def ctrlCountL (C : List CtrlE) (r : Nat) : Nat :=
  C.countP fun e => e.live && ctrlRegion e.c == some r

def isHeapLiveL (R : List Region) (r : Nat) : Bool := isHeapLive { regions := R } r
def regionSizeL (R : List Region) (r : Nat) : Nat := regionSize { regions := R } r
def regionOddL (R : List Region) (r : Nat) : Bool := regionOddB { regions := R } r
def kindL (R : List Region) (r : Nat) : Option RKind := (R[r]?).map (·.kind)
def liveCtrlL (C : List CtrlE) (c : Nat) : Option Ctrl := liveCtrl { ctrls := C } c
def initRangeL (R : List Region) (reg : Option Nat) (off len : Nat) : Bool :=
  initRange { regions := R } reg off len
def handleOKL (R : List Region) (C : List CtrlE) (h : Handle) : Bool :=
  handleOKB { regions := R, ctrls := C } h

/-- what `readRange reg off len` returns in a state with regions `R` (`none`: it is `ub`) -/
def rdL (R : List Region) (reg : Option Nat) (off len : Nat) : Option (List Byte) :=
  if len = 0 then some [] else
  match reg with
  | none => none
  | some r =>
    match R[r]? with
    | none => none
    | some rg =>
      if rg.live = true ∧ off + len ≤ rg.size then ((rg.data.drop off).take len).mapM id else none

/-- the region / offset / length of the view of a handle -/
def hreg : Handle → Option Nat
  | .bytes _ reg _ _ => reg
  | .mut _ reg _ _ _ _ => reg
  | .vec reg _ _ => reg
def hoff : Handle → Nat
  | .bytes _ _ off _ => off
  | .mut _ _ off _ _ _ => off
  | .vec _ _ _ => 0
def hlen : Handle → Nat
  | .bytes _ _ _ len => len
  | .mut _ _ _ len _ _ => len
  | .vec _ len _ => len

def viewOfL (R : List Region) (h : Handle) : Option (List Byte) := rdL R (hreg h) (hoff h) (hlen h)

def absL (R : List Region) (hs : List (Option Handle)) : Spec.St :=
  hs.map fun oh => oh.bind fun h => (viewOfL R h).map fun v => ⟨kindOf h, v⟩

theorem liveHandles_eq (s : St) : liveHandles s = liveHs s.hs := rfl
theorem refCount_eq (s : St) (c : Nat) : refCount s c = refCountL s.hs c := rfl
theorem ownerCount_eq (s : St) (r : Nat) :
    ownerCount s r = dirCountL s.hs r + ctrlCountL s.ctrls r := rfl
theorem isHeapLive_eq (s : St) (r : Nat) : isHeapLive s r = isHeapLiveL s.regions r := rfl
theorem regionSize_eq (s : St) (r : Nat) : regionSize s r = regionSizeL s.regions r := rfl
theorem regionOddB_eq (s : St) (r : Nat) : regionOddB s r = regionOddL s.regions r := rfl
theorem liveCtrl_eq (s : St) (c : Nat) : liveCtrl s c = liveCtrlL s.ctrls c := rfl
theorem initRange_eq (s : St) (reg : Option Nat) (off len : Nat) :
    initRange s reg off len = initRangeL s.regions reg off len := rfl
theorem handleOKB_eq (s : St) (h : Handle) : handleOKB s h = handleOKL s.regions s.ctrls h := rfl

theorem isHeapLiveL_def (R : List Region) (r : Nat) :
    isHeapLiveL R r = match R[r]? with
      | some rg => rg.live && (match rg.kind with | .heap _ => true | _ => false)
      | none => false := rfl
theorem regionSizeL_def (R : List Region) (r : Nat) :
    regionSizeL R r = match R[r]? with | some rg => rg.size | none => 0 := rfl
theorem regionOddL_def (R : List Region) (r : Nat) :
    regionOddL R r = match R[r]? with
      | some rg => (match rg.kind with | .heap o => o | _ => false)
      | none => false := rfl
theorem liveCtrlL_def (C : List CtrlE) (c : Nat) :
    liveCtrlL C c = match C[c]? with
      | some e => if e.live then some e.c else none
      | none => none := rfl

theorem rdL_zero (R : List Region) (reg : Option Nat) (off : Nat) : rdL R reg off 0 = some [] := by
  simp [rdL]

theorem rdL_none (R : List Region) (off len : Nat) :
    rdL R none off len = if len = 0 then some [] else none := by
  simp [rdL]

theorem rdL_eq_some_iff {R : List Region} {reg : Option Nat} {off len : Nat} {bs : List Byte} :
    rdL R reg off len = some bs ↔
      (len = 0 ∧ bs = []) ∨
      (len ≠ 0 ∧ ∃ r rg, reg = some r ∧ R[r]? = some rg ∧ rg.live = true ∧ off + len ≤ rg.size ∧
        (rg.data.drop off).take len = bs.map some) := by
  unfold rdL
  by_cases hl : len = 0
  · subst hl
    simp only [if_true, Option.some.injEq, true_and, ne_eq, not_true_eq_false, false_and, or_false]
    exact eq_comm
  · simp only [hl, if_false, false_and, false_or, ne_eq, not_false_eq_true, true_and]
    constructor
    · intro h
      cases reg with
      | none => simp at h
      | some r =>
        simp only at h
        cases hr : R[r]? with
        | none => simp [hr] at h
        | some rg =>
          simp only [hr] at h
          split at h
          · next hc => exact ⟨r, rg, rfl, hr, hc.1, hc.2, (mapM_id_eq_some _ _).mp h⟩
          · simp at h
    · rintro ⟨r, rg, rfl, hr, h1, h2, h3⟩
      simp only [hr, h1, h2, and_self, if_true]
      exact (mapM_id_eq_some _ _).mpr h3

theorem rdL_some_of {R : List Region} {r : Nat} {rg : Region} {off len : Nat} {bs : List Byte}
    (hr : R[r]? = some rg) (hl : rg.live = true) (hb : off + len ≤ rg.size)
    (hd : (rg.data.drop off).take len = bs.map some) : rdL R (some r) off len = some bs := by
  by_cases h0 : len = 0
  · subst h0
    cases bs with
    | nil => exact rdL_zero _ _ _
    | cons b bs => simp at hd
  · exact rdL_eq_some_iff.mpr (.inr ⟨h0, r, rg, rfl, hr, hl, hb, hd⟩)

theorem readRange_of_rdL {s : St} {reg : Option Nat} {off len : Nat} {bs : List Byte}
    (h : rdL s.regions reg off len = some bs) : readRange reg off len s = .ok bs s := by
  rcases rdL_eq_some_iff.mp h with ⟨rfl, rfl⟩ | ⟨hl, r, rg, rfl, hr, hlive, hb, hd⟩
  · rfl
  · simp only [readRange, hl, if_false, bind_apply, getRegion, hr, hlive, Bool.not_true,
      Bool.false_eq_true, gt_iff_lt, Nat.not_lt.mpr hb, (mapM_id_eq_some _ _).mpr hd, pure_apply]

theorem readRange_ub_of_rdL {s : St} {reg : Option Nat} {off len : Nat}
    (h : rdL s.regions reg off len = none) : ∃ w, readRange reg off len s = .ub w s := by
  unfold rdL at h; unfold readRange
  by_cases hl : len = 0
  · simp [hl] at h
  · simp only [hl, if_false] at h ⊢
    cases reg with
    | none => exact ⟨_, rfl⟩
    | some r =>
      simp only [bind_apply, getRegion]
      cases hr : s.regions[r]? with
      | none => exact ⟨_, rfl⟩
      | some rg =>
        simp only [hr] at h ⊢
        by_cases hlive : rg.live = true
        · by_cases hb : off + len ≤ rg.size
          · have h1 : ¬ (off + len > rg.size) := Nat.not_lt.mpr hb
            simp only [hlive, hb, and_self, if_true] at h
            simp [hlive, h1, h]
          · have h1 : off + len > rg.size := Nat.lt_of_not_le hb
            simp [hlive, h1]
        · simp [hlive]

theorem readRange_eq (s : St) (reg : Option Nat) (off len : Nat) :
    (∃ bs, rdL s.regions reg off len = some bs ∧ readRange reg off len s = .ok bs s) ∨
    (rdL s.regions reg off len = none ∧ ∃ w, readRange reg off len s = .ub w s) := by
  cases h : rdL s.regions reg off len with
  | none => exact .inr ⟨rfl, readRange_ub_of_rdL h⟩
  | some bs => exact .inl ⟨bs, rfl, readRange_of_rdL h⟩

theorem initRangeL_eq (R : List Region) (reg : Option Nat) (off len : Nat) :
    initRangeL R reg off len = (rdL R reg off len).isSome := by
  unfold initRangeL initRange rdL
  by_cases hl : len = 0
  · simp [hl]
  · have hl' : (len == 0) = false := by simp [hl]
    simp only [hl, hl', Bool.false_or, if_false]
    cases reg with
    | none => simp
    | some r =>
      simp only
      cases R[r]? with
      | none => simp
      | some rg =>
        cases hlv : rg.live <;> by_cases hb : off + len ≤ rg.size <;> simp [hlv, hb, mapM_id_isSome]

theorem viewOf_eq (s : St) (h : Handle) : viewOf s h = viewOfL s.regions h := by
  have rd : ∀ reg off len, (match readRange reg off len s with | .ok bs _ => some bs | _ => none) =
      rdL s.regions reg off len := fun reg off len => by
    rcases readRange_eq s reg off len with ⟨bs, h1, h2⟩ | ⟨h1, w, h2⟩ <;> rw [h1, h2]
  cases h <;> exact rd ..

theorem abs_eq (s : St) : abs s = absL s.regions s.hs := by
  unfold abs absL
  simp only [viewOf_eq]

theorem countP_set' {α} (p : α → Bool) (l : List α) (i : Nat) (x y : α) (h : l[i]? = some x) :
    (l.set i y).countP p + (if p x then 1 else 0) = l.countP p + (if p y then 1 else 0) := by
  have := countP_filterMap_set p (l.map some) i (some x) (some y) (by rw [List.getElem?_map, h]; rfl)
  have hm : ∀ l : List α, (l.map some).filterMap id = l := fun l => by
    rw [List.filterMap_map]; exact List.filterMap_some
  rwa [← List.map_set, hm, hm] at this

theorem mem_liveHs {hs : List (Option Handle)} {h : Handle} :
    h ∈ liveHs hs ↔ ∃ i : Nat, hs[i]? = some (some h) := by
  simp only [liveHs, List.mem_filterMap, id]
  constructor
  · rintro ⟨a, ha, rfl⟩; exact List.mem_iff_getElem?.mp ha
  · rintro ⟨i, hi⟩; exact ⟨some h, List.mem_iff_getElem?.mpr ⟨i, hi⟩, rfl⟩

/-- number of live handles `h` with `f h = some k`: `refCountL` is `keyCountL ctrlOf`, `dirCountL` is
`keyCountL directRegion` (both by `rfl`), so each fact about the two counts is proved once, here -/
def keyCountL (f : Handle → Option Nat) (hs : List (Option Handle)) (k : Nat) : Nat :=
  (liveHs hs).countP fun h => f h == some k

section keyCountL
variable (f : Handle → Option Nat) {hs : List (Option Handle)} {i j k : Nat} {h h' : Handle}

theorem keyCountL_push (hs : List (Option Handle)) (h : Handle) (k : Nat) :
    keyCountL f (hs ++ [some h]) k = keyCountL f hs k + if f h = some k then 1 else 0 := by
  simp [keyCountL, liveHs, List.filterMap_append, List.countP_append, List.countP_cons]

/-- additive form; `x`, `y` are the old and the new content of slot `i` -/
theorem keyCountL_set {x : Option Handle} (y : Option Handle) (k : Nat) (hi : hs[i]? = some x) :
    keyCountL f (hs.set i y) k + optCount (fun h => f h == some k) x =
    keyCountL f hs k + optCount (fun h => f h == some k) y :=
  countP_filterMap_set _ hs i x y hi

theorem keyCountL_kill (k : Nat) (hi : hs[i]? = some (some h)) :
    keyCountL f (hs.set i none) k + (if f h = some k then 1 else 0) = keyCountL f hs k := by
  simpa using keyCountL_set f none k hi

theorem keyCountL_set_some (h' : Handle) (k : Nat) (hi : hs[i]? = some (some h)) :
    keyCountL f (hs.set i (some h')) k + (if f h = some k then 1 else 0) =
    keyCountL f hs k + (if f h' = some k then 1 else 0) := by
  simpa using keyCountL_set f (some h') k hi

theorem keyCountL_set_eq {x y : Option Handle} (hi : hs[i]? = some x) (hxy : y.bind f = x.bind f)
    (k : Nat) : keyCountL f (hs.set i y) k = keyCountL f hs k := by
  have e : ∀ z : Option Handle,
      optCount (fun h => f h == some k) z = if z.bind f = some k then 1 else 0 := by
    intro z; cases z <;> simp [optCount]
  have := keyCountL_set f y k hi
  rw [e, e, hxy] at this; omega

theorem keyCountL_push_none (hs : List (Option Handle)) (hf : f h = none) (k : Nat) :
    keyCountL f (hs ++ [some h]) k = keyCountL f hs k := by
  rw [keyCountL_push, hf, if_neg nofun]; rfl

theorem keyCountL_pos_of (hi : hs[i]? = some (some h)) (hf : f h = some k) : 1 ≤ keyCountL f hs k := by
  have := keyCountL_kill f k hi; rw [if_pos hf] at this; exact this ▸ Nat.le_add_left 1 _

theorem keyCountL_eq_zero :
    keyCountL f hs k = 0 ↔ ∀ (i : Nat) (h : Handle), hs[i]? = some (some h) → f h ≠ some k := by
  simp only [keyCountL, List.countP_eq_zero, mem_liveHs, beq_iff_eq]
  exact ⟨fun h i a hi => h a ⟨i, hi⟩, fun h a ⟨i, hi⟩ => h i a hi⟩

theorem keyCountL_unique (h1 : keyCountL f hs k ≤ 1) (hi : hs[i]? = some (some h)) (hf : f h = some k)
    (hj : hs[j]? = some (some h')) (hf' : f h' = some k) : j = i := by
  apply Classical.byContradiction; intro hne
  have k1 := keyCountL_kill f k hi
  rw [if_pos hf] at k1
  have := keyCountL_pos_of f (hs := hs.set i none) (hj ▸ List.getElem?_set_ne (Ne.symm hne)) hf'
  omega

end keyCountL

theorem keyCountL_fill (f : Handle → Option Nat) {hs : List (Option Handle)} {i : Nat} (h' : Handle) (k : Nat)
    (hi : hs[i]? = some none) :
    keyCountL f (hs.set i (some h')) k = keyCountL f hs k + if f h' = some k then 1 else 0 := by
  simpa using keyCountL_set f (some h') k hi

/-- moving a handle into an empty slot changes no count -/
theorem keyCountL_move (f : Handle → Option Nat) {hs : List (Option Handle)} {i j : Nat} {o : Handle}
    (hi : (hs.set j none)[i]? = some none) (hj : hs[j]? = some (some o)) (k : Nat) :
    keyCountL f ((hs.set j none).set i (some o)) k = keyCountL f hs k := by
  have A := keyCountL_set f none k hj
  have B := keyCountL_set f (some o) k hi
  rw [optCount_none, Nat.add_zero] at A B
  exact B.trans A

theorem refCountL_push (hs : List (Option Handle)) (h : Handle) (c : Nat) :
    refCountL (hs ++ [some h]) c = refCountL hs c + if ctrlOf h = some c then 1 else 0 :=
  keyCountL_push ctrlOf hs h c

theorem dirCountL_push (hs : List (Option Handle)) (h : Handle) (r : Nat) :
    dirCountL (hs ++ [some h]) r = dirCountL hs r + if directRegion h = some r then 1 else 0 :=
  keyCountL_push directRegion hs h r

theorem refCountL_set_some {hs : List (Option Handle)} {i : Nat} {h : Handle} (h' : Handle) (c : Nat)
    (hi : hs[i]? = some (some h)) :
    refCountL (hs.set i (some h')) c + (if ctrlOf h = some c then 1 else 0) =
    refCountL hs c + (if ctrlOf h' = some c then 1 else 0) :=
  keyCountL_set_some ctrlOf h' c hi

theorem refCountL_kill {hs : List (Option Handle)} {i : Nat} {h : Handle} (c : Nat)
    (hi : hs[i]? = some (some h)) :
    refCountL (hs.set i none) c + (if ctrlOf h = some c then 1 else 0) = refCountL hs c :=
  keyCountL_kill ctrlOf c hi

theorem dirCountL_set_some {hs : List (Option Handle)} {i : Nat} {h : Handle} (h' : Handle) (r : Nat)
    (hi : hs[i]? = some (some h)) :
    dirCountL (hs.set i (some h')) r + (if directRegion h = some r then 1 else 0) =
    dirCountL hs r + (if directRegion h' = some r then 1 else 0) :=
  keyCountL_set_some directRegion h' r hi

theorem refCountL_set_same {hs : List (Option Handle)} {i : Nat} {h h' : Handle}
    (hi : hs[i]? = some (some h)) (hc : ctrlOf h' = ctrlOf h) (c : Nat) :
    refCountL (hs.set i (some h')) c = refCountL hs c :=
  keyCountL_set_eq ctrlOf (y := some h') hi hc c

theorem dirCountL_set_same {hs : List (Option Handle)} {i : Nat} {h h' : Handle}
    (hi : hs[i]? = some (some h)) (hc : directRegion h' = directRegion h) (r : Nat) :
    dirCountL (hs.set i (some h')) r = dirCountL hs r :=
  keyCountL_set_eq directRegion (y := some h') hi hc r

theorem refCountL_pos_of {hs : List (Option Handle)} {i : Nat} {h : Handle} {c : Nat}
    (hi : hs[i]? = some (some h)) (hc : ctrlOf h = some c) : 1 ≤ refCountL hs c :=
  keyCountL_pos_of ctrlOf hi hc

theorem refCountL_eq_zero {hs : List (Option Handle)} {c : Nat} :
    refCountL hs c = 0 ↔ ∀ (i : Nat) (h : Handle), hs[i]? = some (some h) → ctrlOf h ≠ some c :=
  keyCountL_eq_zero ctrlOf

theorem dirCountL_eq_zero {hs : List (Option Handle)} {r : Nat} :
    dirCountL hs r = 0 ↔ ∀ (i : Nat) (h : Handle), hs[i]? = some (some h) → directRegion h ≠ some r :=
  keyCountL_eq_zero directRegion

theorem refCountL_unique {hs : List (Option Handle)} {i j : Nat} {h h' : Handle} {c : Nat}
    (h1 : refCountL hs c = 1) (hi : hs[i]? = some (some h)) (hc : ctrlOf h = some c)
    (hj : hs[j]? = some (some h')) (hc' : ctrlOf h' = some c) : j = i :=
  keyCountL_unique ctrlOf (Nat.le_of_eq h1) hi hc hj hc'

theorem hs_set_cases {hs : List (Option Handle)} {i j : Nat} {x : Option Handle} {h : Handle}
    (hj : (hs.set i x)[j]? = some (some h)) :
    (j = i ∧ x = some h ∧ i < hs.length) ∨ (j ≠ i ∧ hs[j]? = some (some h)) := by
  rw [List.getElem?_set] at hj
  by_cases hij : i = j
  · subst hij
    by_cases hl : i < hs.length
    · simp [hl] at hj; exact .inl ⟨rfl, hj, hl⟩
    · simp [hl] at hj
  · simp [hij] at hj; exact .inr ⟨Ne.symm hij, hj⟩

theorem lookup_push_cases {α} {l : List α} {x y : α} {j : Nat} (h : (l ++ [x])[j]? = some y) :
    (j = l.length ∧ x = y) ∨ (j < l.length ∧ l[j]? = some y) := by
  rw [List.getElem?_append] at h
  split at h
  · next hj => exact .inr ⟨hj, h⟩
  · next hj =>
    have h0 : j - l.length = 0 := Nat.lt_one_iff.mp (lookup_lt h)
    rw [h0] at h
    exact .inl ⟨Nat.le_antisymm (Nat.sub_eq_zero_iff_le.mp h0) (Nat.le_of_not_lt hj), Option.some.inj h⟩

theorem hs_lookup_lt {hs : List (Option Handle)} {i : Nat} {x : Option Handle}
    (hi : hs[i]? = some x) : i < hs.length := lookup_lt hi

/-- size, liveness and kind of a region (everything but its contents) -/
def metaL (R : List Region) (r : Nat) : Option (Nat × Bool × RKind) :=
  (R[r]?).map fun rg => (rg.size, rg.live, rg.kind)

theorem metaL_of_lookup {R R' : List Region} {r : Nat} (h : R'[r]? = R[r]?) :
    metaL R' r = metaL R r := by simp [metaL, h]

/-! `isHeapLiveL`, `regionSizeL`, `regionOddL`, `kindL` at `r` are functions of `metaL R r`. -/

theorem isHeapLiveL_of_meta {R R' : List Region} {r : Nat} (h : metaL R' r = metaL R r) :
    isHeapLiveL R' r = isHeapLiveL R r := by
  have e : ∀ R : List Region, isHeapLiveL R r = match metaL R r with
      | some (_, l, k) => l && (match k with | .heap _ => true | _ => false)
      | none => false :=
    fun R => by rw [isHeapLiveL_def, metaL]; cases R[r]? <;> rfl
  rw [e, e, h]

theorem regionSizeL_of_meta {R R' : List Region} {r : Nat} (h : metaL R' r = metaL R r) :
    regionSizeL R' r = regionSizeL R r := by
  have e : ∀ R : List Region, regionSizeL R r = match metaL R r with | some (n, _, _) => n | none => 0 :=
    fun R => by rw [regionSizeL_def, metaL]; cases R[r]? <;> rfl
  rw [e, e, h]

theorem regionOddL_of_meta {R R' : List Region} {r : Nat} (h : metaL R' r = metaL R r) :
    regionOddL R' r = regionOddL R r := by
  have e : ∀ R : List Region, regionOddL R r = match metaL R r with
      | some (_, _, k) => (match k with | .heap o => o | _ => false)
      | none => false :=
    fun R => by rw [regionOddL_def, metaL]; cases R[r]? <;> rfl
  rw [e, e, h]

theorem kindL_of_meta {R R' : List Region} {r : Nat} (h : metaL R' r = metaL R r) :
    kindL R' r = kindL R r := by
  have e : ∀ R : List Region, kindL R r = (metaL R r).map (·.2.2) :=
    fun R => by rw [kindL, metaL]; cases R[r]? <;> rfl
  rw [e, e, h]

theorem lookup_append_of_some {α} {R : List α} {r : Nat} {x : α} (X : List α) (h : R[r]? = some x) :
    (R ++ X)[r]? = some x := by
  rw [List.getElem?_append_left (lookup_lt h), h]

theorem lookup_set_eq {α} {R : List α} {r : Nat} {y : α} (x : α) (h : R[r]? = some y) :
    (R.set r x)[r]? = some x := by
  rw [List.getElem?_set_self (lookup_lt h)]

theorem isHeapLiveL_lt {R : List Region} {r : Nat} (h : isHeapLiveL R r = true) : r < R.length := by
  rw [isHeapLiveL_def] at h
  cases hr : R[r]? with
  | none => rw [hr] at h; cases h
  | some rg => exact lookup_lt hr

theorem isHeapLiveL_iff {R : List Region} {r : Nat} :
    isHeapLiveL R r = true ↔ ∃ rg o, R[r]? = some rg ∧ rg.live = true ∧ rg.kind = .heap o := by
  rw [isHeapLiveL_def]
  cases R[r]? with
  | none => simp
  | some rg =>
    cases hk : rg.kind <;> simp [hk]

theorem isHeapLiveL_append {R : List Region} {r : Nat} (X : List Region) (h : r < R.length) :
    isHeapLiveL (R ++ X) r = isHeapLiveL R r :=
  isHeapLiveL_of_meta (metaL_of_lookup (List.getElem?_append_left h))
theorem regionSizeL_append {R : List Region} {r : Nat} (X : List Region) (h : r < R.length) :
    regionSizeL (R ++ X) r = regionSizeL R r :=
  regionSizeL_of_meta (metaL_of_lookup (List.getElem?_append_left h))
theorem regionOddL_append {R : List Region} {r : Nat} (X : List Region) (h : r < R.length) :
    regionOddL (R ++ X) r = regionOddL R r :=
  regionOddL_of_meta (metaL_of_lookup (List.getElem?_append_left h))
theorem kindL_append {R : List Region} {r : Nat} (X : List Region) (h : r < R.length) :
    kindL (R ++ X) r = kindL R r :=
  kindL_of_meta (metaL_of_lookup (List.getElem?_append_left h))

theorem isHeapLiveL_new (R : List Region) (x : Region) :
    isHeapLiveL (R ++ [x]) R.length = (x.live && match x.kind with | .heap _ => true | _ => false) := by
  simp [isHeapLiveL_def]
theorem regionSizeL_new (R : List Region) (x : Region) :
    regionSizeL (R ++ [x]) R.length = x.size := by simp [regionSizeL_def]
theorem regionOddL_new (R : List Region) (x : Region) :
    regionOddL (R ++ [x]) R.length = (match x.kind with | .heap o => o | _ => false) := by
  simp [regionOddL_def]
theorem kindL_new (R : List Region) (x : Region) : kindL (R ++ [x]) R.length = some x.kind := by
  simp [kindL]

theorem isHeapLiveL_set_ne {R : List Region} {r r' : Nat} (x : Region) (h : r' ≠ r) :
    isHeapLiveL (R.set r' x) r = isHeapLiveL R r :=
  isHeapLiveL_of_meta (metaL_of_lookup (List.getElem?_set_ne h))
theorem regionSizeL_set_ne {R : List Region} {r r' : Nat} (x : Region) (h : r' ≠ r) :
    regionSizeL (R.set r' x) r = regionSizeL R r :=
  regionSizeL_of_meta (metaL_of_lookup (List.getElem?_set_ne h))
theorem regionOddL_set_ne {R : List Region} {r r' : Nat} (x : Region) (h : r' ≠ r) :
    regionOddL (R.set r' x) r = regionOddL R r :=
  regionOddL_of_meta (metaL_of_lookup (List.getElem?_set_ne h))
theorem kindL_set_ne {R : List Region} {r r' : Nat} (x : Region) (h : r' ≠ r) :
    kindL (R.set r' x) r = kindL R r :=
  kindL_of_meta (metaL_of_lookup (List.getElem?_set_ne h))

theorem metaL_set_data {R : List Region} {r : Nat} {rg : Region} (d : List (Option Byte)) (r' : Nat)
    (hr : R[r]? = some rg) : metaL (R.set r { rg with data := d }) r' = metaL R r' := by
  by_cases h : r = r'
  · subst h; simp [metaL, lookup_set_eq _ hr, hr]
  · simp [metaL, List.getElem?_set_ne h]

theorem rdL_congr {R R' : List Region} {reg : Option Nat} {off len : Nat}
    (h : ∀ r, reg = some r → len ≠ 0 → R'[r]? = R[r]?) :
    rdL R' reg off len = rdL R reg off len := by
  unfold rdL
  by_cases hl : len = 0
  · simp [hl]
  · cases reg with
    | none => rfl
    | some r => simp only [hl, if_false, h r rfl hl]

theorem rdL_append {R : List Region} {reg : Option Nat} {off len : Nat} {v : List Byte}
    (X : List Region) (h : rdL R reg off len = some v) : rdL (R ++ X) reg off len = some v := by
  rw [rdL_eq_some_iff] at h ⊢
  rcases h with h | ⟨h0, r, rg, h1, h2, h3⟩
  · exact .inl h
  · exact .inr ⟨h0, r, rg, h1, lookup_append_of_some X h2, h3⟩

theorem rdL_set_ne {R : List Region} {reg : Option Nat} {off len : Nat} {r' : Nat} (x : Region)
    (h : reg ≠ some r') : rdL (R.set r' x) reg off len = rdL R reg off len := by
  apply rdL_congr
  intro r hr _
  apply List.getElem?_set_ne
  rintro rfl; exact h hr

theorem slice_congr {α} {d d' : List α} {off len : Nat}
    (h : ∀ k, off ≤ k → k < off + len → d'[k]? = d[k]?) :
    (d'.drop off).take len = (d.drop off).take len := by
  apply List.ext_getElem?
  intro j
  simp only [List.getElem?_take, List.getElem?_drop]
  split
  · next hj => exact h _ (Nat.le_add_right _ _) (Nat.add_lt_add_left hj _)
  · rfl

theorem rdL_set_data {R : List Region} {r : Nat} {rg : Region} {d : List (Option Byte)}
    {reg : Option Nat} {off len : Nat} (hr : R[r]? = some rg)
    (h : reg = some r → ∀ k, off ≤ k → k < off + len → d[k]? = rg.data[k]?) :
    rdL (R.set r { rg with data := d }) reg off len = rdL R reg off len := by
  by_cases hreg : reg = some r
  · subst hreg
    unfold rdL
    by_cases hl : len = 0
    · simp [hl]
    · simp only [hl, if_false, lookup_set_eq _ hr, hr, slice_congr (h rfl)]
  · exact rdL_set_ne _ hreg

theorem write_getElem? {α} (d m : List α) (o k : Nat) (hb : o + m.length ≤ d.length) :
    (d.take o ++ m ++ d.drop (o + m.length))[k]? =
      if k < o then d[k]? else if k < o + m.length then m[k - o]? else d[k]? := by
  have h1 : (d.take o).length = o := List.length_take_of_le (Nat.le_trans (Nat.le_add_right _ _) hb)
  rw [List.append_assoc, List.getElem?_append, h1]
  split
  · next h => rw [List.getElem?_take_of_lt h]
  · next h =>
    have ho := Nat.le_of_not_lt h
    rw [List.getElem?_append]
    by_cases h2 : k - o < m.length
    · rw [if_pos h2, if_pos ((Nat.sub_lt_iff_lt_add' ho).mp h2)]
    · rw [if_neg h2, if_neg fun h3 => h2 ((Nat.sub_lt_iff_lt_add' ho).mpr h3), List.getElem?_drop,
        Nat.add_assoc, Nat.add_sub_cancel' (Nat.le_of_not_lt h2), Nat.add_sub_cancel' ho]

theorem write_length {α} (d m : List α) (o : Nat) (hb : o + m.length ≤ d.length) :
    (d.take o ++ m ++ d.drop (o + m.length)).length = d.length := by
  rw [List.length_append, List.length_append, List.length_drop,
    List.length_take_of_le (Nat.le_trans (Nat.le_add_right _ _) hb), Nat.add_sub_cancel' hb]

theorem write_slice {α} (d m : List α) (o : Nat) (hb : o + m.length ≤ d.length) :
    ((d.take o ++ m ++ d.drop (o + m.length)).drop o).take m.length = m := by
  have h1 : (d.take o).length = o := List.length_take_of_le (Nat.le_trans (Nat.le_add_right _ _) hb)
  rw [List.append_assoc, List.drop_append_of_le_length (Nat.le_of_eq h1.symm), List.drop_of_length_le (Nat.le_of_eq h1),
    List.nil_append, List.take_left']
  rfl

theorem liveCtrlL_some_iff {C : List CtrlE} {c : Nat} {ct : Ctrl} :
    liveCtrlL C c = some ct ↔ ∃ e, C[c]? = some e ∧ e.live = true ∧ e.c = ct := by
  rw [liveCtrlL_def]
  cases C[c]? with
  | none => simp
  | some e => by_cases h : e.live = true <;> simp [h]

theorem liveCtrlL_of {C : List CtrlE} {c : Nat} {e : CtrlE} (h : C[c]? = some e) (hl : e.live = true) :
    liveCtrlL C c = some e.c := by simp [liveCtrlL_def, h, hl]

theorem liveCtrlL_append {C : List CtrlE} {c : Nat} (X : List CtrlE) (h : c < C.length) :
    liveCtrlL (C ++ X) c = liveCtrlL C c := by
  simp [liveCtrlL_def, List.getElem?_append_left h]

theorem liveCtrlL_append_of_some {C : List CtrlE} {c : Nat} {ct : Ctrl} (X : List CtrlE)
    (h : liveCtrlL C c = some ct) : liveCtrlL (C ++ X) c = some ct := by
  obtain ⟨e, h1, h2, h3⟩ := liveCtrlL_some_iff.mp h
  exact liveCtrlL_some_iff.mpr ⟨e, lookup_append_of_some X h1, h2, h3⟩

theorem liveCtrlL_new (C : List CtrlE) (e : CtrlE) :
    liveCtrlL (C ++ [e]) C.length = if e.live then some e.c else none := by
  simp [liveCtrlL_def]

theorem liveCtrlL_set_ne {C : List CtrlE} {c c' : Nat} (e : CtrlE) (h : c' ≠ c) :
    liveCtrlL (C.set c' e) c = liveCtrlL C c := by
  simp [liveCtrlL_def, List.getElem?_set_ne h]

theorem liveCtrlL_set_eq {C : List CtrlE} {c : Nat} {e0 : CtrlE} (e : CtrlE) (h : C[c]? = some e0) :
    liveCtrlL (C.set c e) c = if e.live then some e.c else none := by
  simp [liveCtrlL_def, lookup_set_eq e h]

theorem liveCtrlL_set_rc {C : List CtrlE} {c : Nat} {e : CtrlE} (n : Nat) (c' : Nat)
    (h : C[c]? = some e) : liveCtrlL (C.set c { e with rc := n }) c' = liveCtrlL C c' := by
  by_cases hc : c = c'
  · subst hc; rw [liveCtrlL_set_eq _ h, liveCtrlL_def, h]
  · exact liveCtrlL_set_ne _ hc

theorem liveCtrlL_lt {C : List CtrlE} {c : Nat} {ct : Ctrl} (h : liveCtrlL C c = some ct) :
    c < C.length := by
  obtain ⟨e, h1, _⟩ := liveCtrlL_some_iff.mp h
  exact lookup_lt h1

theorem ctrlCountL_push (C : List CtrlE) (e : CtrlE) (r : Nat) :
    ctrlCountL (C ++ [e]) r = ctrlCountL C r + if (e.live && ctrlRegion e.c == some r) then 1 else 0 := by
  simp [ctrlCountL, List.countP_append, List.countP_cons]

theorem ctrlCountL_set {C : List CtrlE} {c : Nat} {e : CtrlE} (e' : CtrlE) (r : Nat)
    (h : C[c]? = some e) :
    ctrlCountL (C.set c e') r + (if (e.live && ctrlRegion e.c == some r) then 1 else 0) =
    ctrlCountL C r + (if (e'.live && ctrlRegion e'.c == some r) then 1 else 0) :=
  countP_set' _ C c e e' h

theorem ctrlCountL_set_same {C : List CtrlE} {c : Nat} {e : CtrlE} (e' : CtrlE) (r : Nat)
    (h : C[c]? = some e) (hl : e'.live = e.live) (hr : ctrlRegion e'.c = ctrlRegion e.c) :
    ctrlCountL (C.set c e') r = ctrlCountL C r := by
  have := ctrlCountL_set e' r h; rw [hl, hr] at this; exact Nat.add_right_cancel this

theorem ctrlCountL_eq_zero {C : List CtrlE} {r : Nat} :
    ctrlCountL C r = 0 ↔ ∀ (c : Nat) (e : CtrlE), C[c]? = some e → e.live = true → ctrlRegion e.c ≠ some r := by
  simp only [ctrlCountL, List.countP_eq_zero, List.mem_iff_getElem?, Bool.and_eq_true, beq_iff_eq,
    not_and]
  constructor
  · intro h c e hc; exact h e ⟨c, hc⟩
  · rintro h e ⟨c, hc⟩; exact h c e hc

theorem ctrlCountL_pos_of {C : List CtrlE} {c : Nat} {e : CtrlE} {r : Nat} (h : C[c]? = some e)
    (hl : e.live = true) (hr : ctrlRegion e.c = some r) : 1 ≤ ctrlCountL C r := by
  have := ctrlCountL_set { e with live := false } r h
  rw [hl, hr, Bool.true_and, beq_self_eq_true, if_pos rfl, Bool.false_and, if_neg Bool.false_ne_true] at this
  exact Nat.le.intro ((Nat.add_comm 1 _).trans this)

theorem ctrlCountL_unique {C : List CtrlE} {c c' : Nat} {e e' : CtrlE} {r : Nat}
    (h1 : ctrlCountL C r ≤ 1) (hc : C[c]? = some e) (hl : e.live = true)
    (hr : ctrlRegion e.c = some r) (hc' : C[c']? = some e') (hl' : e'.live = true)
    (hr' : ctrlRegion e'.c = some r) : c' = c := by
  apply Classical.byContradiction; intro hne
  have k := ctrlCountL_set { e with live := false } r hc
  simp [hl, hr] at k
  have : (C.set c { e with live := false })[c']? = some e' := by
    rw [List.getElem?_set_ne (Ne.symm hne)]; exact hc'
  have := ctrlCountL_pos_of this hl' hr'
  omega

theorem handleOKL_static {R C reg off len} :
    handleOKL R C (.bytes .static reg off len) = true ↔ (rdL R reg off len).isSome = true := by
  simp only [handleOKL, handleOKB, initRange_eq, initRangeL_eq]

theorem handleOKL_owned {R C c reg off len} :
    handleOKL R C (.bytes (.owned c) reg off len) = true ↔
      (∃ o, liveCtrlL C c = some (.owned o) ∧
        (len = 0 ∨ ∃ r, reg = some r ∧ kindL R r = some (.ownerMem o))) ∧
      (rdL R reg off len).isSome = true := by
  simp only [handleOKL, handleOKB, initRange_eq, initRangeL_eq, liveCtrl_eq, Bool.and_eq_true]
  apply and_congr_left'
  cases hc : liveCtrlL C c with
  | none => simp
  | some ct =>
    cases ct <;> simp
    cases reg with
    | none => simp
    | some r =>
      simp [kindL]
      cases R[r]? <;> simp

theorem handleOKL_promV {R C vt reg off len} :
    handleOKL R C (.bytes (.prom vt none) reg off len) = true ↔
      (∃ r, reg = some r ∧ isHeapLiveL R r = true ∧ off + len = regionSizeL R r ∧ vt = regionOddL R r) ∧
      (rdL R reg off len).isSome = true := by
  simp only [handleOKL, handleOKB, initRange_eq, initRangeL_eq, isHeapLive_eq, regionSize_eq,
    regionOddB_eq, Bool.and_eq_true]
  apply and_congr_left'
  cases reg <;> simp [and_assoc]

theorem handleOKL_shared {R C c reg off len} :
    handleOKL R C (.bytes (.shared c) reg off len) = true ↔
      (∃ r cap, liveCtrlL C c = some (.sharedB r cap) ∧ reg = some r ∧ off + len ≤ cap) ∧
      (rdL R reg off len).isSome = true := by
  simp only [handleOKL, handleOKB, initRange_eq, initRangeL_eq, liveCtrl_eq, Bool.and_eq_true]
  apply and_congr_left'
  cases hc : liveCtrlL C c with
  | none => simp
  | some ct =>
    cases ct <;> cases reg <;> simp
    constructor
    · rintro ⟨rfl, h⟩; exact ⟨_, _, ⟨rfl, rfl⟩, rfl, h⟩
    · rintro ⟨_, _, ⟨rfl, rfl⟩, rfl, h⟩; exact ⟨rfl, h⟩

/-- `handleOKB` has one arm for the two shapes: a promoted promotable handle is checked like a
`shared` one -/
theorem handleOKL_promA {R C vt c reg off len} :
    handleOKL R C (.bytes (.prom vt (some c)) reg off len) = true ↔
      (∃ r cap, liveCtrlL C c = some (.sharedB r cap) ∧ reg = some r ∧ off + len ≤ cap) ∧
      (rdL R reg off len).isSome = true :=
  handleOKL_shared

theorem handleOKL_sharedV {R C c reg off len} :
    handleOKL R C (.bytes (.sharedV c) reg off len) = true ↔
      (∃ vlen vcap vorig, liveCtrlL C c = some (.sharedV reg vlen vcap vorig) ∧ off + len ≤ vcap) ∧
      (rdL R reg off len).isSome = true := by
  simp only [handleOKL, handleOKB, initRange_eq, initRangeL_eq, liveCtrl_eq, Bool.and_eq_true]
  apply and_congr_left'
  cases hc : liveCtrlL C c with
  | none => simp
  | some ct =>
    cases ct <;> simp
    constructor
    · rintro ⟨rfl, h⟩; exact ⟨_, _, ⟨rfl, rfl, rfl⟩, h⟩
    · rintro ⟨_, _, ⟨rfl, rfl, rfl⟩, h⟩; exact ⟨rfl, h⟩

theorem handleOKL_mutV {R C reg off len cap orig} :
    handleOKL R C (.mut none reg off len cap orig) = true ↔
      len ≤ cap ∧ off ≤ W / 32 - 1 ∧
      (match reg with
       | none => off + cap = 0
       | some r => isHeapLiveL R r = true ∧ off + cap = regionSizeL R r) ∧
      (rdL R reg off len).isSome = true := by
  simp only [handleOKL, handleOKB, initRange_eq, initRangeL_eq, isHeapLive_eq, regionSize_eq,
    Bool.and_eq_true, decide_eq_true_eq, and_assoc]
  cases reg <;> simp

theorem handleOKL_mutA {R C c reg off len cap orig} :
    handleOKL R C (.mut (some c) reg off len cap orig) = true ↔
      len ≤ cap ∧
      (∃ vlen vcap vorig, liveCtrlL C c = some (.sharedV reg vlen vcap vorig) ∧ off + cap ≤ vcap) ∧
      (rdL R reg off len).isSome = true := by
  simp only [handleOKL, handleOKB, initRange_eq, initRangeL_eq, liveCtrl_eq, Bool.and_eq_true,
    decide_eq_true_eq, and_assoc]
  apply and_congr_right'
  apply and_congr_left'
  cases hc : liveCtrlL C c with
  | none => simp
  | some ct =>
    cases ct <;> simp
    constructor
    · rintro ⟨rfl, h⟩; exact ⟨_, _, ⟨rfl, rfl, rfl⟩, h⟩
    · rintro ⟨_, _, ⟨rfl, rfl, rfl⟩, h⟩; exact ⟨rfl, h⟩

theorem handleOKL_vec {R C reg len cap} :
    handleOKL R C (.vec reg len cap) = true ↔
      len ≤ cap ∧
      (match reg with
       | none => cap = 0
       | some r => isHeapLiveL R r = true ∧ cap = regionSizeL R r) ∧
      (rdL R reg 0 len).isSome = true := by
  simp only [handleOKL, handleOKB, initRange_eq, initRangeL_eq, isHeapLive_eq, regionSize_eq,
    Bool.and_eq_true, decide_eq_true_eq, and_assoc]
  cases reg <;> simp

/-- does `handleOKL` look at the size / liveness / kind of the handle's region?  (Shapes that go
through a control block only read the block; static handles only read their bytes.  An `owned` handle
looks at the kind of its region only if it is non-empty: the `len == 0 ||` of `handleOKB`.) -/
def usesMeta : Handle → Bool
  | .bytes (.owned _) _ _ len => len != 0
  | .bytes (.prom _ none) .. => true
  | .mut none .. => true
  | .vec .. => true
  | _ => false

/-- `handleOKL R C h` reads: the meta data of `h`'s region, whether `h`'s view is readable, and the
live control block `h` names. -/
theorem handleOKL_frame {R R' : List Region} {C C' : List CtrlE} {h : Handle}
    (hm : ∀ r, hreg h = some r → usesMeta h = true → metaL R' r = metaL R r)
    (hi : (rdL R' (hreg h) (hoff h) (hlen h)).isSome = (rdL R (hreg h) (hoff h) (hlen h)).isSome)
    (hc : ∀ c, ctrlOf h = some c → liveCtrlL C' c = liveCtrlL C c) :
    handleOKL R' C' h = handleOKL R C h := by
  apply Bool.eq_iff_iff.mpr
  cases h with
  | bytes repr reg off len =>
    replace hi : (rdL R' reg off len).isSome = (rdL R reg off len).isSome := hi
    cases repr with
    | «static» => rw [handleOKL_static, handleOKL_static, hi]
    | owned c =>
      rw [handleOKL_owned, handleOKL_owned, hi, hc c rfl]
      by_cases hl : len = 0
      · simp only [hl, true_or]
      · refine and_congr_left' (exists_congr fun o => and_congr_right' (or_congr_right ?_))
        refine exists_congr fun r => and_congr_right fun hr => ?_
        rw [kindL_of_meta (hm r hr (by simp [usesMeta, hl]))]
    | prom vt oc =>
      cases oc with
      | none =>
        rw [handleOKL_promV, handleOKL_promV, hi]
        refine and_congr_left' (exists_congr fun r => and_congr_right fun hr => ?_)
        rw [isHeapLiveL_of_meta (hm r hr rfl), regionSizeL_of_meta (hm r hr rfl),
          regionOddL_of_meta (hm r hr rfl)]
      | some c => rw [handleOKL_promA, handleOKL_promA, hi, hc c rfl]
    | shared c => rw [handleOKL_shared, handleOKL_shared, hi, hc c rfl]
    | sharedV c => rw [handleOKL_sharedV, handleOKL_sharedV, hi, hc c rfl]
  | «mut» arc reg off len cap orig =>
    replace hi : (rdL R' reg off len).isSome = (rdL R reg off len).isSome := hi
    cases arc with
    | none =>
      rw [handleOKL_mutV, handleOKL_mutV, hi]
      cases reg with
      | none => exact Iff.rfl
      | some r =>
        dsimp only
        rw [isHeapLiveL_of_meta (hm r rfl rfl), regionSizeL_of_meta (hm r rfl rfl)]
    | some c => rw [handleOKL_mutA, handleOKL_mutA, hi, hc c rfl]
  | vec reg len cap =>
    replace hi : (rdL R' reg 0 len).isSome = (rdL R reg 0 len).isSome := hi
    rw [handleOKL_vec, handleOKL_vec, hi]
    cases reg with
    | none => exact Iff.rfl
    | some r =>
      dsimp only
      rw [isHeapLiveL_of_meta (hm r rfl rfl), regionSizeL_of_meta (hm r rfl rfl)]

theorem mut_len_le_cap {R : List Region} {C : List CtrlE} {arc reg : Option Nat} {off len cap orig : Nat}
    (hok : handleOKL R C (.mut arc reg off len cap orig) = true) : len ≤ cap := by
  cases arc with
  | none => exact (handleOKL_mutV.mp hok).1
  | some c => exact (handleOKL_mutA.mp hok).1

theorem handleOKL_mut_relen {R R' : List Region} {C : List CtrlE} {arc reg : Option Nat}
    {off len len' cap orig : Nat} (hok : handleOKL R C (.mut arc reg off len cap orig) = true)
    (hm : ∀ r, metaL R' r = metaL R r) (hl : len' ≤ cap) (hrd : (rdL R' reg off len').isSome = true) :
    handleOKL R' C (.mut arc reg off len' cap orig) = true := by
  cases arc with
  | none =>
    obtain ⟨_, hoffb, hbuf, _⟩ := handleOKL_mutV.mp hok
    refine handleOKL_mutV.mpr ⟨hl, hoffb, ?_, hrd⟩
    cases reg with
    | none => exact hbuf
    | some r =>
      exact ⟨by rw [isHeapLiveL_of_meta (hm r)]; exact hbuf.1, by rw [regionSizeL_of_meta (hm r)]; exact hbuf.2⟩
  | some c => exact handleOKL_mutA.mpr ⟨hl, (handleOKL_mutA.mp hok).2.1, hrd⟩

theorem handleOKL_rd {R : List Region} {C : List CtrlE} {h : Handle} (hok : handleOKL R C h = true) :
    (rdL R (hreg h) (hoff h) (hlen h)).isSome = true := by
  cases h with
  | bytes repr reg off len =>
    cases repr with
    | «static» => exact handleOKL_static.mp hok
    | owned c => exact (handleOKL_owned.mp hok).2
    | prom vt oc =>
      cases oc with
      | none => exact (handleOKL_promV.mp hok).2
      | some c => exact (handleOKL_promA.mp hok).2
    | shared c => exact (handleOKL_shared.mp hok).2
    | sharedV c => exact (handleOKL_sharedV.mp hok).2
  | «mut» arc reg off len cap orig =>
    cases arc with
    | none => exact (handleOKL_mutV.mp hok).2.2.2
    | some c => exact (handleOKL_mutA.mp hok).2.2
  | vec reg len cap => exact (handleOKL_vec.mp hok).2.2

theorem handleOKL_ctrl_live {R : List Region} {C : List CtrlE} {h : Handle} {c : Nat}
    (hok : handleOKL R C h = true) (hc : ctrlOf h = some c) : (liveCtrlL C c).isSome = true := by
  cases h with
  | bytes repr reg off len =>
    cases repr with
    | «static» => cases hc
    | owned c' => cases hc; obtain ⟨⟨o, h1, _⟩, _⟩ := handleOKL_owned.mp hok; rw [h1]; rfl
    | prom vt oc =>
      cases oc with
      | none => cases hc
      | some c' => cases hc; obtain ⟨⟨_, _, h1, _⟩, _⟩ := handleOKL_promA.mp hok; rw [h1]; rfl
    | shared c' => cases hc; obtain ⟨⟨_, _, h1, _⟩, _⟩ := handleOKL_shared.mp hok; rw [h1]; rfl
    | sharedV c' => cases hc; obtain ⟨⟨_, _, _, h1, _⟩, _⟩ := handleOKL_sharedV.mp hok; rw [h1]; rfl
  | «mut» arc reg off len cap orig =>
    cases arc with
    | none => cases hc
    | some c' => cases hc; obtain ⟨_, ⟨_, _, _, h1, _⟩, _⟩ := handleOKL_mutA.mp hok; rw [h1]; rfl
  | vec reg len cap => cases hc

theorem handleOKL_direct {R : List Region} {C : List CtrlE} {h : Handle} {r : Nat}
    (hok : handleOKL R C h = true) (hd : directRegion h = some r) : isHeapLiveL R r = true := by
  cases h with
  | bytes repr reg off len =>
    cases repr with
    | prom vt oc =>
      cases oc with
      | none =>
        cases hd
        obtain ⟨⟨r', h1, h2, _⟩, _⟩ := handleOKL_promV.mp hok
        cases h1; exact h2
      | some c => cases hd
    | _ => cases hd
  | «mut» arc reg off len cap orig =>
    cases arc with
    | none => cases hd; exact (handleOKL_mutV.mp hok).2.2.1.1
    | some c => cases hd
  | vec reg len cap => cases hd; exact (handleOKL_vec.mp hok).2.1.1

theorem rdL_isSome_lt {R : List Region} {r off len : Nat} (h : (rdL R (some r) off len).isSome = true)
    (hl : len ≠ 0) : r < R.length := by
  obtain ⟨v, hv⟩ := Option.isSome_iff_exists.mp h
  rcases rdL_eq_some_iff.mp hv with ⟨h0, _⟩ | ⟨_, r', rg, h1, h2, _⟩
  · exact (hl h0).elim
  · cases h1; exact lookup_lt h2

theorem handleOKL_meta_lt {R : List Region} {C : List CtrlE} {h : Handle} {r : Nat}
    (hok : handleOKL R C h = true) (hr : hreg h = some r) (hu : usesMeta h = true) :
    r < R.length := by
  cases h with
  | bytes repr reg off len =>
    cases hr
    cases repr with
    | owned c => exact rdL_isSome_lt (handleOKL_owned.mp hok).2 (by simpa [usesMeta] using hu)
    | prom vt oc =>
      cases oc with
      | none => exact isHeapLiveL_lt (handleOKL_direct hok rfl)
      | some c => cases hu
    | _ => cases hu
  | «mut» arc reg off len cap orig =>
    cases hr
    cases arc with
    | none => exact isHeapLiveL_lt (handleOKL_direct hok rfl)
    | some c => cases hu
  | vec reg len cap => cases hr; exact isHeapLiveL_lt (handleOKL_direct hok rfl)

theorem handleOKL_append {R : List Region} {C : List CtrlE} {h : Handle} (X : List Region)
    (Y : List CtrlE) (hok : handleOKL R C h = true) : handleOKL (R ++ X) (C ++ Y) h = true := by
  rw [← hok]
  apply handleOKL_frame
  · intro r hr hu
    exact metaL_of_lookup (List.getElem?_append_left (handleOKL_meta_lt hok hr hu))
  · obtain ⟨v, hv⟩ := Option.isSome_iff_exists.mp (handleOKL_rd hok)
    rw [hv, rdL_append X hv]
  · intro c hc
    obtain ⟨ct, hct⟩ := Option.isSome_iff_exists.mp (handleOKL_ctrl_live hok hc)
    exact liveCtrlL_append Y (liveCtrlL_lt hct)

/-- W4 as a statement about two distinct slots.  Only a mutable `a` (`BytesMut`, `Vec`) must be disjoint from
the others; two `Bytes` may overlap, which is why sharing transitions get `isMutable _ = true → _` for free. -/
def Excl (hs : List (Option Handle)) : Prop :=
  ∀ (i j : Nat) (a b : Handle), hs[i]? = some (some a) → hs[j]? = some (some b) → i ≠ j →
    isMutable a = true → disjointB a b = true

theorem exclusiveB_iff (s : St) : exclusiveB s = true ↔ Excl s.hs := by
  unfold exclusiveB Excl
  simp only [List.all_eq_true, List.mem_zipIdx_iff_getElem?, Prod.forall]
  constructor
  · intro h i j a b hi hj hij hm
    have h1 := h (some a) i hi
    simp only [hm, Bool.not_true, Bool.false_or, List.all_eq_true, List.mem_zipIdx_iff_getElem?,
      Prod.forall] at h1
    have h2 := h1 (some b) j hj
    simpa [hij] using h2
  · intro h oa i hi
    cases oa with
    | none => rfl
    | some a =>
      simp only [Bool.or_eq_true, Bool.not_eq_true', List.all_eq_true,
        List.mem_zipIdx_iff_getElem?, Prod.forall]
      by_cases hm : isMutable a = true
      · right
        intro ob j hj
        cases ob with
        | none => rfl
        | some b =>
          by_cases hij : i = j
          · simp [hij]
          · simp [h i j a b hi hj hij hm]
      · left; simpa using hm

theorem disjointB_iff {a b : Handle} :
    disjointB a b = true ↔ ∀ r o l r' o' l', span a = some (r, o, l) → span b = some (r', o', l') →
      r ≠ r' ∨ l = 0 ∨ l' = 0 ∨ o + l ≤ o' ∨ o' + l' ≤ o := by
  unfold disjointB
  cases span a with
  | none => simp
  | some x =>
    cases span b with
    | none => simp
    | some y =>
      obtain ⟨r, o, l⟩ := x; obtain ⟨r', o', l'⟩ := y
      simp only [Bool.or_eq_true, bne_iff_ne, ne_eq, beq_iff_eq, decide_eq_true_eq, or_assoc]
      exact ⟨fun h _ _ _ _ _ _ h1 h2 => by cases h1; cases h2; exact h, fun h => h _ _ _ _ _ _ rfl rfl⟩

theorem disjointB_symm (a b : Handle) : disjointB a b = disjointB b a := by
  have key : ∀ a b, disjointB a b = true → disjointB b a = true := fun a b h =>
    disjointB_iff.mpr fun r o l r' o' l' h1 h2 => by
      rcases disjointB_iff.mp h _ _ _ _ _ _ h2 h1 with h | h | h | h | h
      · exact .inl (Ne.symm h)
      · exact .inr (.inr (.inl h))
      · exact .inr (.inl h)
      · exact .inr (.inr (.inr (.inr h)))
      · exact .inr (.inr (.inr (.inl h)))
  exact Bool.eq_iff_iff.mpr ⟨key a b, key b a⟩

theorem disjointB_of_span_none_right {a b : Handle} (h : span b = none) : disjointB a b = true :=
  disjointB_iff.mpr fun _ _ _ _ _ _ _ h2 => nomatch h.symm.trans h2

/-- the span of `a'` (if non-empty) lies inside the span of `a` -/
def spanSub (a' a : Handle) : Prop :=
  ∀ r o l, span a' = some (r, o, l) → l ≠ 0 →
    ∃ o0 l0, span a = some (r, o0, l0) ∧ o0 ≤ o ∧ o + l ≤ o0 + l0

theorem spanSub_refl (a : Handle) : spanSub a a := by
  intro r o l h _; exact ⟨o, l, h, Nat.le_refl _, Nat.le_refl _⟩

theorem spanSub_of_eq {a b : Handle} (h : span a = span b) : spanSub a b :=
  fun _ o l hs _ => ⟨o, l, h ▸ hs, Nat.le_refl _, Nat.le_refl _⟩

theorem disjointB_sub_left {a a' b : Handle} (hs : spanSub a' a) (h : disjointB a b = true) :
    disjointB a' b = true := by
  rw [disjointB_iff] at h ⊢
  intro r o l r' o' l' h1 h2
  by_cases hl : l = 0
  · exact .inr (.inl hl)
  · obtain ⟨o0, l0, h3, h4, h5⟩ := hs r o l h1 hl
    have := h r o0 l0 r' o' l' h3 h2
    omega

theorem disjointB_sub_right {a b b' : Handle} (hs : spanSub b' b) (h : disjointB a b = true) :
    disjointB a b' = true := by
  rw [disjointB_symm] at h ⊢; exact disjointB_sub_left hs h

theorem Excl_kill {hs : List (Option Handle)} (i : Nat) (he : Excl hs) : Excl (hs.set i none) := by
  intro j k a b hj hk hjk hm
  rcases hs_set_cases hj with ⟨_, h, _⟩ | ⟨_, hj'⟩
  · cases h
  rcases hs_set_cases hk with ⟨_, h, _⟩ | ⟨_, hk'⟩
  · cases h
  exact he j k a b hj' hk' hjk hm

theorem Excl_set {hs : List (Option Handle)} {i : Nat} {h' : Handle} (he : Excl hs)
    (hn : ∀ j b, j ≠ i → hs[j]? = some (some b) →
      (isMutable b = true → disjointB b h' = true) ∧ (isMutable h' = true → disjointB h' b = true)) :
    Excl (hs.set i (some h')) := by
  intro j k a b hj hk hjk hm
  rcases hs_set_cases hj with ⟨rfl, h, _⟩ | ⟨hji, hj'⟩
  · cases h
    rcases hs_set_cases hk with ⟨rfl, _, _⟩ | ⟨hki, hk'⟩
    · exact (hjk rfl).elim
    · exact (hn k b hki hk').2 hm
  · rcases hs_set_cases hk with ⟨rfl, h, _⟩ | ⟨hki, hk'⟩
    · cases h; exact (hn j a hji hj').1 hm
    · exact he j k a b hj' hk' hjk hm

theorem Excl_set_sub {hs : List (Option Handle)} {i : Nat} {h h' : Handle} (he : Excl hs)
    (hi : hs[i]? = some (some h)) (hsub : spanSub h' h)
    (hm : isMutable h' = true → isMutable h = true) : Excl (hs.set i (some h')) := by
  apply Excl_set he
  intro j b hji hj
  exact ⟨fun hb => disjointB_sub_right hsub (he j i b h hj hi hji hb),
    fun hh => disjointB_sub_left hsub (he i j h b hi hj (Ne.symm hji) (hm hh))⟩

theorem Excl_push {hs : List (Option Handle)} {h' : Handle} (he : Excl hs)
    (hn : ∀ (j : Nat) (b : Handle), hs[j]? = some (some b) →
      (isMutable b = true → disjointB b h' = true) ∧ (isMutable h' = true → disjointB h' b = true)) :
    Excl (hs ++ [some h']) := by
  intro j k a b hj hk hjk hm
  rcases lookup_push_cases hj with ⟨rfl, h⟩ | ⟨hjl, hj'⟩
  · cases h
    rcases lookup_push_cases hk with ⟨rfl, _⟩ | ⟨_, hk'⟩
    · exact (hjk rfl).elim
    · exact (hn k b hk').2 hm
  · rcases lookup_push_cases hk with ⟨rfl, h⟩ | ⟨_, hk'⟩
    · cases h; exact (hn j a hj').1 hm
    · exact he j k a b hj' hk' hjk hm

theorem Excl_push_sub_imm {hs : List (Option Handle)} {i : Nat} {h h' : Handle} (he : Excl hs)
    (hi : hs[i]? = some (some h)) (hsub : spanSub h' h) (hm' : isMutable h' = false)
    (hm : isMutable h = false) : Excl (hs ++ [some h']) := by
  apply Excl_push he
  intro j b hj
  refine ⟨fun hb => ?_, fun hh => by simp [hm'] at hh⟩
  by_cases hji : j = i
  · subst hji; rw [hi] at hj; cases hj; simp [hm] at hb
  · exact disjointB_sub_right hsub (he j i b h hj hi hji hb)

theorem Excl_split {hs : List (Option Handle)} {i : Nat} {h h1 h2 : Handle} (he : Excl hs)
    (hi : hs[i]? = some (some h)) (s1 : spanSub h1 h) (s2 : spanSub h2 h)
    (m1 : isMutable h1 = true → isMutable h = true) (m2 : isMutable h2 = true → isMutable h = true)
    (d12 : isMutable h1 = true → disjointB h1 h2 = true)
    (d21 : isMutable h2 = true → disjointB h2 h1 = true) :
    Excl (hs.set i (some h1) ++ [some h2]) := by
  apply Excl_push (Excl_set_sub he hi s1 m1)
  intro j b hj
  rcases hs_set_cases hj with ⟨rfl, h, _⟩ | ⟨hji, hj'⟩
  · cases h; exact ⟨d12, d21⟩
  · exact ⟨fun hb => disjointB_sub_right s2 (he j i b h hj' hi hji hb),
      fun hh => disjointB_sub_left s2 (he i j h b hi hj' (Ne.symm hji) (m2 hh))⟩

/-- the buffer a live control block names -/
def ctrlBufOK (R : List Region) (owners : Nat) : Ctrl → Prop
  | .sharedB r cap => isHeapLiveL R r = true ∧ regionSizeL R r = cap
  | .sharedV (some r) _ vcap _ => isHeapLiveL R r = true ∧ regionSizeL R r = vcap
  | .sharedV none _ vcap _ => vcap = 0
  | .owned o => o < owners

theorem ctrlBufOK_live {R : List Region} {ow : Nat} {ct : Ctrl} {r : Nat} (h : ctrlBufOK R ow ct)
    (hr : ctrlRegion ct = some r) : isHeapLiveL R r = true := by
  cases ct with
  | sharedB r0 cap => cases hr; exact h.1
  | sharedV reg vlen vcap orig => cases reg <;> cases hr; exact h.1
  | owned o => cases hr

theorem ctrlOKB_iff (s : St) (c : Nat) (e : CtrlE) :
    ctrlOKB s c e = true ↔
      (e.live = true → e.rc = refCountL s.hs c ∧ 1 ≤ e.rc ∧ ctrlBufOK s.regions s.owners e.c) := by
  unfold ctrlOKB
  simp only [Bool.or_eq_true, Bool.not_eq_true', Bool.and_eq_true, beq_iff_eq, decide_eq_true_eq,
    refCount_eq, isHeapLive_eq, regionSize_eq, ge_iff_le, and_assoc]
  cases hl : e.live with
  | false => simp
  | true =>
    simp only [Bool.true_eq_false, false_or, forall_const]
    apply and_congr_right'; apply and_congr_right'
    cases hc : e.c with
    | sharedB r cap => simp [ctrlBufOK]
    | sharedV reg vlen vcap orig => cases reg <;> simp [ctrlBufOK]
    | owned o => simp [ctrlBufOK]

/-- W1–W5 of CoreWF.lean plus the two strengthenings X1, X2, in Prop form.  This is what proofs use. -/
structure Inv (s : St) : Prop where
  /-- W1 -/
  regs : ∀ (r : Nat) (rg : Region), s.regions[r]? = some rg → regionOKB rg = true
  /-- W2 + W5 (use the `handleOKL_<shape>` iff lemmas to read / establish it) -/
  hok : ∀ (i : Nat) (h : Handle), s.hs[i]? = some (some h) → handleOKL s.regions s.ctrls h = true
  /-- W3, control blocks -/
  cok : ∀ (c : Nat) (e : CtrlE), s.ctrls[c]? = some e → e.live = true →
    e.rc = refCountL s.hs c ∧ 1 ≤ e.rc ∧ ctrlBufOK s.regions s.owners e.c
  /-- W3, owners of regions -/
  own : ∀ r, r < s.regions.length →
    dirCountL s.hs r + ctrlCountL s.ctrls r = if isHeapLiveL s.regions r = true then 1 else 0
  /-- W4 -/
  excl : Excl s.hs
  /-- X1: a non-empty STATIC handle points into static memory -/
  stat : ∀ (i r off len : Nat), s.hs[i]? = some (some (.bytes .static (some r) off len)) → len ≠ 0 →
    kindL s.regions r = some .static
  /-- X2: live `owned o` control blocks have pairwise distinct owners -/
  odist : ∀ (c c' o : Nat), liveCtrlL s.ctrls c = some (.owned o) → liveCtrlL s.ctrls c' = some (.owned o) →
    c = c'

/-- X1 -/
def StaticOK (s : St) : Prop :=
  ∀ (i r off len : Nat), s.hs[i]? = some (some (.bytes .static (some r) off len)) → len ≠ 0 →
    kindL s.regions r = some .static

/-- X2 -/
def OwnedDistinct (s : St) : Prop :=
  ∀ (c c' o : Nat), liveCtrlL s.ctrls c = some (.owned o) → liveCtrlL s.ctrls c' = some (.owned o) →
    c = c'

/-- The strengthened (inductive) invariant. -/
def WFx (s : St) : Prop := WF s ∧ StaticOK s ∧ OwnedDistinct s

theorem WFx.wf {s : St} (h : WFx s) : WF s := h.1

theorem WF_iff (s : St) : WF s ↔
    (∀ (r : Nat) (rg : Region), s.regions[r]? = some rg → regionOKB rg = true) ∧
    (∀ (i : Nat) (h : Handle), s.hs[i]? = some (some h) → handleOKL s.regions s.ctrls h = true) ∧
    (∀ (c : Nat) (e : CtrlE), s.ctrls[c]? = some e → e.live = true →
      e.rc = refCountL s.hs c ∧ 1 ≤ e.rc ∧ ctrlBufOK s.regions s.owners e.c) ∧
    (∀ r, r < s.regions.length →
      dirCountL s.hs r + ctrlCountL s.ctrls r = if isHeapLiveL s.regions r = true then 1 else 0) ∧
    Excl s.hs := by
  have e5 : ∀ r, ((if isHeapLive s r = true then ownerCount s r == 1 else ownerCount s r == 0) = true) ↔
      dirCountL s.hs r + ctrlCountL s.ctrls r = if isHeapLiveL s.regions r = true then 1 else 0 := by
    intro r
    show _ ↔ ownerCount s r = if isHeapLive s r = true then 1 else 0
    split <;> simp
  unfold WF wfB
  simp only [Bool.and_eq_true, and_assoc, List.all_eq_true, liveHandles_eq,
    mem_liveHs, handleOKB_eq, List.mem_zipIdx_iff_getElem?, Prod.forall, ctrlOKB_iff, List.mem_range, e5,
    exclusiveB_iff, liveCtrl_eq]
  constructor
  · rintro ⟨h1, h2, h3, _, h5, h6⟩
    exact ⟨fun r rg hr => h1 rg (List.mem_iff_getElem?.mpr ⟨r, hr⟩), fun i a hi => h2 a ⟨i, hi⟩,
      fun c e => h3 e c, h5, h6⟩
  · rintro ⟨h1, h2, h3, h5, h6⟩
    refine ⟨fun rg hm => let ⟨r, hr⟩ := List.mem_iff_getElem?.mp hm; h1 r rg hr,
      fun a ⟨i, hi⟩ => h2 i a hi, fun e c => h3 c e, ?_, h5, h6⟩
    rintro a ⟨i, hi⟩
    cases hc : ctrlOf a with
    | none => rfl
    | some c => exact handleOKL_ctrl_live (h2 i a hi) hc

theorem WFx_iff_inv (s : St) : WFx s ↔ Inv s := by
  unfold WFx
  rw [WF_iff]
  constructor
  · rintro ⟨⟨h1, h2, h3, h4, h5⟩, h6, h7⟩; exact ⟨h1, h2, h3, h4, h5, h6, h7⟩
  · rintro ⟨h1, h2, h3, h4, h5, h6, h7⟩; exact ⟨⟨h1, h2, h3, h4, h5⟩, h6, h7⟩

theorem WFx.inv {s : St} (h : WFx s) : Inv s := (WFx_iff_inv s).mp h
theorem Inv.wfx {s : St} (h : Inv s) : WFx s := (WFx_iff_inv s).mpr h

theorem WFx_init : WFx {} := by
  apply Inv.wfx
  constructor <;> simp [Excl, liveCtrlL_def]

theorem rdL_sub {R : List Region} {reg : Option Nat} {off len : Nat} {v : List Byte}
    (h : rdL R reg off len = some v) (a n : Nat) (han : a + n ≤ len) :
    rdL R reg (off + a) n = some ((v.drop a).take n) := by
  by_cases hn : n = 0
  · subst hn; rw [rdL_zero, List.take_zero]
  rcases rdL_eq_some_iff.mp h with ⟨h0, _⟩ | ⟨h0, r, rg, rfl, hr, hl, hb, hd⟩
  · subst h0; exact (hn (Nat.eq_zero_of_add_eq_zero_left (Nat.le_zero.mp han))).elim
  · refine rdL_eq_some_iff.mpr (.inr ⟨hn, r, rg, rfl, hr, hl,
      Nat.le_trans (Nat.add_assoc .. ▸ Nat.add_le_add_left han off) hb, ?_⟩)
    rw [List.map_take, List.map_drop, ← hd, List.drop_take, List.drop_drop, List.take_take,
      Nat.min_eq_left (Nat.le_sub_of_add_le' han)]

theorem rdL_length_le {R : List Region} {reg : Option Nat} {off len : Nat} {v : List Byte}
    (h : rdL R reg off len = some v) : v.length ≤ len := by
  rcases rdL_eq_some_iff.mp h with ⟨_, rfl⟩ | ⟨_, r, rg, _, _, _, _, hd⟩
  · exact Nat.zero_le _
  · have := congrArg List.length hd
    rw [List.length_map, List.length_take] at this
    exact this ▸ Nat.min_le_left _ _

/-- with W1 (`data.length = size`) a successful read returns exactly `len` bytes -/
theorem rdL_length {R : List Region} {reg : Option Nat} {off len : Nat} {v : List Byte}
    (hR : ∀ (r : Nat) (rg : Region), R[r]? = some rg → regionOKB rg = true)
    (h : rdL R reg off len = some v) : v.length = len := by
  rcases rdL_eq_some_iff.mp h with ⟨h0, rfl⟩ | ⟨_, r, rg, _, hr, _, hb, hd⟩
  · exact h0.symm
  · have := congrArg List.length hd
    have hk := hR r rg hr
    simp only [regionOKB, Bool.and_eq_true, beq_iff_eq] at hk
    rw [List.length_map, List.length_take, List.length_drop, hk.1.1] at this
    exact this ▸ Nat.min_eq_left (Nat.le_sub_of_add_le' hb)

/-- the first `min len n` bytes (`split_off`, `truncate`) -/
theorem rdL_take {R : List Region} {reg : Option Nat} {off len : Nat} {v : List Byte}
    (h : rdL R reg off len = some v) (n : Nat) : rdL R reg off (min len n) = some (v.take n) := by
  have := rdL_sub h 0 (min len n) (Nat.zero_add _ ▸ Nat.min_le_left _ _)
  rw [Nat.add_zero, List.drop_zero] at this
  rw [this]
  have hl := rdL_length_le h
  rcases Nat.le_total n len with hn | hn
  · rw [Nat.min_eq_right hn]
  · rw [Nat.min_eq_left hn, List.take_of_length_le hl, List.take_of_length_le (Nat.le_trans hl hn)]

/-- everything after the first `n` bytes (`split_to`, `advance`) -/
theorem rdL_drop {R : List Region} {reg : Option Nat} {off len : Nat} {v : List Byte}
    (h : rdL R reg off len = some v) (n : Nat) : rdL R reg (off + n) (len - n) = some (v.drop n) := by
  have hl := rdL_length_le h
  rcases Nat.le_total n len with hn | hn
  · rw [rdL_sub h n (len - n) (Nat.le_of_eq (Nat.add_sub_cancel' hn)), List.take_of_length_le]
    rw [List.length_drop]; exact Nat.sub_le_sub_right hl n
  · rw [Nat.sub_eq_zero_of_le hn, rdL_zero, List.drop_of_length_le (Nat.le_trans hl hn)]

theorem rdL_take_le {R : List Region} {reg : Option Nat} {off len k : Nat} {v : List Byte}
    (hv : rdL R reg off len = some v) (hk : k ≤ len) : rdL R reg off k = some (v.take k) := by
  have := rdL_take hv k
  rwa [Nat.min_eq_right hk] at this

theorem absL_push (R : List Region) (hs : List (Option Handle)) (h : Handle) :
    absL R (hs ++ [some h]) = absL R hs ++ [(viewOfL R h).map fun v => ⟨kindOf h, v⟩] := by
  simp [absL]

theorem absL_set (R : List Region) (hs : List (Option Handle)) (i : Nat) (oh : Option Handle) :
    absL R (hs.set i oh) =
      (absL R hs).set i (oh.bind fun h => (viewOfL R h).map fun v => ⟨kindOf h, v⟩) := by
  simp [absL, List.map_set]

theorem absL_length (R : List Region) (hs : List (Option Handle)) : (absL R hs).length = hs.length := by
  simp [absL]

theorem absL_set_some {R : List Region} {hs : List (Option Handle)} {i : Nat} {h1 : Handle}
    {v1 : List Byte} (hv1 : viewOfL R h1 = some v1) :
    absL R (hs.set i (some h1)) = (absL R hs).set i (some ⟨kindOf h1, v1⟩) := by
  simp [absL_set, hv1]

theorem absL_push_some {R : List Region} {hs : List (Option Handle)} {h : Handle} {v : List Byte}
    (hv : viewOfL R h = some v) : absL R (hs ++ [some h]) = absL R hs ++ [some ⟨kindOf h, v⟩] := by
  simp [absL_push, hv]

theorem absL_congr {R R' : List Region} {hs : List (Option Handle)}
    (h : ∀ (i : Nat) (a : Handle), hs[i]? = some (some a) → viewOfL R' a = viewOfL R a) :
    absL R' hs = absL R hs := by
  apply List.ext_getElem?
  intro i
  simp only [absL, List.getElem?_map]
  cases hi : hs[i]? with
  | none => rfl
  | some oh =>
    cases oh with
    | none => rfl
    | some a => simp [h i a hi]

theorem Spec_get_absL {R : List Region} {hs : List (Option Handle)} {i : Nat} {h : Handle}
    {v : List Byte} (hi : hs[i]? = some (some h)) (hv : viewOfL R h = some v) :
    Spec.get (absL R hs) i = some ⟨kindOf h, v⟩ := by
  simp [Spec.get, absL, List.getElem?_map, hi, hv]

theorem Spec_get_absL_none {R : List Region} {hs : List (Option Handle)} {i : Nat}
    (hi : ∀ h, hs[i]? ≠ some (some h)) : Spec.get (absL R hs) i = none := by
  simp only [Spec.get, absL, List.getElem?_map]
  cases h : hs[i]? with
  | none => rfl
  | some oh =>
    cases oh with
    | none => rfl
    | some a => exact (hi a h).elim

namespace Inv
variable {s : St}

theorem view (hI : Inv s) {i : Nat} {h : Handle} (hi : s.hs[i]? = some (some h)) :
    ∃ v, viewOfL s.regions h = some v ∧ v.length = hlen h := by
  obtain ⟨v, hv⟩ := Option.isSome_iff_exists.mp (handleOKL_rd (hI.hok i h hi))
  exact ⟨v, hv, rdL_length hI.regs hv⟩

theorem cok' (hI : Inv s) {c : Nat} {ct : Ctrl} (hc : liveCtrlL s.ctrls c = some ct) :
    ∃ e, s.ctrls[c]? = some e ∧ e.live = true ∧ e.c = ct ∧ e.rc = refCountL s.hs c ∧ 1 ≤ e.rc ∧
      ctrlBufOK s.regions s.owners ct := by
  obtain ⟨e, he, hl, rfl⟩ := liveCtrlL_some_iff.mp hc
  exact ⟨e, he, hl, rfl, hI.cok c e he hl⟩

theorem ctrl_of_handle (hI : Inv s) {i : Nat} {h : Handle} {c : Nat}
    (hi : s.hs[i]? = some (some h)) (hc : ctrlOf h = some c) :
    ∃ e, s.ctrls[c]? = some e ∧ e.live = true ∧ e.rc = refCountL s.hs c ∧ 1 ≤ e.rc ∧
      ctrlBufOK s.regions s.owners e.c := by
  obtain ⟨ct, hct⟩ := Option.isSome_iff_exists.mp (handleOKL_ctrl_live (hI.hok i h hi) hc)
  obtain ⟨e, he, hl, rfl, hr⟩ := hI.cok' hct
  exact ⟨e, he, hl, hr⟩

theorem dir_fresh (hI : Inv s) {r : Nat} (hr : s.regions.length ≤ r) : dirCountL s.hs r = 0 := by
  rw [dirCountL_eq_zero]
  intro i h hi hd
  have := isHeapLiveL_lt (handleOKL_direct (hI.hok i h hi) hd)
  omega

theorem ctrl_fresh (hI : Inv s) {r : Nat} (hr : s.regions.length ≤ r) : ctrlCountL s.ctrls r = 0 := by
  rw [ctrlCountL_eq_zero]
  intro c e he hl hreg
  exact Nat.not_lt.mpr hr (isHeapLiveL_lt (ctrlBufOK_live (hI.cok c e he hl).2.2 hreg))

theorem ref_fresh (hI : Inv s) {c : Nat} (hc : s.ctrls.length ≤ c) : refCountL s.hs c = 0 := by
  rw [refCountL_eq_zero]
  intro i h hi hcc
  obtain ⟨e, he, _⟩ := hI.ctrl_of_handle hi hcc
  rw [List.getElem?_eq_none hc] at he; cases he

end Inv

theorem Inv.set_self {s : St} (hI : Inv s) {i : Nat} {h : Handle} (hi : s.hs[i]? = some (some h)) :
    Inv { s with hs := s.hs.set i (some h) } := by
  rw [BytesVerif.Core.set_self hi]; exact hI

/-- What `step_sound` (Sound.lean) proves of one step: it is not `ub`, and on normal return as on
panic the strengthened invariant holds again and the state abstracts to what the reference model says. -/
def StepOKx (cfg : Cfg) (e : Env) (op : Op) (s : St) : Prop :=
  (step cfg e op s).sat (fun v s' => WFx s' ∧ abs s' = Spec.stepOk op v (abs s))
    (fun s' => WFx s' ∧ abs s' = Spec.stepPanic op (abs s))

/-- `StepOKx` implies the same statement about the representation invariant `WF` itself. -/
theorem StepOKx.toWF {cfg : Cfg} {e : Env} {op : Op} {s : St} (h : StepOKx cfg e op s) :
    match step cfg e op s with
    | .ok v s' => WF s' ∧ abs s' = Spec.stepOk op v (abs s)
    | .panic s' => WF s' ∧ abs s' = Spec.stepPanic op (abs s)
    | .ub _ _ => False := by
  unfold StepOKx at h
  cases hs : step cfg e op s with
  | ok v s' => rw [hs] at h; exact ⟨h.1.wf, h.2⟩
  | panic s' => rw [hs] at h; exact ⟨h.1.wf, h.2⟩
  | ub w s' => rw [hs] at h; exact h

/-- an operation that panics without changing the state (rejected op) is fine, except `unsplit`
whose panic spec is not the identity -/
theorem stepPanic_id {op : Op} (h : ∀ i j, op ≠ .unsplit i j) (a : Spec.St) :
    Spec.stepPanic op a = a := by
  cases op <;> first | rfl | exact (h _ _ rfl).elim

theorem absL_set_of_view {R R' : List Region} {hs : List (Option Handle)} {i : Nat}
    (oh : Option Handle)
    (hv : ∀ (j : Nat) (b : Handle), j ≠ i → hs[j]? = some (some b) → viewOfL R' b = viewOfL R b) :
    absL R' (hs.set i oh) =
      (absL R hs).set i (oh.bind fun h => (viewOfL R' h).map fun v => ⟨kindOf h, v⟩) := by
  have e : absL R' (hs.set i none) = absL R (hs.set i none) := absL_congr fun j b hj => by
    rcases hs_set_cases hj with ⟨_, h, _⟩ | ⟨hji, hj'⟩
    · cases h
    · exact hv j b hji hj'
  have := absL_set R' (hs.set i none) i oh
  rwa [List.set_set, e, absL_set R hs i none, List.set_set] at this

theorem absL_push_of_view {R R' : List Region} {hs : List (Option Handle)} (h' : Handle)
    (hv : ∀ (j : Nat) (b : Handle), hs[j]? = some (some b) → viewOfL R' b = viewOfL R b) :
    absL R' (hs ++ [some h']) =
      absL R hs ++ [(viewOfL R' h').map fun v => ⟨kindOf h', v⟩] := by
  rw [absL_push, absL_congr hv]

theorem finish_ok {s' : St} {a : Spec.St} (hI : Inv s') (ha : absL s'.regions s'.hs = a) :
    WFx s' ∧ abs s' = a := ⟨hI.wfx, by rw [abs_eq]; exact ha⟩

theorem Spec_stepOk_drop (i : Nat) (v : Val) (a : Spec.St) :
    Spec.stepOk (.drop i) v a = a.set i none := rfl

end BytesVerif.Core
