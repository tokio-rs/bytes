/-
`StepOKx` for the operations that share or shrink a buffer without copying: `slice`, `splitTo`, `split`,
`splitOff`, `truncate`, `clear`, `advance`.  `Bytes::split_off` has one execution equation per branch
(`bytesSplitOffCore_*`); from them come `bytesSplitOffCore_spec`, on which `splitOff` rests, and
`truncate_prom`: `truncate` on a promotable `Bytes` is `drop(self.split_off(n))`.
-/
import BytesVerif.Lemmas.Core.Helpers
import BytesVerif.Lemmas.Core.Drop
namespace BytesVerif.Core

namespace OpsB

theorem Spec_stepOk_slice {a : Spec.St} {i : Nat} {x : SH} (h : Spec.get a i = some x) (lo hi : Nat)
    (v : Val) :
    Spec.stepOk (.slice i lo hi) v a = a ++ [some ⟨.bytes, (x.val.drop lo).take (hi - lo)⟩] := by
  simp [Spec.stepOk, h]

theorem Spec_stepOk_splitTo {a : Spec.St} {i : Nat} {x : SH} (h : Spec.get a i = some x) (k : Nat)
    (v : Val) :
    Spec.stepOk (.splitTo i k) v a =
      a.set i (some ⟨x.kind, x.val.drop k⟩) ++ [some ⟨x.kind, x.val.take k⟩] := by
  simp [Spec.stepOk, h, Spec.setAt]

theorem Spec_stepOk_split {a : Spec.St} {i : Nat} {x : SH} (h : Spec.get a i = some x) (v : Val) :
    Spec.stepOk (.split i) v a = a.set i (some ⟨x.kind, []⟩) ++ [some x] := by
  simp [Spec.stepOk, h, Spec.setAt]

theorem Spec_stepOk_truncate {a : Spec.St} {i : Nat} {x : SH} (h : Spec.get a i = some x) (n : Nat)
    (v : Val) :
    Spec.stepOk (.truncate i n) v a = a.set i (some ⟨x.kind, x.val.take n⟩) := by
  simp [Spec.stepOk, h, Spec.setAt]

theorem Spec_stepOk_clear {a : Spec.St} {i : Nat} {x : SH} (h : Spec.get a i = some x) (v : Val) :
    Spec.stepOk (.clear i) v a = a.set i (some ⟨x.kind, []⟩) := by
  simp [Spec.stepOk, h, Spec.setAt]

theorem Spec_stepOk_advance {a : Spec.St} {i : Nat} {x : SH} (h : Spec.get a i = some x) (n : Nat)
    (v : Val) :
    Spec.stepOk (.advance i n) v a = a.set i (some ⟨x.kind, x.val.drop n⟩) := by
  simp [Spec.stepOk, h, Spec.setAt]

/-- a sub-range that keeps the end of the view is fine for every representation, including the
un-promoted promotable one (whose view must end at the end of the allocation) -/
theorem handleOKL_bytes_suffix {R : List Region} {C : List CtrlE} {repr : BRepr} {reg : Option Nat}
    {off len o l : Nat} (hok : handleOKL R C (.bytes repr reg off len) = true)
    (hs : BSub off len o l) (hend : o + l = off + len) :
    handleOKL R C (.bytes repr reg o l) = true := by
  cases repr with
  | prom vt oc =>
    cases oc with
    | none =>
      obtain ⟨⟨r, h1, h2, h3, h4⟩, hrd⟩ := handleOKL_promV.mp hok
      exact handleOKL_promV.mpr ⟨⟨r, h1, h2, hend.trans h3, h4⟩, rdL_isSome_sub hrd hs⟩
    | some c => exact handleOKL_bytes_sub hok hs nofun
  | _ => exact handleOKL_bytes_sub hok hs nofun

/-- a KIND_VEC promotable handle has to keep its end: its capacity is stored nowhere -/
theorem Inv_set_bytes_sub {s : St} (hI : Inv s) {i : Nat} {repr : BRepr} {reg : Option Nat}
    {off len o l : Nat} (hi : s.hs[i]? = some (some (.bytes repr reg off len))) (hs : BSub off len o l)
    (hp : (∀ vt, repr ≠ .prom vt none) ∨ o + l = off + len) (ev : List Ev) :
    Inv ⟨s.regions, s.ctrls, s.hs.set i (some (.bytes repr reg o l)), s.owners, ev⟩ := by
  have hok := hI.hok i _ hi
  refine Inv_set_sub hI hi (ctrlOf_bytes ..) ?_
    (hp.elim (handleOKL_bytes_sub hok hs) (handleOKL_bytes_suffix hok hs)) ?_ (spanSub_bytes hs)
    (fun h => h) ev
  · cases repr with
    | prom vt oc => cases oc <;> rfl
    | _ => rfl
  · cases repr with
    | «static» => exact statOK_sub (hI.statOK hi) hs
    | _ => trivial

/-- `advance_unchecked(n)` on the `BytesMut` in slot `i`, the result stored back into slot `i`; a KIND_VEC
handle whose position would exceed `MAX_VEC_POS` is promoted -/
theorem mutAdvance_spec (cfg : Cfg) {s : St} (hI : Inv s) {i : Nat} {arc reg : Option Nat}
    {off len cap orig n : Nat} (hi : s.hs[i]? = some (some (.mut arc reg off len cap orig)))
    (hn : n ≤ len) :
    ∃ (arc' : Option Nat) (C' : List CtrlE) (ev : List Ev),
      mutAdvanceUnchecked cfg (.mut arc reg off len cap orig) n s =
        .ok (.mut arc' reg (off + n) (len - n) (cap - n) orig) ⟨s.regions, C', s.hs, s.owners, ev⟩ ∧
      ∀ ev', Inv ⟨s.regions, C', s.hs.set i (some (.mut arc' reg (off + n) (len - n) (cap - n) orig)),
        s.owners, ev'⟩ := by
  have hok := hI.hok i _ hi
  have hlc := mut_len_le_cap hok
  have hnc : n ≤ cap := Nat.le_trans hn hlc
  have m := msub_tail (off := off) hn hlc
  have hrdn : (rdL s.regions reg (off + n) (len - n)).isSome = true :=
    rdL_isSome_sub (handleOKL_rd hok) (bsub_tail hn)
  cases arc with
  | some c =>
    obtain ⟨_, ⟨vlen, vcap, vorig, hlive, hcap⟩, _⟩ := handleOKL_mutA.mp hok
    refine ⟨_, s.ctrls, s.events, mutAdvanceUnchecked_arc cfg hnc s, fun ev' => ?_⟩
    exact Inv_set_sub hI (h' := .mut (some c) reg (off + n) (len - n) (cap - n) orig) hi rfl rfl
      (handleOKL_mutA.mpr ⟨m.2.2.1, ⟨vlen, vcap, vorig, hlive, Nat.le_trans m.2.1 hcap⟩, hrdn⟩) trivial
      (spanSub_mut m) (fun h => h) ev'
  | none =>
    obtain ⟨_, hoffb, hregc, _⟩ := handleOKL_mutV.mp hok
    have hend : off + n + (cap - n) = off + cap := add_add_sub hnc
    by_cases hpos : off + n ≤ W / 32 - 1
    · refine ⟨_, s.ctrls, s.events, mutAdvanceUnchecked_vec cfg hnc hpos s, fun ev' => ?_⟩
      exact Inv_set_sub hI (h' := .mut none reg (off + n) (len - n) (cap - n) orig) hi rfl rfl
        (handleOKL_mutV.mpr ⟨m.2.2.1, hpos, by rw [hend]; exact hregc, hrdn⟩) trivial
        (spanSub_mut m) (fun h => h) ev'
    · -- promote_to_shared(1)
      have h0 : n ≠ 0 := fun h0 => hpos (by subst h0; exact hoffb)
      refine ⟨_, _, _, mutAdvanceUnchecked_promote cfg hnc h0 hpos s, fun ev' => ?_⟩
      have hlive : liveCtrlL (s.ctrls ++ [⟨.sharedV reg (off + len) (off + cap) orig, 1, true⟩])
          s.ctrls.length = some (.sharedV reg (off + len) (off + cap) orig) := liveCtrlL_new _ _
      have hbuf : ctrlBufOK s.regions s.owners (.sharedV reg (off + len) (off + cap) orig) := by
        cases reg with
        | none => simpa [ctrlBufOK] using hregc
        | some r => exact ⟨hregc.1, hregc.2.symm⟩
      exact Inv_promote hI (h' := .mut (some s.ctrls.length) reg (off + n) (len - n) (cap - n) orig) hi rfl
        (by cases reg <;> rfl) rfl (spanSub_mut m) (fun h => h)
        (handleOKL_mutA.mpr ⟨m.2.2.1, ⟨off + len, off + cap, orig, hlive, m.2.1⟩, hrdn⟩)
        hbuf nofun ev'

theorem step_advance (cfg : Cfg) (e : Env) (i n : Nat) (s : St) (hw : WFx s) :
    StepOKx cfg e (.advance i n) s := by
  have hI := hw.inv
  refine .of_getHandle hw rfl rfl fun h hi => ?_
  obtain ⟨v, hv, hvl⟩ := hI.view hi
  rw [abs_eq s]
  have hspec := Spec_stepOk_advance (Spec_get_absL hi hv) n
  have hpanic : WFx s ∧ abs s = absL s.regions s.hs := ⟨hw, abs_eq s⟩
  cases h with
  | bytes repr reg off len =>
    refine sat_ite (fun _ => hpanic) fun hnl => ?_
    have hle : n ≤ len := Nat.le_of_not_gt hnl
    simp only [bind_apply, setHandle_apply, pure_apply, sat_ok, hspec]
    exact finish_ok (Inv_set_bytes_sub hI hi (bsub_tail hle) (.inr (add_add_sub hle)) _)
      (absL_set_some (rdL_drop hv n))
  | «mut» arc reg off len cap orig =>
    refine sat_ite (fun _ => hpanic) fun hnl => ?_
    obtain ⟨arc', C', ev, heq, hk⟩ := mutAdvance_spec cfg hI hi (Nat.le_of_not_gt hnl)
    simp only [bind_apply, heq, setHandle_apply, pure_apply, sat_ok, hspec]
    exact finish_ok (hk _) (absL_set_some (rdL_drop hv n))
  | vec reg len cap => exact hpanic

theorem step_slice (cfg : Cfg) (e : Env) (i lo hi : Nat) (s : St) (hw : WFx s) :
    StepOKx cfg e (.slice i lo hi) s := by
  have hI := hw.inv
  refine .of_getHandle hw rfl rfl fun h hi' => ?_
  obtain ⟨v, hv, hvl⟩ := hI.view hi'
  rw [abs_eq s]
  have hspec := Spec_stepOk_slice (Spec_get_absL hi' hv) lo hi
  have hpanic : WFx s ∧ abs s = absL s.regions s.hs := ⟨hw, abs_eq s⟩
  cases h with
  | bytes repr reg off len =>
    have hv : rdL s.regions reg off len = some v := hv
    refine sat_ite (fun _ => hpanic) fun h1 => sat_ite (fun _ => hpanic) fun h2 =>
      sat_ite (fun h3 => ?_) fun h3 => ?_
    · subst h3
      simp only [bind_apply, newHandle_apply, pure_apply, sat_ok, hspec]
      refine finish_ok (Inv_push_empty hI none 0 _) ?_
      rw [absL_push_some (h := .bytes .static none 0 0) (rdL_zero _ _ _), Nat.sub_self, List.take_zero]
      rfl
    · obtain ⟨repr', crepr, C', ev, heq, hk⟩ := bytesClone_spec hI hi'
      simp only [heq, bind_apply, newHandle_apply, pure_apply, sat_ok, hspec]
      have b2 : BSub off len (off + lo) (hi - lo) := bsub_mid (Nat.le_of_not_gt h1) (Nat.le_of_not_gt h2)
      refine finish_ok (hk off len (off + lo) (hi - lo) _ (BSub.refl _ _) b2) ?_
      have hv2 := rdL_of_sub hv b2
      rw [Nat.add_sub_cancel_left] at hv2
      have hself : (absL s.regions s.hs).set i (some ⟨.bytes, v⟩) = absL s.regions s.hs :=
        set_self (absL_lookup hi' hv)
      rw [absL_set_push (h1 := .bytes repr' reg off len) (h2 := .bytes crepr reg (off + lo) (hi - lo)) hv hv2]
      exact congrArg (· ++ _) hself
  | «mut» arc reg off len cap orig => exact hpanic
  | vec reg len cap => exact hpanic

theorem step_splitTo (cfg : Cfg) (e : Env) (i k : Nat) (s : St) (hw : WFx s) :
    StepOKx cfg e (.splitTo i k) s := by
  have hI := hw.inv
  refine .of_getHandle hw rfl rfl fun h hi => ?_
  obtain ⟨v, hv, hvl⟩ := hI.view hi
  rw [abs_eq s]
  have hspec := Spec_stepOk_splitTo (Spec_get_absL hi hv) k
  have hpanic : WFx s ∧ abs s = absL s.regions s.hs := ⟨hw, abs_eq s⟩
  cases h with
  | bytes repr reg off len =>
    have hvl : v.length = len := hvl
    refine sat_ite (fun hk1 => ?_) fun hk1 => sat_ite (fun hk0 => ?_) fun hk0 =>
      sat_ite (fun _ => hpanic) fun hk2 => ?_
    · -- everything moves to the new handle, `self` becomes the empty handle at the end
      subst hk1
      simp only [bind_apply, setHandle_apply, pure_apply, newHandle_apply, sat_ok, emptyWithPtr, hspec]
      refine finish_ok (Inv_set_empty_push hI hi ⟨Nat.le_add_right _ _, Nat.le_refl _⟩ _) ?_
      rw [absL_set_push (h1 := .bytes .static reg (off + k) 0) (rdL_zero _ _ _) hv,
        List.take_of_length_le (Nat.le_of_eq hvl), List.drop_of_length_le (Nat.le_of_eq hvl)]
      rfl
    · -- the head is empty: `new_empty_with_ptr`
      subst hk0
      simp only [bind_apply, pure_apply, newHandle_apply, sat_ok, emptyWithPtr, hspec]
      refine finish_ok (Inv_push_empty hI reg off _) ?_
      rw [absL_push_some (h := .bytes .static reg off 0) (rdL_zero _ _ _), List.drop_zero, List.take_zero,
        set_self (absL_lookup hi hv)]
      rfl
    · have hkl : k ≤ len := Nat.le_of_not_gt hk2
      obtain ⟨repr', crepr, C', ev, heq, hk⟩ := bytesClone_spec hI hi
      simp only [heq, getHandle_eq (s := ⟨_, _, _, _, _⟩) (lookup_set_eq _ hi), bind_apply, setHandle_apply,
        pure_apply, newHandle_apply, sat_ok, List.set_set, hspec]
      exact finish_ok (hk (off + k) (len - k) off k _ (bsub_tail hkl) (bsub_head hkl))
        (absL_set_push (h1 := .bytes repr' reg (off + k) (len - k)) (h2 := .bytes crepr reg off k)
          (rdL_drop hv k) (rdL_take_le hv hkl))
  | «mut» arc reg off len cap orig =>
    refine sat_ite (fun _ => hpanic) fun hkc => ?_
    have hkl : k ≤ len := Nat.le_of_not_gt hkc
    have hlc : len ≤ cap := mut_len_le_cap (hI.hok i _ hi)
    obtain ⟨c, C', ev, heq, hk⟩ := mutShallowClone_spec hI hi
    simp only [heq, mutAdvanceUnchecked_arc cfg (Nat.le_trans hkl hlc), bind_apply, setHandle_apply,
      newHandle_apply, pure_apply, sat_ok, hspec]
    exact finish_ok
      (hk (off + k) (len - k) (cap - k) off k k _ (msub_tail hkl hlc) (msub_head hkl hlc)
        (.inr (Nat.le_refl _)))
      (absL_set_push (h1 := .mut (some c) reg (off + k) (len - k) (cap - k) orig)
        (h2 := .mut (some c) reg off k k orig) (rdL_drop hv k) (rdL_take_le hv hkl))
  | vec reg len cap => exact hpanic

/-- `split()` is `split_to(len)` -/
theorem step_split (cfg : Cfg) (e : Env) (i : Nat) (s : St) (hw : WFx s) :
    StepOKx cfg e (.split i) s := by
  refine .of_getHandle hw rfl rfl fun h hi => ?_
  cases h with
  | «mut» arc reg off len cap orig =>
    obtain ⟨v, hv, hvl⟩ := hw.inv.view hi
    have hvl : v.length = len := hvl
    refine R.sat_mono (step_splitTo cfg e i len s hw) ?_ (fun s' h => h)
    intro x s' ⟨h3, h4⟩
    refine ⟨h3, ?_⟩
    rw [h4, abs_eq, Spec_stepOk_splitTo (Spec_get_absL hi hv), Spec_stepOk_split (Spec_get_absL hi hv),
      List.take_of_length_le (Nat.le_of_eq hvl), List.drop_of_length_le (Nat.le_of_eq hvl)]
  | bytes repr reg off len => exact ⟨hw, rfl⟩
  | vec reg len cap => exact ⟨hw, rfl⟩

section splitOffCore
variable {s : St} {i : Nat} {repr : BRepr} {reg : Option Nat} {off len : Nat}
  (hi : s.hs[i]? = some (some (.bytes repr reg off len)))
include hi

/-- `at == self.len()`: the tail is `new_empty_with_ptr` -/
theorem bytesSplitOffCore_all :
    bytesSplitOffCore i len s = .ok (.bytes .static reg (off + len) 0) s := by
  rw [bytesSplitOffCore, bind_apply, getHandle_eq hi]
  dsimp only
  rw [if_pos rfl]
  rfl

/-- `at == 0`: `mem::replace(self, new_empty_with_ptr)` -/
theorem bytesSplitOffCore_zero (hl : len ≠ 0) :
    bytesSplitOffCore i 0 s =
      .ok (.bytes repr reg off len) { s with hs := s.hs.set i (some (.bytes .static reg off 0)) } := by
  rw [bytesSplitOffCore, bind_apply, getHandle_eq hi]
  dsimp only
  rw [if_neg hl.symm, if_pos rfl]
  rfl

theorem bytesSplitOffCore_panic {k : Nat} (hk : k > len) : bytesSplitOffCore i k s = .panic s := by
  have h1 : ¬ k = len := Nat.ne_of_gt hk
  have h0 : ¬ k = 0 := Nat.ne_of_gt (Nat.zero_lt_of_lt hk)
  rw [bytesSplitOffCore, bind_apply, getHandle_eq hi]
  dsimp only
  rw [if_neg h1, if_neg h0, if_pos hk]
  rfl

/-- `0 < at < len`: `shallow_clone`, then both halves are cut to size -/
theorem bytesSplitOffCore_clone {k : Nat} (h0 : k ≠ 0) (hk : k < len) {crepr repr' : BRepr}
    {creg reg' : Option Nat} {coff clen off' len' : Nat} {s1 : St}
    (hc : bytesClone i s = .ok (.bytes crepr creg coff clen) s1)
    (hi1 : s1.hs[i]? = some (some (.bytes repr' reg' off' len'))) :
    bytesSplitOffCore i k s = .ok (.bytes crepr creg (coff + k) (clen - k))
      { s1 with hs := s1.hs.set i (some (.bytes repr' reg' off' k)) } := by
  have h1 : ¬ k = len := Nat.ne_of_lt hk
  have h2 : ¬ k > len := Nat.lt_asymm hk
  rw [bytesSplitOffCore, bind_apply, getHandle_eq hi]
  dsimp only
  rw [if_neg h1, if_neg h0, if_neg h2, bind_apply, hc]
  dsimp only
  rw [bind_apply, getHandle_eq hi1]
  rfl

end splitOffCore

/-- `Bytes::split_off(k)` on slot `i`.  The tail comes back unregistered (a reference is counted whose
handle is in no slot yet); registering it re-establishes the invariant.  `truncate_prom` drops it instead. -/
theorem bytesSplitOffCore_spec {s : St} (hI : Inv s) {i : Nat} {repr : BRepr} {reg : Option Nat}
    {off len : Nat} (hi : s.hs[i]? = some (some (.bytes repr reg off len))) (k : Nat) :
    (k > len ∧ bytesSplitOffCore i k s = .panic s) ∨
    (k ≤ len ∧ ∃ (repr' orepr : BRepr) (C' : List CtrlE) (ev : List Ev),
      bytesSplitOffCore i k s = .ok (.bytes orepr reg (off + k) (len - k))
        ⟨s.regions, C', s.hs.set i (some (.bytes repr' reg off k)), s.owners, ev⟩ ∧
      ∀ ev', Inv ⟨s.regions, C',
        s.hs.set i (some (.bytes repr' reg off k)) ++ [some (.bytes orepr reg (off + k) (len - k))],
        s.owners, ev'⟩) := by
  by_cases hk1 : k = len
  · subst hk1
    refine .inr ⟨Nat.le_refl _, repr, .static, s.ctrls, s.events, ?_, fun ev' => ?_⟩
    · rw [set_self hi, Nat.sub_self]; exact bytesSplitOffCore_all hi
    · rw [set_self hi, Nat.sub_self]; exact Inv_push_empty hI reg (off + k) ev'
  by_cases hk0 : k = 0
  · subst hk0
    exact .inr ⟨Nat.zero_le _, .static, repr, s.ctrls, s.events, bytesSplitOffCore_zero hi (Ne.symm hk1),
      Inv_set_empty_push hI hi ⟨Nat.le_refl _, Nat.le_add_right _ _⟩⟩
  by_cases hk2 : k > len
  · exact .inl ⟨hk2, bytesSplitOffCore_panic hi hk2⟩
  · have hkl : k < len := Nat.lt_of_le_of_ne (Nat.le_of_not_gt hk2) hk1
    obtain ⟨repr', crepr, C', ev, heq, hk⟩ := bytesClone_spec hI hi
    refine .inr ⟨Nat.le_of_lt hkl, repr', crepr, C', ev, ?_,
      fun ev' => hk off k (off + k) (len - k) ev' (bsub_head (Nat.le_of_lt hkl)) (bsub_tail (Nat.le_of_lt hkl))⟩
    rw [bytesSplitOffCore_clone hi hk0 hkl heq (lookup_set_eq _ hi)]
    simp only [List.set_set]

/-- dropping the promotable `Bytes` that was taken out of slot `i`, an empty handle having been left in
its place (`mem::replace` in `split_off(0)`): a kill transition, then the slot is filled again -/
theorem bytesDrop_replaced {s : St} (hI : Inv s) {i : Nat} {vt : Bool} {oc : Option Nat} {reg : Option Nat}
    {off len : Nat} (hi : s.hs[i]? = some (some (.bytes (.prom vt oc) reg off len))) :
    ∃ s', bytesDrop (.bytes (.prom vt oc) reg off len)
        { s with hs := s.hs.set i (some (.bytes .static reg off 0)) } = .ok () s' ∧ Inv s' ∧
      absL s'.regions s'.hs = (absL s.regions s.hs).set i (some ⟨.bytes, []⟩) := by
  have fin : ∀ {m : M Unit}, Dropped s i m →
      ∃ s', m { s with hs := s.hs.set i (some (.bytes .static reg off 0)) } = .ok () s' ∧ Inv s' ∧
        absL s'.regions s'.hs = (absL s.regions s.hs).set i (some ⟨.bytes, []⟩) := by
    rintro m ⟨R', C', hd, hId, hvd⟩
    obtain ⟨ev, h1⟩ := hd (s.hs.set i (some (.bytes .static reg off 0))) s.events
    exact ⟨_, h1, Inv_refill_static (hId ev) hi reg off _, absL_set_of_view _ hvd⟩
  cases oc with
  | some c => exact fin (Dropped.release hI hi rfl)
  | none =>
    obtain ⟨⟨r, hreg', hlive, hsz, hvt⟩, _⟩ := handleOKL_promV.mp (hI.hok i _ hi)
    subst hreg'
    obtain ⟨s', h1, h2⟩ := fin (Dropped.dealloc hI hi rfl hsz.symm)
    refine ⟨s', ?_, h2⟩
    simp only [bytesDrop, bind_apply,
      promDecode_eq (s := { s with hs := s.hs.set i (some (.bytes .static (some r) off 0)) }) hlive hvt, h1]

/-- `drop(self.split_off(n))` on a promotable `Bytes` with `n < len` (`Bytes::truncate`): the tail handle
returned by `bytesSplitOffCore` is never registered, it is dropped at once.  Net effect:
`n = 0`: the buffer is released and slot `i` becomes the empty handle (`bytesDrop_replaced`);
`n ≠ 0`, promoted: `incCtrl` then `releaseCtrl` cancel, slot `i` shrinks (`Inv_set_sub`);
`n ≠ 0`, KIND_VEC: the handle is promoted with final count 1 (`Inv_promote`). -/
theorem truncate_prom {s : St} (hI : Inv s) {i : Nat} {vt : Bool} {oc : Option Nat} {reg : Option Nat}
    {off len n : Nat} (hi : s.hs[i]? = some (some (.bytes (.prom vt oc) reg off len))) (hn : n < len)
    {v : List Byte} (hv : rdL s.regions reg off len = some v) :
    ∃ o s1 s', bytesSplitOffCore i n s = .ok o s1 ∧ bytesDrop o s1 = .ok () s' ∧ Inv s' ∧
      absL s'.regions s'.hs = (absL s.regions s.hs).set i (some ⟨.bytes, v.take n⟩) := by
  have hok := hI.hok i _ hi
  by_cases h0 : n = 0
  · subst h0
    obtain ⟨s', h2, h3, h4⟩ := bytesDrop_replaced hI hi
    exact ⟨_, _, s', bytesSplitOffCore_zero hi (Nat.ne_of_gt hn), h2, h3, h4⟩
  · have hnl : n ≤ len := Nat.le_of_lt hn
    cases oc with
    | some c =>
      obtain ⟨e, he, hl, hrc, h1, hb⟩ := hI.ctrl_of_handle hi (c := c) rfl
      obtain ⟨ct, rc, live⟩ := e
      simp only at hl h1; subst hl
      have hcl : bytesClone i s = .ok (.bytes (.shared c) reg off len)
          { s with ctrls := s.ctrls.set c ⟨ct, rc + 1, true⟩ } := by
        simp only [bytesClone, bind_apply, getHandle_eq hi, incCtrl_eq he rfl, pure_apply]
      refine ⟨_, _, ⟨s.regions, s.ctrls, s.hs.set i (some (.bytes (.prom vt (some c)) reg off n)),
        s.owners, s.events⟩, bytesSplitOffCore_clone hi h0 hn hcl hi, ?_,
        Inv_set_bytes_sub hI hi (bsub_head hnl) (.inl nofun) _, absL_set_some (rdL_take_le hv hnl)⟩
      rw [bytesDrop, releaseCtrl_dec (s := ⟨_, _, _, _, _⟩) (e := ⟨ct, rc + 1, true⟩) (lookup_set_eq _ he) rfl
        (Nat.succ_ne_zero _) (Nat.succ_ne_succ_iff.mpr (Nat.ne_of_gt h1))]
      simp only [List.set_set, Nat.add_sub_cancel, set_self he]
    | none =>
      obtain ⟨⟨r, hreg', hlive, hsz, hvt⟩, hrd⟩ := handleOKL_promV.mp hok
      subst hreg'
      let c := s.ctrls.length
      let ct := Ctrl.sharedB r (off + len)
      have hcl : bytesClone i s = .ok (.bytes (.shared c) (some r) off len)
          ⟨s.regions, s.ctrls ++ [⟨ct, 2, true⟩],
            s.hs.set i (some (.bytes (.prom vt (some c)) (some r) off len)), s.owners,
            .allocCtrl c :: s.events⟩ := by
        simp only [bytesClone, bind_apply, getHandle_eq hi, promDecode_eq hlive hvt, newCtrl, setHandle_apply,
          pure_apply, c, ct]
      have hsp := bytesSplitOffCore_clone hi h0 hn hcl (lookup_set_eq _ hi)
      simp only [List.set_set] at hsp
      have b1 : BSub off len off n := bsub_head hnl
      refine ⟨_, _, ⟨s.regions, s.ctrls ++ [⟨ct, 1, true⟩],
        s.hs.set i (some (.bytes (.prom vt (some c)) (some r) off n)), s.owners,
        .allocCtrl c :: s.events⟩, hsp, ?_, ?_, absL_set_some (rdL_take_le hv hnl)⟩
      · rw [bytesDrop, releaseCtrl_dec (s := ⟨_, _, _, _, _⟩) (e := ⟨ct, 2, true⟩) (List.getElem?_concat_length) rfl
          (by simp) (by simp)]
        simp only [c, list_set_append_length]
      · have hlc : liveCtrlL (s.ctrls ++ [⟨ct, 1, true⟩]) c = some ct := liveCtrlL_new _ _
        exact Inv_promote hI (h' := .bytes (.prom vt (some c)) (some r) off n) (ct := ct) hi rfl rfl
          rfl (spanSub_bytes b1) (fun h => h)
          (handleOKL_promA.mpr ⟨⟨r, off + len, hlc, rfl, b1.2⟩, rdL_isSome_sub hrd b1⟩)
          ⟨hlive, hsz.symm⟩ nofun _

theorem step_truncate (cfg : Cfg) (e : Env) (i n : Nat) (s : St) (hw : WFx s) :
    StepOKx cfg e (.truncate i n) s := by
  have hI := hw.inv
  refine .of_getHandle hw rfl rfl fun h hi => ?_
  obtain ⟨v, hv, hvl⟩ := hI.view hi
  have hok := hI.hok i _ hi
  rw [abs_eq s]
  have fin : ∀ {s' : St}, Inv s' →
      absL s'.regions s'.hs = (absL s.regions s.hs).set i (some ⟨kindOf h, v.take n⟩) →
      WFx s' ∧ abs s' = Spec.stepOk (.truncate i n) .unit (absL s.regions s.hs) :=
    fun hI' ha => finish_ok hI' (ha.trans (Spec_stepOk_truncate (Spec_get_absL hi hv) n .unit).symm)
  have noop : hlen h ≤ n → WFx s ∧ abs s = Spec.stepOk (.truncate i n) .unit (absL s.regions s.hs) :=
    fun hge => fin hI (by
      rw [List.take_of_length_le (Nat.le_trans (Nat.le_of_eq hvl) hge), set_self (absL_lookup hi hv)])
  cases h with
  | bytes repr reg off len =>
    refine sat_ite (fun hnl => ?_) fun hnl => noop (Nat.le_of_not_lt hnl)
    have hle : n ≤ len := Nat.le_of_lt hnl
    cases repr with
    | prom vt oc =>
      obtain ⟨o, s1, s', h1, h2, hI', ha⟩ := truncate_prom hI hi hnl hv
      simp only [bind_apply, h1, h2, pure_apply, sat_ok]
      exact fin hI' ha
    | _ =>
      exact fin (Inv_set_bytes_sub hI hi (bsub_head hle) (.inl nofun) _) (absL_set_some (rdL_take_le hv hle))
  | «mut» arc reg off len cap orig =>
    refine sat_ite (fun hnl => ?_) fun hnl => noop (Nat.le_of_lt (Nat.lt_of_not_le hnl))
    exact fin (Inv_set_sub hI (h' := .mut arc reg off n cap orig) hi (by cases arc <;> rfl)
      (by cases arc <;> rfl) (handleOKL_mut_shrink hok hnl) trivial (spanSub_of_eq (by cases reg <;> rfl))
      (fun h => h) _)
      (absL_set_some (rdL_take_le hv hnl))
  | vec reg len cap =>
    refine sat_ite (fun hnl => ?_) fun hnl => noop (Nat.le_of_lt (Nat.lt_of_not_le hnl))
    obtain ⟨h1, h2, _⟩ := handleOKL_vec.mp hok
    exact fin (Inv_set_sub hI (h' := .vec reg n cap) hi rfl rfl
      (handleOKL_vec.mpr ⟨Nat.le_trans hnl h1, h2, rdL_isSome_sub (handleOKL_rd hok) (bsub_head hnl)⟩)
      trivial (spanSub_of_eq (by cases reg <;> rfl)) (fun h => h) _)
      (absL_set_some (rdL_take_le hv hnl))

/-- `clear()` is `truncate(0)`, in the model and in the specification -/
theorem step_clear (cfg : Cfg) (e : Env) (i : Nat) (s : St) (hw : WFx s) :
    StepOKx cfg e (.clear i) s :=
  step_truncate cfg e i 0 s hw

end OpsB

theorem Spec_stepOk_splitOff {a : Spec.St} {i : Nat} {x : SH} (h : Spec.get a i = some x) (k : Nat)
    (v : Val) :
    Spec.stepOk (.splitOff i k) v a =
      a.set i (some ⟨x.kind, x.val.take k⟩) ++ [some ⟨x.kind, x.val.drop k⟩] := by
  simp [Spec.stepOk, h, Spec.setAt]

/-- the two pieces of `BytesMut::split_off(k)`, `k ≤ cap` (`k` may lie beyond `len`) -/
theorem msub_split_off {off len cap k : Nat} (hk : k ≤ cap) (hlc : len ≤ cap) :
    MSub off len cap off (min len k) k ∧ MSub off len cap (off + k) (len - k) (cap - k) :=
  ⟨⟨Nat.le_refl _, Nat.add_le_add_left hk off, Nat.min_le_right _ _,
      .inr (Nat.add_le_add_left (Nat.min_le_left _ _) off)⟩,
    ⟨Nat.le_add_right _ _, Nat.le_of_eq (add_add_sub hk), Nat.sub_le_sub_right hlc k, by omega⟩⟩

theorem step_splitOff (cfg : Cfg) (e : Env) (i k : Nat) (s : St) (hw : WFx s) :
    StepOKx cfg e (.splitOff i k) s := by
  have hI := hw.inv
  refine .of_getHandle hw rfl rfl fun h hi => ?_
  obtain ⟨v, hv, hvl⟩ := hI.view hi
  rw [abs_eq s]
  have hspec := Spec_stepOk_splitOff (Spec_get_absL hi hv) k
  have hpanic : WFx s ∧ abs s = absL s.regions s.hs := ⟨hw, abs_eq s⟩
  cases h with
  | bytes repr reg off len =>
    rcases OpsB.bytesSplitOffCore_spec hI hi k with ⟨_, heq⟩ | ⟨hkl, repr', orepr, C', ev, heq, hk⟩
    · simp only [bind_apply, heq, sat_panic]; exact hpanic
    · simp only [bind_apply, heq, newHandle_apply, pure_apply, sat_ok, hspec]
      exact finish_ok (hk _)
        (absL_set_push (h1 := .bytes repr' reg off k) (h2 := .bytes orepr reg (off + k) (len - k))
          (rdL_take_le hv hkl) (rdL_drop hv k))
  | «mut» arc reg off len cap orig =>
    refine sat_ite (fun _ => hpanic) fun hkc => ?_
    have hkc : k ≤ cap := Nat.le_of_not_gt hkc
    obtain ⟨m1, m2⟩ := msub_split_off (off := off) hkc (mut_len_le_cap (hI.hok i _ hi))
    obtain ⟨c, C', ev, heq, hk⟩ := mutShallowClone_spec hI hi
    simp only [heq, mutAdvanceUnchecked_arc cfg hkc, bind_apply, setHandle_apply, newHandle_apply,
      pure_apply, sat_ok, hspec]
    exact finish_ok (hk off (min len k) k (off + k) (len - k) (cap - k) _ m1 m2 (.inl (Nat.le_refl _)))
      (absL_set_push (h1 := .mut (some c) reg off (min len k) k orig)
        (h2 := .mut (some c) reg (off + k) (len - k) (cap - k) orig) (rdL_take hv k) (rdL_drop hv k))
  | vec reg len cap => exact hpanic

end BytesVerif.Core
