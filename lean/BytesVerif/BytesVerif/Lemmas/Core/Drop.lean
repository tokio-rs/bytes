/-
Dropping the handle of slot `i`: the release of its control block or the deallocation of its buffer,
run on a state whose handle table is whatever the caller has made of it in the meantime (the drop
never looks at the table).
-/
import BytesVerif.Lemmas.Core.Trans
namespace BytesVerif.Core

/-- `m` disposes of what the handle in slot `i` holds: it runs on every handle table `hsX`, leaves
regions `R'` and control blocks `C'` that are well-formed once slot `i` is empty, and keeps the views
of the other handles -/
def Dropped (s : St) (i : Nat) (m : M Unit) : Prop :=
  ∃ R' C',
    (∀ hsX evX, ∃ ev, m ⟨s.regions, s.ctrls, hsX, s.owners, evX⟩ = .ok () ⟨R', C', hsX, s.owners, ev⟩) ∧
    (∀ ev, Inv ⟨R', C', s.hs.set i none, s.owners, ev⟩) ∧
    (∀ (j : Nat) (b : Handle), j ≠ i → s.hs[j]? = some (some b) → viewOfL R' b = viewOfL s.regions b)

variable {s : St} (hI : Inv s) {i : Nat} {h : Handle} (hi : s.hs[i]? = some (some h))
include hI hi

theorem Dropped.release {c : Nat} (hc : ctrlOf h = some c) : Dropped s i (releaseCtrl c) := by
  obtain ⟨e, he, hl, _, h1, hb⟩ := hI.ctrl_of_handle hi hc
  by_cases hu : e.rc = 1
  · exact ⟨_, _, fun hsX evX => releaseCtrl_last (s := ⟨_, _, hsX, _, evX⟩) he hl hu hb hI.regs,
      fun ev => (Inv_kill_last hI hi hc he hl hu ev).1, (Inv_kill_last hI hi hc he hl hu []).2⟩
  · exact ⟨_, _, fun hsX evX => ⟨evX, releaseCtrl_dec (s := ⟨_, _, hsX, _, evX⟩) he hl (Nat.ne_of_gt h1) hu⟩,
      fun ev => Inv_kill_dec hI hi hc he hl hu ev, fun _ _ _ _ => rfl⟩

theorem Dropped.dealloc {r size : Nat} (hd : directRegion h = some r)
    (hs : regionSizeL s.regions r = size) : Dropped s i (freeRegion r size) := by
  obtain ⟨rg, hr, _, _, _⟩ := freeRegion_of_heapLive (s := s) (handleOKL_direct (hI.hok i h hi) hd) hs
  refine ⟨_, _, fun hsX evX => ?_, fun ev => (Inv_kill_direct hI hi hd hr ev).1,
    (Inv_kill_direct hI hi hd hr []).2⟩
  obtain ⟨rg', hr', _, _, heq⟩ := freeRegion_of_heapLive (s := ⟨s.regions, s.ctrls, hsX, s.owners, evX⟩)
    (handleOKL_direct (hI.hok i h hi) hd) hs
  cases hr.symm.trans hr'
  exact ⟨_, heq⟩

theorem Dropped.nothing (hc : ctrlOf h = none) (hd : directRegion h = none) : Dropped s i (pure ()) :=
  ⟨_, _, fun _ evX => ⟨evX, rfl⟩, fun ev => Inv_kill_plain hI hi hc hd ev, fun _ _ _ _ => rfl⟩

/-- the vector `(reg, n)` that the handle owns directly (`Vec`, KIND_VEC `BytesMut`) -/
theorem Dropped.vec {reg : Option Nat} {n : Nat} (hc : ctrlOf h = none)
    (hbuf : match reg with
      | none => n = 0
      | some r => isHeapLiveL s.regions r = true ∧ n = regionSizeL s.regions r)
    (hd : directRegion h = reg) : Dropped s i (vecFree reg n) := by
  cases reg with
  | none =>
    have hm : vecFree none n = pure () := by rw [show n = 0 from hbuf]; rfl
    rw [hm]; exact Dropped.nothing hI hi hc hd
  | some r =>
    have hm : vecFree (some r) n = freeRegion r n := by
      simp only [vecFree, hbuf.2 ▸ heap_size_pos hI.regs hbuf.1, if_false]
    rw [hm]; exact Dropped.dealloc hI hi hd hbuf.2.symm

omit hI hi in
/-- the drop as `Op.drop` and `unsplit` run it: slot `i` has been cleared already -/
theorem Dropped.at_slot {m : M Unit} (hd : Dropped s i m) (ev0 : List Ev) :
    ∃ s', m ⟨s.regions, s.ctrls, s.hs.set i none, s.owners, ev0⟩ = .ok () s' ∧
      WFx s' ∧ abs s' = (absL s.regions s.hs).set i none := by
  obtain ⟨R', C', hd, hId, hvd⟩ := hd
  obtain ⟨ev, h1⟩ := hd (s.hs.set i none) ev0
  exact ⟨_, h1, finish_ok (hId ev) (absL_set_of_view none hvd)⟩

end BytesVerif.Core
