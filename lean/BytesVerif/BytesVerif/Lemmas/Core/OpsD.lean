/-
`StepOKx` for the operations that grow a `BytesMut` or join two: `Op.reserve`, `Op.tryReclaim`, `Op.extend`,
`Op.resize`, `Op.unsplit`; `Op.drop` at the end.

Transitions used only here: `Inv_set_excl`, `Inv_fill_ctrl_fresh` (a dead control block is revived with a
fresh buffer), `Inv_move`, `Inv_merge`.
`reserve_inner`: its execution equations (`mri_vec_front/_giveup/_grow`, `mri_arc_overflow`, `mri_arc_eq`),
then what each path does to a well-formed state (`Grown.of_rewrite`: in place / moved to the front,
`Grown.of_fill_fresh`, `Grown.of_fill_ctrl_fresh`: a new buffer), put together in `mutReserveInner_spec`;
`mutReserve_spec`, `grown_write`, `mutExtend_spec`, `mutDrop_spec` build on it.  All execution equations are
stated for `s.wh hsX evX` (the state with an arbitrary handle table / event list) because none of these
helpers reads the handle table and `unsplit` runs them after it has already removed its second operand
from the table.
-/
import BytesVerif.Lemmas.Core.Helpers
import BytesVerif.Lemmas.Core.Drop
namespace BytesVerif.Core
namespace OpsD

/-- replace slot `i` by a handle with the same resources; exclusivity is the caller's obligation -/
theorem Inv_set_excl {s : St} (hI : Inv s) {i : Nat} {h h' : Handle} (hi : s.hs[i]? = some (some h))
    (hc : ctrlOf h' = ctrlOf h) (hd : directRegion h' = directRegion h)
    (ok : handleOKL s.regions s.ctrls h' = true) (st : statOK s.regions h')
    (hex : ∀ (j : Nat) (b : Handle), j ≠ i → s.hs[j]? = some (some b) →
      (isMutable b = true → disjointB b h' = true) ∧ (isMutable h' = true → disjointB h' b = true))
    (ev : List Ev) :
    Inv ⟨s.regions, s.ctrls, s.hs.set i (some h'), s.owners, ev⟩ :=
  Inv_rehandle hI (refCountL_set_same hi hc)
    (forall_live_set (fun _ _ _ hj => hI.handle hj) ⟨ok, st⟩)
    (dirCountL_set_same hi hd) (Excl_set hI.excl hex) ev

theorem _root_.BytesVerif.Core.Inv.dead_unref {s : St} (hI : Inv s) {c : Nat} {e0 : CtrlE} (he : s.ctrls[c]? = some e0)
    (hdead : e0.live = false) {j : Nat} {b : Handle} (hj : s.hs[j]? = some (some b)) :
    ctrlOf b ≠ some c := by
  intro hcb
  have := handleOKL_ctrl_live (hI.hok j b hj) hcb
  simp [liveCtrlL_def, he, hdead] at this

/-- allocate a region, revive the dead control block `c` as a block (count 1) owning it, and fill the
empty slot `i` with a handle naming `c` (second half of "a unique KIND_ARC BytesMut regrows its
shared vector") -/
theorem Inv_fill_ctrl_fresh {s : St} (hI : Inv s) {i c : Nat} {e0 : CtrlE} {rg : Region} {o : Bool}
    {h' : Handle} {ct : Ctrl}
    (hi : s.hs[i]? = some none) (he : s.ctrls[c]? = some e0) (hdead : e0.live = false)
    (hrg : regionOKB rg = true) (hlive : rg.live = true) (hkind : rg.kind = .heap o)
    (hc : ctrlOf h' = some c) (hct : ctrlRegion ct = some s.regions.length)
    (hbuf : ctrlBufOK (s.regions ++ [rg]) s.owners ct) (hno : ∀ o, ct ≠ .owned o)
    (hsp : ∀ r o l, span h' = some (r, o, l) → r = s.regions.length)
    (ok : handleOKL (s.regions ++ [rg]) (s.ctrls.set c ⟨ct, 1, true⟩) h' = true) (ev : List Ev) :
    Inv ⟨s.regions ++ [rg], s.ctrls.set c ⟨ct, 1, true⟩, s.hs.set i (some h'), s.owners, ev⟩ ∧
    ∀ (j : Nat) (b : Handle), s.hs[j]? = some (some b) →
      viewOfL (s.regions ++ [rg]) b = viewOfL s.regions b := by
  have hnoc : ∀ (j : Nat) (b : Handle), s.hs[j]? = some (some b) → ctrlOf b ≠ some c :=
    fun j b hj => hI.dead_unref he hdead hj
  refine ⟨⟨?_, ?_, ?_, ?_, ?_, ?_, ?_⟩, fun _ _ hj => hI.view_append _ hj⟩
  · intro r rg' hr
    rcases lookup_push_cases hr with ⟨_, rfl⟩ | ⟨_, hr'⟩
    · exact hrg
    · exact hI.regs r rg' hr'
  · -- an old handle does not name block `c`
    exact forall_live_set (fun j b _ hj => (handleOKL_of_lookup (fun _ _ _ => rfl) fun c' hc' =>
      liveCtrlL_set_ne _ fun (h : c = c') => hnoc j b hj (h ▸ hc')).trans (hI.handle_append _ hj).1)
      ok
  · intro c' e' he' hl'
    show e'.rc = refCountL (s.hs.set i (some h')) c' ∧ 1 ≤ e'.rc ∧ ctrlBufOK (s.regions ++ [rg]) s.owners e'.c
    rw [show refCountL (s.hs.set i (some h')) c' = refCountL s.hs c' + if ctrlOf h' = some c' then 1 else 0 from
      keyCountL_fill ctrlOf h' c' hi, hc]
    by_cases hcc : c' = c
    · subst hcc
      rw [lookup_set_eq _ he] at he'; cases he'
      rw [if_pos rfl, refCountL_eq_zero.mpr hnoc]
      exact ⟨rfl, Nat.le_refl _, hbuf⟩
    · rw [List.getElem?_set_ne (Ne.symm hcc)] at he'
      obtain ⟨h1, h2, h3⟩ := hI.cok c' e' he' hl'
      rw [if_neg fun h => hcc (Option.some.inj h).symm]
      exact ⟨h1, h2, ctrlBufOK_append _ h3 (Nat.le_refl _)⟩
  · intro r hr
    have hcs : ctrlCountL (s.ctrls.set c ⟨ct, 1, true⟩) r =
        ctrlCountL s.ctrls r + if s.regions.length = r then 1 else 0 := by
      simpa [hdead, hct] using ctrlCountL_set ⟨ct, 1, true⟩ r he
    show dirCountL (s.hs.set i (some h')) r + ctrlCountL (s.ctrls.set c ⟨ct, 1, true⟩) r =
      if isHeapLiveL (s.regions ++ [rg]) r = true then 1 else 0
    rw [show dirCountL (s.hs.set i (some h')) r = dirCountL s.hs r + if directRegion h' = some r then 1 else 0 from
      keyCountL_fill directRegion h' r hi, ctrlOf_some_direct_none hc, hcs]
    rw [List.length_append] at hr
    rcases Nat.lt_succ_iff_lt_or_eq.mp hr with hrl | rfl
    · rw [if_neg (Nat.ne_of_gt hrl), isHeapLiveL_append _ hrl]; exact hI.own r hrl
    · -- the new region: owned by block `c` alone
      rw [if_pos rfl, hI.dir_fresh (Nat.le_refl _), hI.ctrl_fresh (Nat.le_refl _), isHeapLiveL_new, hlive,
        hkind]
      rfl
  · exact Excl_set hI.excl fun _ _ _ hj => hI.excl_fresh hj hsp
  · exact stat_of_statOK (forall_live_set (fun _ _ _ hj => (hI.handle_append _ hj).2)
      (statOK_of_ctrl hc))
  · intro c1 c2 ow h1 h2
    have key : ∀ c', liveCtrlL (s.ctrls.set c ⟨ct, 1, true⟩) c' = some (.owned ow) →
        liveCtrlL s.ctrls c' = some (.owned ow) := by
      intro c' hcc
      by_cases hc' : c' = c
      · subst hc'
        rw [liveCtrlL_set_eq _ he] at hcc
        exact (hno ow (Option.some.inj hcc)).elim
      · rwa [liveCtrlL_set_ne _ (Ne.symm hc')] at hcc
    exact hI.odist c1 c2 ow (key c1 h1) (key c2 h2)

/-- move the handle in slot `j` into the empty slot `i` -/
theorem Inv_move {s : St} (hI : Inv s) {i j : Nat} {o : Handle} (hij : i ≠ j)
    (hi : s.hs[i]? = some none) (hj : s.hs[j]? = some (some o)) (ev : List Ev) :
    Inv ⟨s.regions, s.ctrls, (s.hs.set j none).set i (some o), s.owners, ev⟩ := by
  have hi' : (s.hs.set j none)[i]? = some none := (List.getElem?_set_ne (Ne.symm hij)).trans hi
  refine Inv_rehandle hI (keyCountL_move ctrlOf hi' hj) ?_ (keyCountL_move directRegion hi' hj) ?_ ev
  · -- a live slot of the new table is slot `i`, holding `o`, or a live slot of the old one
    have hold : ∀ (k : Nat) (b : Handle), (s.hs.set j none)[k]? = some (some b) →
        handleOKL s.regions s.ctrls b = true ∧ statOK s.regions b :=
      forall_live_kill fun _ _ _ hk => hI.handle hk
    exact forall_live_set (fun k b _ hk => hold k b hk) (hI.handle hj)
  refine Excl_set (Excl_kill j hI.excl) fun k b hki hk => ?_
  rcases hs_set_cases hk with ⟨_, h2, _⟩ | ⟨hkj, hk'⟩
  · cases h2
  · exact ⟨fun hb => hI.excl k j b o hk' hj hkj hb, fun ho => hI.excl j k o b hj hk' (Ne.symm hkj) ho⟩

/-- two handles `h` (slot `i`) and `o` (slot `j`) on the same control block are merged into `h'`
(slot `i`); `o`'s reference is released.  `hdis`: whatever is disjoint from both is disjoint from the
merged handle. -/
theorem Inv_merge {s : St} (hI : Inv s) {i j : Nat} {h o h' : Handle} {c : Nat} {e : CtrlE}
    (hij : i ≠ j) (hi : s.hs[i]? = some (some h)) (hj : s.hs[j]? = some (some o))
    (hco : ctrlOf o = some c) (he : s.ctrls[c]? = some e) (hl : e.live = true) (h1 : e.rc ≠ 1)
    (hc' : ctrlOf h' = ctrlOf h) (hd' : directRegion h' = directRegion h)
    (ok : handleOKL s.regions s.ctrls h' = true) (st : statOK s.regions h')
    (hmh : isMutable h = true) (hmo : isMutable o = true)
    (hdis : ∀ b, disjointB h b = true → disjointB o b = true → disjointB h' b = true)
    (ev : List Ev) :
    Inv ⟨s.regions, s.ctrls.set c { e with rc := e.rc - 1 }, (s.hs.set j none).set i (some h'),
      s.owners, ev⟩ := by
  have hia : (s.hs.set j none)[i]? = some (some h) := (List.getElem?_set_ne (Ne.symm hij)).trans hi
  refine Inv_set_excl (Inv_kill_dec hI hj hco he hl h1 ev) hia hc' hd'
    ((handleOKL_of_lookup (fun _ _ _ => rfl) fun c' _ => liveCtrlL_set_rc _ c' he).trans ok) st ?_ ev
  intro k b hki hk
  rcases hs_set_cases hk with ⟨_, h2, _⟩ | ⟨hkj, hk'⟩
  · cases h2
  · have := hdis b (hI.excl i k h b hi hk' (Ne.symm hki) hmh) (hI.excl j k o b hj hk' (Ne.symm hkj) hmo)
    exact ⟨fun _ => (disjointB_symm b h').trans this, fun _ => this⟩

/-- the state an operation on slot `i` runs in when the caller has meanwhile changed the handle table
(`unsplit` kills slot `j` before it extends slot `i`): the helpers below never look at `hs` -/
abbrev _root_.BytesVerif.Core.St.wh (s : St) (hsX : List (Option Handle)) (evX : List Ev) : St :=
  ⟨s.regions, s.ctrls, hsX, s.owners, evX⟩

/-- what a successful `reserve_inner` / `reserve` on slot `i` establishes; `R1`, `C1` are the regions
and control blocks afterwards, `h'` the new handle (not yet stored), `reg off len` the old view.  `inv`
speaks of the table `s.hs` although the program may run on another one (`s.wh hsX evX`): `unsplit`, the
one caller that has changed the table, gets its own from it by `List.set_comm`. -/
structure Grown (s : St) (i : Nat) (reg : Option Nat) (off len additional : Nat)
    (h' : Handle) (R1 : List Region) (C1 : List CtrlE) : Prop where
  shape : ∃ arc' reg' off' cap' orig', h' = .mut arc' reg' off' len cap' orig' ∧ additional ≤ cap' - len
  inv : ∀ ev, Inv ⟨R1, C1, s.hs.set i (some h'), s.owners, ev⟩
  view : viewOfL R1 h' = rdL s.regions reg off len
  others : ∀ (j : Nat) (b : Handle), j ≠ i → s.hs[j]? = some (some b) →
    viewOfL R1 b = viewOfL s.regions b

/-- the three outcomes of `reserve_inner` when the spare capacity does not suffice -/
def ReserveInnerSpec (cfg : Cfg) (e : Env) (s : St) (i : Nat) (arc reg : Option Nat)
    (off len cap orig additional : Nat) (allocate : Bool) : Prop :=
  (allocate = true ∧ ∀ hsX evX,
    mutReserveInner cfg e (.mut arc reg off len cap orig) additional allocate (s.wh hsX evX) =
      .panic (s.wh hsX evX)) ∨
  (allocate = false ∧ ∀ hsX evX,
    mutReserveInner cfg e (.mut arc reg off len cap orig) additional allocate (s.wh hsX evX) =
      .ok (.mut arc reg off len cap orig, false) (s.wh hsX evX)) ∨
  ∃ h' R1 C1,
    (∀ hsX evX, ∃ ev1,
      mutReserveInner cfg e (.mut arc reg off len cap orig) additional allocate (s.wh hsX evX) =
        .ok (h', true) ⟨R1, C1, hsX, s.owners, ev1⟩) ∧
    Grown s i reg off len additional h' R1 C1

/-! ### the paths through `reserve_inner`, one equation each

KIND_VEC decides on the handle alone; KIND_ARC first reads its control block (`hget`), so those
equations speak of one state. -/

section paths
variable (cfg : Cfg) (e : Env) {reg : Option Nat} {off len cap orig add : Nat}

theorem mri_vec_front (al : Bool) (h : cap - len + off ≥ add ∧ off ≥ len) :
    mutReserveInner cfg e (.mut none reg off len cap orig) add al =
      (do copyWithin reg off 0 len
          let cap' ← uadd cfg cap off
          pure (.mut none reg 0 len cap' orig, true)) := by
  rw [mutReserveInner, if_pos h]

theorem mri_vec_giveup (h : ¬ (cap - len + off ≥ add ∧ off ≥ len)) :
    mutReserveInner cfg e (.mut none reg off len cap orig) add false =
      pure (.mut none reg off len cap orig, false) := by
  rw [mutReserveInner, if_neg h]; rfl

theorem mri_vec_grow (h : ¬ (cap - len + off ≥ add ∧ off ≥ len)) :
    mutReserveInner cfg e (.mut none reg off len cap orig) add true =
      (do let (reg', vcap') ← vecReserve e reg (off + len) (off + cap) add
          pure (.mut none reg' off len (vcap' - off) orig, true)) := by
  rw [mutReserveInner, if_neg h]; rfl

variable {c : Nat}

/-- `len.checked_add(additional)` fails -/
theorem mri_arc_overflow (al : Bool) (h : len + add ≥ W) :
    mutReserveInner cfg e (.mut (some c) reg off len cap orig) add al =
      if al then panic else pure (.mut (some c) reg off len cap orig, false) := by
  rw [mutReserveInner, if_pos h]

/-- `reserve_inner` on a KIND_ARC handle once `len + additional` is known not to overflow and the control
block has been read: unique (in place, to the front, give up, or let the shared vector reserve) or shared
(give up, or copy out) -/
theorem mri_arc_eq (al : Bool) {s : St} {vreg : Option Nat} {vlen vcap vorig rc : Nat} {lv : Bool}
    (hW : ¬ len + add ≥ W) (hget : getCtrl c s = .ok ⟨.sharedV vreg vlen vcap vorig, rc, lv⟩ s) :
    mutReserveInner cfg e (.mut (some c) reg off len cap orig) add al s =
      (if rc = 1 then
        if vcap ≥ min (len + add + off) (W - 1) then pure (.mut (some c) reg off len (len + add) orig, true)
        else if vcap ≥ len + add ∧ off ≥ len then do
          copyWithin reg off 0 len
          pure (.mut (some c) reg 0 len vcap orig, true)
        else if !al then pure (.mut (some c) reg off len cap orig, false)
        else if len + add + off ≥ W then panic
        else do
          dassert cfg (off + len ≤ vcap)
          let (vreg', vcap') ← vecReserve e vreg (off + len) vcap
            (max (if vcap * 2 < W then vcap * 2 else len + add + off) (len + add + off) - (off + len))
          setCtrl c ⟨.sharedV vreg' (off + len) vcap' vorig, rc, lv⟩
          pure (.mut (some c) vreg' off len (vcap' - off) orig, true)
      else if !al then pure (.mut (some c) reg off len cap orig, false)
      else do
        let bs ← readRange reg off len
        let r' ← vecNew e bs (max (len + add) (originalCapacityFromRepr vorig))
        releaseCtrl c
        pure (.mut none r' 0 len (max (len + add) (originalCapacityFromRepr vorig)) vorig, true)) s := by
  change (if len + add ≥ W then _ else getCtrl c >>= _) s = _
  rw [if_neg hW, bind_apply, hget]

end paths

/-! ### what the paths do to a well-formed state -/

/-- dropping the buffer of a KIND_VEC `BytesMut` (if it ever allocated) -/
theorem Inv_kill_vec {s : St} (hI : Inv s) {i : Nat} {reg : Option Nat} {off len cap orig : Nat}
    (hi : s.hs[i]? = some (some (.mut none reg off len cap orig))) (vlen vorig : Nat) (ev : List Ev) :
    Inv ⟨freeBuf s.regions (.sharedV reg vlen (off + cap) vorig), s.ctrls, s.hs.set i none, s.owners, ev⟩ ∧
    ∀ (j : Nat) (b : Handle), j ≠ i → s.hs[j]? = some (some b) →
      viewOfL (freeBuf s.regions (.sharedV reg vlen (off + cap) vorig)) b = viewOfL s.regions b := by
  cases reg with
  | none => exact ⟨Inv_kill_plain hI hi rfl rfl ev, fun _ _ _ _ => rfl⟩
  | some r =>
    obtain ⟨rg, _, hr, _⟩ := isHeapLiveL_iff.mp (handleOKL_direct (hI.hok i _ hi) rfl)
    simp only [freeBuf, hr]
    exact Inv_kill_direct hI hi rfl hr ev

theorem freeBuf_length (R : List Region) (ct : Ctrl) : (freeBuf R ct).length = R.length :=
  (Killed.of_freeBuf R ct).len

/-- slot `i` is the only user of region `r`: the region may be rewritten and the handle moved inside it -/
theorem Grown.of_rewrite {s : St} (hI : Inv s) {i : Nat} {arc : Option Nat} {r off len cap orig add : Nat}
    (hi : s.hs[i]? = some (some (.mut arc (some r) off len cap orig)))
    (halone : ∀ (j : Nat) (b : Handle), j ≠ i → s.hs[j]? = some (some b) → ¬ Anchor s.regions s.ctrls b r)
    {R' : List Region} (hR : MetaEq s.regions R' (fun r' => r' = r)) {off' cap' : Nat}
    (hadd : len + add ≤ cap')
    (hview : rdL R' (some r) off' len = rdL s.regions (some r) off len)
    (ok : handleOKL R' s.ctrls (.mut arc (some r) off' len cap' orig) = true) :
    Grown s i (some r) off len add (.mut arc (some r) off' len cap' orig) R' s.ctrls := by
  have key := fun ev => Inv_sole_set (h' := .mut arc (some r) off' len cap' orig) hI hi hR
    (fun r' hp => hp ▸ halone) (by cases arc <;> rfl) (by cases arc <;> rfl) ok trivial
    (fun r' o l h _ => by cases h; rfl) ev
  exact ⟨⟨_, _, _, _, _, rfl, Nat.le_sub_of_add_le' hadd⟩, fun ev => (key ev).1, hview, (key []).2⟩

theorem fits_after {off len add N : Nat} (h : off + len + add ≤ N) :
    len ≤ N - off ∧ add ≤ N - off - len ∧ off + (N - off) = N :=
  have h1 : off + len ≤ N := Nat.le_trans (Nat.le_add_right _ _) h
  ⟨Nat.le_sub_of_add_le' h1, by rw [Nat.sub_sub]; exact Nat.le_sub_of_add_le' h,
    Nat.add_sub_of_le (Nat.le_trans (Nat.le_add_right _ _) h1)⟩

/-- slot `i` has given up its buffer (`hkill`, `hothers`); a fresh region of `N` bytes is appended and the
slot filled with a KIND_VEC handle that owns it -/
theorem Grown.of_fill_fresh {s : St} {i : Nat} {h : Handle} (hi : s.hs[i]? = some (some h))
    {R0 : List Region} {C0 : List CtrlE} (hlen : R0.length = s.regions.length)
    (hkill : ∀ ev, Inv ⟨R0, C0, s.hs.set i none, s.owners, ev⟩)
    (hothers : ∀ (j : Nat) (b : Handle), j ≠ i → s.hs[j]? = some (some b) → viewOfL R0 b = viewOfL s.regions b)
    {new : Region} {k : Bool} (hnew : regionOKB new = true) (hlive : new.live = true) (hkind : new.kind = .heap k)
    {reg : Option Nat} {off len add off' N orig' : Nat} (hsz : new.size = N)
    (hN : off' + len + add ≤ N) (hoff : off' ≤ W / 32 - 1)
    {v : List Byte} (hv : rdL s.regions reg off len = some v)
    (hv' : rdL (R0 ++ [new]) (some s.regions.length) off' len = some v) :
    Grown s i reg off len add (.mut none (some s.regions.length) off' len (N - off') orig') (R0 ++ [new]) C0 := by
  rw [← hlen] at hv' ⊢
  have hfit := fits_after hN
  have hfill := fun ev => Inv_fill_fresh (hkill ev) (h' := .mut none (some R0.length) off' len (N - off') orig')
    (lookup_set_eq _ hi) hnew hlive hkind rfl rfl (fun _ _ _ h => by cases h; rfl)
    (handleOKL_mutV.mpr ⟨hfit.1, hoff,
      ⟨by simp [isHeapLiveL_new, hlive, hkind], by rw [regionSizeL_new, hsz]; exact hfit.2.2⟩,
      by rw [hv']; rfl⟩) ev
  refine ⟨⟨_, _, _, _, _, rfl, hfit.2.1⟩, fun ev => ?_, hv'.trans hv.symm, fun j b hji hj => ?_⟩
  · simpa only [List.set_set] using (hfill ev).1
  · rw [(hfill []).2 j b (by rw [List.getElem?_set_ne (Ne.symm hji)]; exact hj)]; exact hothers j b hji hj

/-- slot `i` has given up the buffer of its control block `c`, now dead (`hkill`, `hothers`, `he0`); a
fresh region of `N` bytes is appended, `c` revived as its sole owner and the slot filled with a KIND_ARC
handle on it -/
theorem Grown.of_fill_ctrl_fresh {s : St} {i : Nat} {h : Handle} (hi : s.hs[i]? = some (some h))
    {R0 : List Region} {C0 : List CtrlE} (hlen : R0.length = s.regions.length)
    (hkill : ∀ ev, Inv ⟨R0, C0, s.hs.set i none, s.owners, ev⟩)
    (hothers : ∀ (j : Nat) (b : Handle), j ≠ i → s.hs[j]? = some (some b) → viewOfL R0 b = viewOfL s.regions b)
    {c : Nat} {e0 : CtrlE} (he0 : C0[c]? = some e0) (hdead : e0.live = false)
    {new : Region} {k : Bool} (hnew : regionOKB new = true) (hlive : new.live = true) (hkind : new.kind = .heap k)
    {reg : Option Nat} {off len add off' vlen' N vorig orig' : Nat} (hsz : new.size = N)
    (hN : off' + len + add ≤ N)
    {v : List Byte} (hv : rdL s.regions reg off len = some v)
    (hv' : rdL (R0 ++ [new]) (some s.regions.length) off' len = some v) :
    Grown s i reg off len add (.mut (some c) (some s.regions.length) off' len (N - off') orig') (R0 ++ [new])
      (C0.set c ⟨.sharedV (some s.regions.length) vlen' N vorig, 1, true⟩) := by
  rw [← hlen] at hv' ⊢
  have hfit := fits_after hN
  have hfill := fun ev => Inv_fill_ctrl_fresh (hkill ev)
    (h' := .mut (some c) (some R0.length) off' len (N - off') orig') (ct := .sharedV (some R0.length) vlen' N vorig)
    (lookup_set_eq _ hi) he0 hdead hnew hlive hkind rfl rfl
    ⟨by simp [isHeapLiveL_new, hlive, hkind], by rw [regionSizeL_new, hsz]⟩ (by intro o h; cases h)
    (fun _ _ _ h => by cases h; rfl)
    (handleOKL_mutA.mpr ⟨hfit.1, ⟨_, _, _, by rw [liveCtrlL_set_eq _ he0]; rfl, Nat.le_of_eq hfit.2.2⟩,
      by rw [hv']; rfl⟩) ev
  refine ⟨⟨_, _, _, _, _, rfl, hfit.2.1⟩, fun ev => ?_, hv'.trans hv.symm, fun j b hji hj => ?_⟩
  · simpa only [List.set_set] using (hfill ev).1
  · rw [(hfill []).2 j b (by rw [List.getElem?_set_ne (Ne.symm hji)]; exact hj)]; exact hothers j b hji hj

/-- `reserve_inner` ("mri") on a KIND_VEC handle whose spare capacity does not suffice: the three outcomes -/
theorem mri_vec {s : St} (hI : Inv s) (cfg : Cfg) (e : Env) {i : Nat} {reg : Option Nat}
    {off len cap orig : Nat} (hi : s.hs[i]? = some (some (.mut none reg off len cap orig)))
    (additional : Nat) (allocate : Bool) (hadd : ¬ additional ≤ cap - len) :
    ReserveInnerSpec cfg e s i none reg off len cap orig additional allocate := by
  obtain ⟨hlc, hoffb, hregc, hrd⟩ := handleOKL_mutV.mp (hI.hok i _ hi)
  obtain ⟨v, hv⟩ := Option.isSome_iff_exists.mp hrd
  have hvl := rdL_length hI.regs hv
  -- a KIND_VEC handle owns the vector `(reg, off + len, off + cap)`
  have hbuf : ctrlBufOK s.regions s.owners (.sharedV reg (off + len) (off + cap) orig) := by
    cases reg with
    | none => exact hregc
    | some r => exact ⟨hregc.1, hregc.2.symm⟩
  clear hregc hrd
  by_cases hfront : cap - len + off ≥ additional ∧ off ≥ len
  · right; right
    cases reg with
    | none =>
      -- no buffer means `off = cap = 0`: the spare capacity would have sufficed
      have h1 := hfront.1
      rw [Nat.eq_zero_of_add_eq_zero_right (show off + cap = 0 from hbuf), Nat.add_zero] at h1
      exact (hadd h1).elim
    | some r =>
      have hW : cap + off < W := by
        rw [Nat.add_comm]; exact lt_W_of_le_isizeMax (ctrlBufOK_cap_le hI.regs hbuf)
      obtain ⟨R', hcw, hM, hv'⟩ := copyWithin_front hI.regs hbuf.1 hv
      refine ⟨_, _, _, fun hsX evX => ⟨evX, ?_⟩,
        Grown.of_rewrite (off' := 0) (cap' := cap + off) (add := additional) hI hi
          (fun j b hji hj => hI.alone_direct hi rfl hji hj) hM
          (Nat.le_trans (Nat.add_le_add_left hfront.1 len)
            (by rw [← Nat.add_assoc, Nat.add_sub_of_le hlc]; exact Nat.le_refl _))
          (hv'.trans hv.symm)
          (handleOKL_mutV.mpr ⟨Nat.le_trans hlc (Nat.le_add_right _ _), Nat.zero_le _,
            ⟨by rw [isHeapLiveL_of_meta (hM.mt r)]; exact hbuf.1,
              by rw [regionSizeL_of_meta (hM.mt r), hbuf.2, Nat.zero_add, Nat.add_comm]⟩,
            by rw [hv']; rfl⟩)⟩
      rw [mri_vec_front cfg e _ hfront]
      simp only [bind_apply, hcw (s.wh hsX evX) rfl, uadd_eq cfg hW, pure_apply]
  · cases allocate with
    | false => exact .inr (.inl ⟨rfl, fun hsX evX => by rw [mri_vec_giveup cfg e hfront]; rfl⟩)
    | true =>
      rcases vecReserve_grow_spec e hI.regs hbuf (Nat.add_le_add_left hlc off)
          (by rw [Nat.add_sub_add_left]; exact hadd : ¬ additional ≤ off + cap - (off + len))
        with hp | ⟨N, new, hex, hnew, hlive, hkind, hsz, hN, hpre⟩
      · exact .inl ⟨rfl, fun hsX evX => by rw [mri_vec_grow cfg e hfront, bind_apply, hp]⟩
      · right; right
        refine ⟨_, _, _, fun hsX evX => ?_,
          Grown.of_fill_fresh (orig' := orig) hi (freeBuf_length _ _)
            (fun ev => (Inv_kill_vec hI hi (off + len) orig ev).1) (Inv_kill_vec hI hi (off + len) orig []).2
            hnew hlive hkind hsz hN hoffb hv (hpre off len v (Nat.le_refl _) hv)⟩
        obtain ⟨ev, h1⟩ := hex (s.wh hsX evX) rfl
        exact ⟨ev, by rw [mri_vec_grow cfg e hfront, bind_apply, h1]; rfl⟩

/-- a vector of capacity `vcap` holding `used` bytes that reserves up to `T > vcap` -/
theorem reserve_upto {used vcap T : Nat} (h1 : used ≤ vcap) (h2 : vcap < T) :
    ¬ T - used ≤ vcap - used ∧ used + (T - used) = T :=
  ⟨fun hle => Nat.not_le.mpr h2 ((Nat.sub_le_sub_iff_right h1).mp hle),
    Nat.add_sub_of_le (Nat.le_of_lt (Nat.lt_of_le_of_lt h1 h2))⟩

/-- `reserve_inner` on a KIND_ARC handle whose spare capacity does not suffice: the three outcomes -/
theorem mri_arc {s : St} (hI : Inv s) (cfg : Cfg) (e : Env) {i c : Nat} {reg : Option Nat}
    {off len cap orig : Nat} (hi : s.hs[i]? = some (some (.mut (some c) reg off len cap orig)))
    (additional : Nat) (allocate : Bool) (hadd : ¬ additional ≤ cap - len) :
    ReserveInnerSpec cfg e s i (some c) reg off len cap orig additional allocate := by
  obtain ⟨hlc, ⟨vlen, vcap, vorig, hlivec, hcap⟩, hrd⟩ := handleOKL_mutA.mp (hI.hok i _ hi)
  obtain ⟨v, hv⟩ := Option.isSome_iff_exists.mp hrd
  have hvl := rdL_length hI.regs hv
  obtain ⟨⟨ct, rc, live⟩, he, hl, hct, -, hrc1, hbuf⟩ := hI.cok' hlivec
  simp only at hl hct hrc1
  subst hl hct
  clear hrd
  by_cases hW : len + additional ≥ W
  · cases allocate with
    | true => exact .inl ⟨rfl, fun hsX evX => by rw [mri_arc_overflow cfg e _ hW]; rfl⟩
    | false => exact .inr (.inl ⟨rfl, fun hsX evX => by rw [mri_arc_overflow cfg e _ hW]; rfl⟩)
  have hget : ∀ hsX evX, getCtrl c (s.wh hsX evX) =
      .ok ⟨.sharedV reg vlen vcap vorig, rc, true⟩ (s.wh hsX evX) :=
    fun hsX evX => getCtrl_eq (s := s.wh hsX evX) he rfl
  by_cases hu : rc = 1
  · -- in place or to the front: the vector has a buffer, and slot `i` is its only user
    have hsole : ∀ cap' off', len + additional ≤ cap' → off' + cap' ≤ vcap →
        ∃ r, reg = some r ∧ isHeapLiveL s.regions r = true ∧
          ∀ R', MetaEq s.regions R' (fun r' => r' = r) → rdL R' reg off' len = some v →
            Grown s i reg off len additional (.mut (some c) reg off' len cap' orig) R' s.ctrls := by
      intro cap' off' hadd' hcap'
      cases reg with
      | none =>
        -- no buffer means `vcap = 0`, so nothing could be asked for
        have hv0 : vcap = 0 := hbuf
        have h0 : len + additional ≤ 0 :=
          Nat.le_trans hadd' (Nat.le_trans (Nat.le_add_left cap' off') (hv0 ▸ hcap'))
        have hz : additional = 0 := Nat.eq_zero_of_add_eq_zero_left (Nat.le_zero.mp h0)
        exact (hadd (hz ▸ Nat.zero_le _)).elim
      | some r =>
        exact ⟨r, rfl, hbuf.1, fun R' hM hv' =>
          Grown.of_rewrite hI hi (fun j b hji hj => hI.alone_ctrl hi rfl he rfl hu rfl hji hj) hM hadd'
            (hv'.trans hv.symm)
            (handleOKL_mutA.mpr ⟨Nat.le_trans (Nat.le_add_right _ _) hadd', ⟨vlen, vcap, vorig, hlivec, hcap'⟩,
              by rw [hv']; rfl⟩)⟩
    by_cases hin : vcap ≥ min (len + additional + off) (W - 1)
    · right; right
      have hin' : vcap ≥ len + additional + off := by
        rcases Nat.le_total (len + additional + off) (W - 1) with h | h
        · rwa [Nat.min_eq_left h] at hin
        · rw [Nat.min_eq_right h] at hin
          exact absurd hin (Nat.not_le.mpr (lt_W_pred_of_le_isizeMax (ctrlBufOK_cap_le hI.regs hbuf)))
      obtain ⟨r, rfl, _, hG⟩ := hsole (len + additional) off (Nat.le_refl _)
        (Nat.le_trans (Nat.le_of_eq (Nat.add_comm _ _)) hin')
      exact ⟨_, _, _, fun hsX evX => ⟨evX, by rw [mri_arc_eq cfg e _ hW (hget hsX evX), if_pos hu, if_pos hin]; rfl⟩,
        hG _ (MetaEq.refl hI.regs _) hv⟩
    · by_cases hfr : vcap ≥ len + additional ∧ off ≥ len
      · right; right
        obtain ⟨r, rfl, hlive, hG⟩ := hsole vcap 0 hfr.1 (Nat.le_of_eq (Nat.zero_add _))
        obtain ⟨R', hcw, hM, hv'⟩ := copyWithin_front hI.regs hlive hv
        refine ⟨_, _, _, fun hsX evX => ⟨evX, ?_⟩, hG R' hM hv'⟩
        rw [mri_arc_eq cfg e _ hW (hget hsX evX), if_pos hu, if_neg hin, if_pos hfr, bind_apply,
          hcw (s.wh hsX evX) rfl]
        rfl
      · cases allocate with
        | false =>
          exact .inr (.inl ⟨rfl, fun hsX evX => by
            rw [mri_arc_eq cfg e _ hW (hget hsX evX), if_pos hu, if_neg hin, if_neg hfr]; rfl⟩)
        | true =>
          have hexec := fun hsX evX =>
            mri_arc_eq (reg := reg) (off := off) (cap := cap) (orig := orig) cfg e true hW (hget hsX evX)
          simp only [if_pos hu, if_neg hin, if_neg hfr, Bool.not_true, Bool.false_eq_true, if_false] at hexec
          by_cases hov : len + additional + off ≥ W
          · exact .inl ⟨rfl, fun hsX evX => by rw [hexec, if_pos hov]; rfl⟩
          -- the shared vector reserves up to `T` bytes
          have hlt : vcap < len + additional + off :=
            Nat.lt_of_lt_of_le (Nat.lt_of_not_ge hin) (Nat.min_le_left _ _)
          have holv : off + len ≤ vcap := Nat.le_trans (Nat.add_le_add_left hlc off) hcap
          obtain ⟨T, hT, hTw⟩ : ∃ T, T = max (if vcap * 2 < W then vcap * 2 else len + additional + off)
              (len + additional + off) ∧ len + additional + off ≤ T := ⟨_, rfl, Nat.le_max_right _ _⟩
          simp only [if_neg hov, bind_apply, ← hT,
            dassert_eq cfg (cond := decide (off + len ≤ vcap)) (by simpa using holv)] at hexec
          obtain ⟨hna, hTeq⟩ := reserve_upto holv (Nat.lt_of_lt_of_le hlt hTw)
          rcases vecReserve_grow_spec e hI.regs hbuf holv hna
            with hp | ⟨N, new, hex, hnew, hlive, hkind, hsz, hN, hpre⟩
          · exact .inl ⟨rfl, fun hsX evX => by rw [hexec, hp]⟩
          · right; right
            subst hu
            refine ⟨_, _, _, fun hsX evX => ?_,
              Grown.of_fill_ctrl_fresh (orig' := orig) (vlen' := off + len) (vorig := vorig) hi (freeBuf_length _ _)
                (fun ev => (Inv_kill_last hI hi rfl he rfl rfl ev).1) (Inv_kill_last hI hi rfl he rfl rfl []).2
                (lookup_set_eq _ he) rfl hnew hlive hkind hsz
                (by rw [Nat.add_assoc, Nat.add_comm]; exact Nat.le_trans hTw (hTeq ▸ hN)) hv
                (hpre off len v (Nat.le_refl _) hv)⟩
            obtain ⟨ev, h1⟩ := hex (s.wh hsX evX) rfl
            exact ⟨ev, by
              rw [hexec, h1]; simp only [setCtrl_apply, pure_apply, List.set_set]⟩
  · -- shared with other handles: copy into a fresh vector, release the old block
    cases allocate with
    | false => exact .inr (.inl ⟨rfl, fun hsX evX => by rw [mri_arc_eq cfg e _ hW (hget hsX evX), if_neg hu]; rfl⟩)
    | true =>
      obtain ⟨T, hT, hTle⟩ : ∃ T, T = max (len + additional) (originalCapacityFromRepr vorig) ∧
          len + additional ≤ T := ⟨_, rfl, Nat.le_max_left _ _⟩
      have hexec := fun hsX evX =>
        mri_arc_eq (reg := reg) (off := off) (cap := cap) (orig := orig) cfg e true hW (hget hsX evX)
      have hrdX : ∀ hsX evX, readRange reg off len (s.wh hsX evX) = .ok v (s.wh hsX evX) :=
        fun hsX evX => readRange_of_rdL (s := s.wh hsX evX) hv
      simp only [if_neg hu, Bool.not_true, Bool.false_eq_true, if_false, ← hT, bind_apply, hrdX] at hexec
      by_cases hTmax : T > isizeMax
      · exact .inl ⟨rfl, fun hsX evX => by rw [hexec, vecNew_panic e v hTmax]⟩
      · right; right
        have hT0 : T ≠ 0 := fun h =>
          hadd (Nat.eq_zero_of_add_eq_zero_left (Nat.le_zero.mp (h ▸ hTle)) ▸ Nat.zero_le _)
        have hTmax' : T ≤ isizeMax := Nat.le_of_not_gt hTmax
        subst hvl
        have hvT : v.length ≤ T := Nat.le_trans (Nat.le_add_right _ _) hTle
        refine ⟨_, _, _, fun hsX evX => ⟨.alloc s.regions.length T :: evX, ?_⟩,
          Grown.of_fill_fresh (orig' := vorig) (N := T) hi rfl (fun ev => Inv_kill_dec hI hi (c := c) rfl he rfl hu ev)
            (fun _ _ _ _ => rfl) (vecRegion_ok (e.odd s.regions.length) hT0 hTmax' hvT) rfl rfl rfl
            (by rw [Nat.zero_add]; exact hTle) (Nat.zero_le _) hv (rdL_vecRegion s.regions (e.odd s.regions.length) hvT)⟩
        have hrel := releaseCtrl_dec (s := ⟨s.regions ++ [vecRegion v T (e.odd s.regions.length)], s.ctrls, hsX,
          s.owners, .alloc s.regions.length T :: evX⟩) he rfl (Nat.ne_of_gt hrc1) hu
        simp only [hexec, vecNew_eq e v hT0 hTmax', hrel, pure_apply, Nat.sub_zero]

/-- `reserve_inner(additional, allocate)` when `additional` exceeds the spare capacity: it panics
without effect (capacity overflow; only if `allocate`), or gives up without effect (only if
`!allocate`), or succeeds (`Grown`).  Never `ub`. -/
theorem mutReserveInner_spec {s : St} (hI : Inv s) (cfg : Cfg) (e : Env) {i : Nat} {arc reg : Option Nat}
    {off len cap orig : Nat} (hi : s.hs[i]? = some (some (.mut arc reg off len cap orig)))
    (additional : Nat) (allocate : Bool) (hadd : ¬ additional ≤ cap - len) :
    ReserveInnerSpec cfg e s i arc reg off len cap orig additional allocate := by
  cases arc with
  | none => exact mri_vec hI cfg e hi additional allocate hadd
  | some c => exact mri_arc hI cfg e hi additional allocate hadd

/-- `reserve(additional)`: panics without effect or succeeds -/
def ReserveSpec (cfg : Cfg) (e : Env) (s : St) (i : Nat) (arc reg : Option Nat)
    (off len cap orig additional : Nat) : Prop :=
  (∀ hsX evX, mutReserve cfg e (.mut arc reg off len cap orig) additional (s.wh hsX evX) =
      .panic (s.wh hsX evX)) ∨
  ∃ h' R1 C1,
    (∀ hsX evX, ∃ ev1, mutReserve cfg e (.mut arc reg off len cap orig) additional (s.wh hsX evX) =
        .ok h' ⟨R1, C1, hsX, s.owners, ev1⟩) ∧
    Grown s i reg off len additional h' R1 C1

theorem mutReserve_spec {s : St} (hI : Inv s) (cfg : Cfg) (e : Env) {i : Nat} {arc reg : Option Nat}
    {off len cap orig : Nat} (hi : s.hs[i]? = some (some (.mut arc reg off len cap orig)))
    (additional : Nat) : ReserveSpec cfg e s i arc reg off len cap orig additional := by
  by_cases hadd : additional ≤ cap - len
  · right
    refine ⟨.mut arc reg off len cap orig, s.regions, s.ctrls, fun hsX evX => ⟨evX, ?_⟩,
      ⟨_, _, _, _, _, rfl, hadd⟩, fun ev => ?_, rfl, fun _ _ _ _ => rfl⟩
    · simp only [mutReserve, if_pos hadd, pure_apply]
    · rw [set_self hi]; exact Inv_events hI ev
  · rcases mutReserveInner_spec hI cfg e hi additional true hadd with ⟨_, hp⟩ | ⟨hf, _⟩ | ⟨h', R1, C1, heq, hG⟩
    · left
      intro hsX evX
      simp only [mutReserve, if_neg hadd, bind_apply, hp]
    · cases hf
    · right
      refine ⟨h', R1, C1, fun hsX evX => ?_, hG⟩
      obtain ⟨ev1, h1⟩ := heq hsX evX
      exact ⟨ev1, by simp only [mutReserve, if_neg hadd, bind_apply, h1, pure_apply]⟩

theorem absL_set_view {R R' : List Region} {hs : List (Option Handle)} {i : Nat} {h : Handle}
    {v : List Byte}
    (hoth : ∀ (j : Nat) (b : Handle), j ≠ i → hs[j]? = some (some b) → viewOfL R' b = viewOfL R b)
    (hv : viewOfL R' h = some v) :
    absL R' (hs.set i (some h)) = (absL R hs).set i (some ⟨kindOf h, v⟩) := by
  rw [absL_set_of_view _ hoth, Option.bind_some, hv, Option.map_some]

theorem absL_grown {s : St} (hI : Inv s) {i : Nat} {arc reg : Option Nat} {off len cap orig additional : Nat}
    (hi : s.hs[i]? = some (some (.mut arc reg off len cap orig))) {h' : Handle} {R1 : List Region}
    {C1 : List CtrlE} (hG : Grown s i reg off len additional h' R1 C1) :
    absL R1 (s.hs.set i (some h')) = absL s.regions s.hs := by
  obtain ⟨v, hv, _⟩ := hI.view hi
  obtain ⟨arc', reg', off', cap', orig', rfl, _⟩ := hG.shape
  have hself : (absL s.regions s.hs).set i (some ⟨.mut, v⟩) = absL s.regions s.hs :=
    set_self (absL_lookup hi hv)
  rw [absL_set_view hG.others (hG.view.trans hv)]
  exact hself

theorem step_reserve (cfg : Cfg) (e : Env) (i n : Nat) (s : St) (hw : WFx s) :
    StepOKx cfg e (.reserve i n) s := by
  have hI := hw.inv
  refine .of_getHandle hw rfl rfl fun h hi => ?_
  have hpanic : WFx s ∧ abs s = Spec.stepPanic (.reserve i n) (abs s) := ⟨hw, rfl⟩
  cases h with
  | bytes repr reg off len => exact hpanic
  | vec reg len cap => exact hpanic
  | «mut» arc reg off len cap orig =>
    rw [bind_apply]
    rcases mutReserve_spec hI cfg e hi n with hp | ⟨h', R1, C1, heq, hG⟩
    · rw [hp s.hs s.events]
      exact hpanic
    · obtain ⟨ev1, h1⟩ := heq s.hs s.events
      rw [h1]
      exact finish_ok (hG.inv ev1) ((absL_grown hI hi hG).trans (abs_eq s).symm)

theorem step_tryReclaim (cfg : Cfg) (e : Env) (i n : Nat) (s : St) (hw : WFx s) :
    StepOKx cfg e (.tryReclaim i n) s := by
  have hI := hw.inv
  refine .of_getHandle hw rfl rfl fun h hi => ?_
  have hsame : ∀ v, WFx s ∧ abs s = Spec.stepOk (.tryReclaim i n) v (abs s) := fun v => ⟨hw, rfl⟩
  cases h with
  | bytes repr reg off len => exact ⟨hw, rfl⟩
  | vec reg len cap => exact ⟨hw, rfl⟩
  | «mut» arc reg off len cap orig =>
    refine sat_ite (fun _ => hsame _) fun hadd => ?_
    rw [bind_apply]
    rcases mutReserveInner_spec hI cfg e hi n false hadd with ⟨hf, _⟩ | ⟨_, hq⟩ | ⟨h', R1, C1, heq, hG⟩
    · cases hf
    · rw [hq s.hs s.events]
      simp only [bind_apply, setHandle_apply, pure_apply, sat_ok, set_self hi]
      exact hsame _
    · obtain ⟨ev1, h1⟩ := heq s.hs s.events
      rw [h1]
      exact finish_ok (hG.inv ev1) ((absL_grown hI hi hG).trans (abs_eq s).symm)

theorem spare_bounds {off len cap w size : Nat} (hw : w ≤ cap - len) (hlc : len ≤ cap)
    (hsz : off + cap ≤ size) :
    off + len + w ≤ size ∧ off + len + w ≤ off + cap ∧ len + w ≤ cap :=
  have h3 : len + w ≤ cap := Nat.add_le_of_le_sub' hlc hw
  have h2 : off + len + w ≤ off + cap := Nat.add_assoc off len w ▸ Nat.add_le_add_left h3 off
  ⟨Nat.le_trans h2 hsz, h2, h3⟩

/-- after a successful reserve: write `ws` behind the view and lengthen the handle -/
theorem grown_write {s : St} {i : Nat} {h : Handle} (hi : s.hs[i]? = some (some h))
    {reg : Option Nat} {off len additional : Nat}
    {arc' reg' : Option Nat} {off' cap' orig' : Nat} {R1 : List Region} {C1 : List CtrlE}
    {v ws : List Byte}
    (hG : Grown s i reg off len additional (.mut arc' reg' off' len cap' orig') R1 C1)
    (hv : rdL s.regions reg off len = some v) (hvl : v.length = len)
    (hws : ws.length ≤ cap' - len) :
    ∃ R2, (∀ hsX evX, writeRange reg' (off' + len) ws ⟨R1, C1, hsX, s.owners, evX⟩ =
        .ok () ⟨R2, C1, hsX, s.owners, evX⟩) ∧
      (∀ ev, Inv ⟨R2, C1, s.hs.set i (some (.mut arc' reg' off' (len + ws.length) cap' orig')), s.owners, ev⟩) ∧
      rdL R2 reg' off' (len + ws.length) = some (v ++ ws) ∧
      (∀ (j : Nat) (b : Handle), j ≠ i → s.hs[j]? = some (some b) → viewOfL R2 b = viewOfL s.regions b) := by
  have hview1 : rdL R1 reg' off' len = some v := hG.view.trans hv
  by_cases hne : ws = []
  · subst hne
    exact ⟨R1, fun hsX evX => writeRange_nil _ _ _, hG.inv, by rw [List.append_nil]; exact hview1, hG.others⟩
  have hI2 := hG.inv []
  have hi2 : (s.hs.set i (some (.mut arc' reg' off' len cap' orig')))[i]? =
      some (some (.mut arc' reg' off' len cap' orig')) := lookup_set_eq _ hi
  cases reg' with
  | none =>
    rw [mut_none_cap hI2 hi2, Nat.zero_sub] at hws
    exact absurd (List.eq_nil_of_length_eq_zero (Nat.le_zero.mp hws)) hne
  | some r' =>
    obtain ⟨rg, k, hr, hlive, hkind, hsz⟩ := hI2.span_le_size hi2 rfl (r := r') (o := off') (c := cap') rfl
    simp only at hr
    have hdl := (region_size_le hI2.regs hr).2
    obtain ⟨hb, hin, hlc2⟩ := spare_bounds hws (mut_len_le_cap (hI2.hok i _ hi2)) hsz
    -- the old view is untouched, the new bytes follow it
    have hrd2 : rdL (R1.set r' (rg.write (off' + len) ws)) (some r') off' (len + ws.length) = some (v ++ ws) :=
      rdL_concat (by rw [rdL_write_other hr (hdl ▸ hb) (fun _ => .inl (Nat.le_refl _))]; exact hview1)
        (rdL_write_same hr hlive hb hdl) hvl
    have key := fun ev => Inv_write_set hI2 (h' := .mut arc' (some r') off' (len + ws.length) cap' orig')
      (off := off' + len) (bs := ws) hi2 rfl rfl hr
      ⟨Nat.le_add_right _ _, hin⟩ (by cases arc' <;> rfl) (by cases arc' <;> rfl) (spanSub_of_eq rfl) rfl
      (handleOKL_mut_relen (hI2.hok i _ hi2) (fun r'' => metaL_set_data _ r'' hr)
        hlc2 (by rw [hrd2]; rfl)) ev
    refine ⟨_, fun hsX evX => writeRange_eq (s := ⟨R1, C1, hsX, s.owners, evX⟩) hne hr hlive hb hkind,
      fun ev => ?_, hrd2, fun j b hji hj => ?_⟩
    · simpa only [List.set_set] using (key ev).1
    · rw [← hG.others j b hji hj]
      exact (key []).2 j b hji (by rw [List.getElem?_set_ne (Ne.symm hji)]; exact hj)

/-- `extend_from_slice(bs)` on slot `i`: panics without effect or appends -/
def ExtendSpec (cfg : Cfg) (e : Env) (s : St) (i : Nat) (h : Handle) (v bs : List Byte) : Prop :=
  (∀ hsX evX, mutExtend cfg e h bs (s.wh hsX evX) = .panic (s.wh hsX evX)) ∨
  ∃ h'' R2 C2,
    (∀ hsX evX, ∃ ev, mutExtend cfg e h bs (s.wh hsX evX) = .ok h'' ⟨R2, C2, hsX, s.owners, ev⟩) ∧
    kindOf h'' = .mut ∧
    (∀ ev, Inv ⟨R2, C2, s.hs.set i (some h''), s.owners, ev⟩) ∧
    viewOfL R2 h'' = some (v ++ bs) ∧
    (∀ (j : Nat) (b : Handle), j ≠ i → s.hs[j]? = some (some b) → viewOfL R2 b = viewOfL s.regions b)

theorem mutExtend_spec {s : St} (hI : Inv s) (cfg : Cfg) (e : Env) {i : Nat} {arc reg : Option Nat}
    {off len cap orig : Nat} (hi : s.hs[i]? = some (some (.mut arc reg off len cap orig)))
    (bs : List Byte) {v : List Byte} (hv : rdL s.regions reg off len = some v) :
    ExtendSpec cfg e s i (.mut arc reg off len cap orig) v bs := by
  have hvl := rdL_length hI.regs hv
  rcases mutReserve_spec hI cfg e hi bs.length with hp | ⟨h', R1, C1, heq, hG⟩
  · left
    intro hsX evX
    simp only [mutExtend, bind_apply, hp]
  · right
    obtain ⟨arc', reg', off', cap', orig', rfl, hcap⟩ := hG.shape
    have hnlt : ¬ cap' - len < bs.length := Nat.not_lt.mpr hcap
    have hda : ∀ s', dassert cfg (decide (cap' - len ≥ bs.length)) s' = .ok () s' :=
      fun s' => dassert_eq cfg (decide_eq_true hcap) s'
    obtain ⟨R2, hw, hI2, hv2, hoth⟩ := grown_write hi hG hv hvl hcap
    refine ⟨.mut arc' reg' off' (len + bs.length) cap' orig', R2, C1, fun hsX evX => ?_, rfl, hI2, hv2, hoth⟩
    obtain ⟨ev1, h1⟩ := heq hsX evX
    refine ⟨ev1, ?_⟩
    simp only [mutExtend, bind_apply, h1, ite_apply', if_neg hnlt, hda, hw, pure_apply]

theorem Spec_stepOk_extend {a : Spec.St} {i : Nat} {x : SH} (h : Spec.get a i = some x)
    (bs : List Byte) (v : Val) :
    Spec.stepOk (.extend i bs) v a = a.set i (some ⟨x.kind, x.val ++ bs⟩) := by
  simp [Spec.stepOk, h, Spec.setAt]

theorem step_extend (cfg : Cfg) (e : Env) (i : Nat) (bs : List Byte) (s : St) (hw : WFx s) :
    StepOKx cfg e (.extend i bs) s := by
  have hI := hw.inv
  refine .of_getHandle hw rfl rfl fun h hi => ?_
  have hpanic : WFx s ∧ abs s = Spec.stepPanic (.extend i bs) (abs s) := ⟨hw, rfl⟩
  cases h with
  | bytes repr reg off len => exact hpanic
  | vec reg len cap => exact hpanic
  | «mut» arc reg off len cap orig =>
    obtain ⟨v, hv, hvl⟩ := hI.view hi
    have hspec : ∀ x, Spec.stepOk (.extend i bs) x (abs s) =
        (absL s.regions s.hs).set i (some ⟨.mut, v ++ bs⟩) := fun x =>
      (congrArg _ (abs_eq s)).trans (Spec_stepOk_extend (Spec_get_absL hi hv) bs x)
    rw [bind_apply]
    rcases mutExtend_spec hI cfg e hi bs hv with hp | ⟨h'', R2, C2, heq, hk, hI2, hv2, hoth⟩
    · rw [hp s.hs s.events]
      exact hpanic
    · obtain ⟨ev1, h1⟩ := heq s.hs s.events
      rw [h1]
      exact finish_ok (hI2 ev1) ((hk ▸ absL_set_view hoth hv2 : _).trans (hspec _).symm)

theorem Spec_stepOk_resize {a : Spec.St} {i : Nat} {x : SH} (h : Spec.get a i = some x)
    (n : Nat) (b : Byte) (v : Val) :
    Spec.stepOk (.resize i n b) v a = a.set i (some ⟨x.kind,
      if n ≤ x.val.length then x.val.take n else x.val ++ List.replicate (n - x.val.length) b⟩) := by
  simp [Spec.stepOk, h, Spec.setAt]

theorem step_resize (cfg : Cfg) (e : Env) (i n : Nat) (b : Byte) (s : St) (hw : WFx s) :
    StepOKx cfg e (.resize i n b) s := by
  have hI := hw.inv
  refine .of_getHandle hw rfl rfl fun h hi => ?_
  have hpanic : WFx s ∧ abs s = Spec.stepPanic (.resize i n b) (abs s) := ⟨hw, rfl⟩
  cases h with
  | bytes repr reg off len => exact hpanic
  | vec reg len cap => exact hpanic
  | «mut» arc reg off len cap orig =>
    obtain ⟨v, hv, hvl⟩ := hI.view hi
    have hv : rdL s.regions reg off len = some v := hv
    have hvl : v.length = len := hvl
    subst hvl
    have hspec : ∀ x, Spec.stepOk (.resize i n b) x (abs s) = _ := fun x =>
      (congrArg _ (abs_eq s)).trans (Spec_stepOk_resize (Spec_get_absL hi hv) n b x)
    refine sat_ite (fun hn => ?_) fun hn => ?_
    · -- shrinking: `set_len`
      simp only [bind_apply, setHandle_apply, pure_apply, sat_ok, hspec, if_pos hn]
      exact finish_ok (Inv_set_sub hI (h' := .mut arc reg off n cap orig) hi (by cases arc <;> rfl)
        (by cases arc <;> rfl) (handleOKL_mut_shrink (hI.hok i _ hi) hn) trivial
        (spanSub_of_eq (by cases reg <;> rfl)) (fun h => h) _)
        (absL_set_some (rdL_take_le hv hn))
    · have hln : v.length < n := Nat.lt_of_not_le hn
      rcases mutReserve_spec hI cfg e hi (n - v.length) with hp | ⟨h', R1, C1, heq, hG⟩
      · rw [bind_apply, hp s.hs s.events]
        exact hpanic
      · obtain ⟨arc', reg', off', cap', orig', rfl, hcap⟩ := hG.shape
        obtain ⟨ev1, h1⟩ := heq s.hs s.events
        have hlen : (List.replicate (n - v.length) b).length = n - v.length := List.length_replicate
        obtain ⟨R2, hwr, hI2, hv2, hoth⟩ := grown_write hi hG hv rfl (hlen ▸ hcap)
        rw [hlen, Nat.add_sub_of_le (Nat.le_of_lt hln)] at hI2 hv2
        rw [bind_apply, h1]
        simp only [bind_apply, hwr, setHandle_apply, pure_apply, sat_ok, hspec, if_neg hn]
        exact finish_ok (hI2 ev1) (absL_set_view hoth hv2)

/-- `drop` of the `BytesMut` `h` stored in slot `i` -/
def DropSpec (s : St) (i : Nat) (h : Handle) : Prop := Dropped s i (mutDrop h)

theorem mutDrop_spec {s : St} (hI : Inv s) {i : Nat} {arc reg : Option Nat} {off len cap orig : Nat}
    (hi : s.hs[i]? = some (some (.mut arc reg off len cap orig))) :
    DropSpec s i (.mut arc reg off len cap orig) := by
  cases arc with
  | some c => exact Dropped.release hI hi rfl
  | none => exact Dropped.vec hI hi rfl (handleOKL_mutV.mp (hI.hok i _ hi)).2.2.1 rfl

theorem Spec_stepOk_unsplit {a : Spec.St} {i j : Nat} {x y : SH} (hx : Spec.get a i = some x)
    (hy : Spec.get a j = some y) (v : Val) :
    Spec.stepOk (.unsplit i j) v a = (a.set i (some ⟨x.kind, x.val ++ y.val⟩)).set j none := by
  simp [Spec.stepOk, hx, hy, Spec.setAt]

theorem Spec_stepPanic_unsplit {a : Spec.St} {i j : Nat} {x y : SH} (hij : i ≠ j)
    (hx : Spec.get a i = some x) (hy : Spec.get a j = some y) (kx : x.kind = .mut) (ky : y.kind = .mut) :
    Spec.stepPanic (.unsplit i j) a = a.set j none := by
  simp [Spec.stepPanic, hx, hy, Spec.setAt, hij, kx, ky]

theorem Spec_get_absL_inv {R : List Region} {hs : List (Option Handle)} {i : Nat} {x : SH}
    (h : Spec.get (absL R hs) i = some x) : ∃ a, hs[i]? = some (some a) ∧ x.kind = kindOf a := by
  simp only [Spec.get, absL, List.getElem?_map] at h
  cases hi : hs[i]? with
  | none => simp [hi] at h
  | some oh =>
    cases oh with
    | none => simp [hi] at h
    | some a =>
      simp [hi] at h
      obtain ⟨v, _, rfl⟩ := h
      exact ⟨a, rfl, rfl⟩

/-- every way `unsplit` is rejected before it touches the state -/
theorem unsplit_panic_id {s : St} (hw : WFx s) {i j : Nat}
    (h : i = j ∨ (∀ a, s.hs[i]? ≠ some (some a)) ∨ (∀ a, s.hs[j]? ≠ some (some a)) ∨
      (∃ a, s.hs[i]? = some (some a) ∧ kindOf a ≠ .mut) ∨
      (∃ a, s.hs[j]? = some (some a) ∧ kindOf a ≠ .mut)) :
    WFx s ∧ abs s = Spec.stepPanic (.unsplit i j) (abs s) := by
  refine ⟨hw, ?_⟩
  rw [abs_eq]
  simp only [Spec.stepPanic]
  cases hgi : Spec.get (absL s.regions s.hs) i with
  | none => rfl
  | some x =>
    cases hgj : Spec.get (absL s.regions s.hs) j with
    | none => rfl
    | some y =>
      obtain ⟨a, ha, hka⟩ := Spec_get_absL_inv hgi
      obtain ⟨b, hb, hkb⟩ := Spec_get_absL_inv hgj
      simp only
      rw [if_neg]
      rintro ⟨h1, h2, h3⟩
      rcases h with h | h | h | ⟨a', h4, h5⟩ | ⟨b', h4, h5⟩
      · exact h1 h
      · exact h a ha
      · exact h b hb
      · rw [ha] at h4; cases h4; exact h5 (hka ▸ h2)
      · rw [hb] at h4; cases h4; exact h5 (hkb ▸ h3)

/-- what is disjoint from two adjacent capacity ranges is disjoint from their union -/
theorem disjointB_mut_join {a1 a2 a3 : Option Nat} {r off l1 c1 g1 l2 c2 g2 l3 g3 : Nat} {b : Handle}
    (d1 : disjointB (.mut a1 (some r) off l1 c1 g1) b = true)
    (d2 : disjointB (.mut a2 (some r) (off + c1) l2 c2 g2) b = true) :
    disjointB (.mut a3 (some r) off l3 (c1 + c2) g3) b = true := by
  rw [disjointB_iff] at d1 d2 ⊢
  intro r1 o1 l1 r2 o2 l2 h1 h2
  simp only [span, Option.some.injEq, Prod.mk.injEq] at h1
  obtain ⟨rfl, rfl, rfl⟩ := h1
  have e1 := d1 r off c1 r2 o2 l2 rfl h2
  have e2 := d2 r (off + c1) c2 r2 o2 l2 rfl h2
  omega

/-- exclusivity: when `other` has capacity and begins where the view of `self` ends, the capacity of `self`
ends there too -/
theorem mut_adjacent_full {s : St} (hI : Inv s) {i j : Nat} (hij : i ≠ j) {arc oarc reg : Option Nat}
    {off len cap orig olen ocap oorig : Nat}
    (hi : s.hs[i]? = some (some (.mut arc reg off len cap orig)))
    (hj : s.hs[j]? = some (some (.mut oarc reg (off + len) olen ocap oorig)))
    (hoc : ocap ≠ 0) : cap = len := by
  cases reg with
  | none => exact (hoc (mut_none_cap hI hj)).elim
  | some r =>
    have hlc := mut_len_le_cap (hI.hok i _ hi)
    have hex := disjointB_iff.mp (hI.excl i j _ _ hi hj hij rfl) r off cap r (off + len) ocap rfl rfl
    omega

theorem absL_unsplit {R R' : List Region} {hs : List (Option Handle)} {i j : Nat} (hij : i ≠ j)
    {x : Handle} {kd : Kind} {v : List Byte}
    (hoth : ∀ (k : Nat) (b : Handle), k ≠ i → k ≠ j → hs[k]? = some (some b) → viewOfL R' b = viewOfL R b)
    (hk : kindOf x = kd) (hv : viewOfL R' x = some v) :
    absL R' ((hs.set j none).set i (some x)) = ((absL R hs).set i (some ⟨kd, v⟩)).set j none := by
  have hoth' : ∀ (k : Nat) (b : Handle), k ≠ i → (hs.set j none)[k]? = some (some b) →
      viewOfL R' b = viewOfL R b := by
    intro k b hki hkb
    rcases hs_set_cases hkb with ⟨_, h2, _⟩ | ⟨hkj, hkb'⟩
    · cases h2
    · exact hoth k b hki hkj hkb'
  rw [absL_set_view hoth' hv, absL_set, hk]
  exact List.set_comm _ _ (Ne.symm hij)

theorem step_unsplit (cfg : Cfg) (e : Env) (i j : Nat) (s : St) (hw : WFx s) :
    StepOKx cfg e (.unsplit i j) s := by
  have hI := hw.inv
  unfold StepOKx
  refine sat_ite (fun hij => unsplit_panic_id hw (.inl hij)) fun hij => ?_
  refine sat_getHandle (fun hn => unsplit_panic_id hw (.inr (.inl hn))) fun h hi => ?_
  refine sat_getHandle (fun hn => unsplit_panic_id hw (.inr (.inr (.inl hn)))) fun o hj => ?_
  cases h with
  | bytes repr reg off len =>
    exact unsplit_panic_id hw (.inr (.inr (.inr (.inl ⟨_, hi, nofun⟩))))
  | vec reg len cap =>
    exact unsplit_panic_id hw (.inr (.inr (.inr (.inl ⟨_, hi, nofun⟩))))
  | «mut» arc reg off len cap orig =>
    cases o with
    | bytes orepr oreg ooff olen =>
      exact unsplit_panic_id hw (.inr (.inr (.inr (.inr ⟨_, hj, nofun⟩))))
    | vec oreg olen ocap =>
      exact unsplit_panic_id hw (.inr (.inr (.inr (.inr ⟨_, hj, nofun⟩))))
    | «mut» oarc oreg ooff olen ocap oorig =>
      obtain ⟨vh, hvh, hvhl⟩ := hI.view hi
      obtain ⟨vo, hvo, hvol⟩ := hI.view hj
      have hspec : ∀ x, Spec.stepOk (.unsplit i j) x (abs s) =
          ((absL s.regions s.hs).set i (some ⟨.mut, vh ++ vo⟩)).set j none := fun x =>
        (congrArg _ (abs_eq s)).trans
          (Spec_stepOk_unsplit (Spec_get_absL hi hvh) (Spec_get_absL hj hvo) x)
      have hspecp : Spec.stepPanic (.unsplit i j) (abs s) = (absL s.regions s.hs).set j none :=
        (congrArg _ (abs_eq s)).trans
          (Spec_stepPanic_unsplit hij (Spec_get_absL hi hvh) (Spec_get_absL hj hvo) rfl rfl)
      replace hvh : rdL s.regions reg off len = some vh := hvh
      replace hvo : rdL s.regions oreg ooff olen = some vo := hvo
      replace hvhl : vh.length = len := hvhl
      replace hvol : vo.length = olen := hvol
      have hji : j ≠ i := Ne.symm hij
      have hlc : len ≤ cap := mut_len_le_cap (hI.hok i _ hi)
      have holc : olen ≤ ocap := mut_len_le_cap (hI.hok j _ hj)
      refine sat_ite (fun hl0 => ?_) fun hl0 => sat_ite (fun hoc0 => ?_) fun hoc0 => sat_ite (fun hcont => ?_)
        fun hcont => ?_
      · -- `*self = other`
        subst hl0
        obtain rfl : vh = [] := List.eq_nil_of_length_eq_zero hvhl
        obtain ⟨R', C', hd, hId, hvd⟩ := mutDrop_spec hI hi
        obtain ⟨ev, h1⟩ := hd (s.hs.set j none) s.events
        simp only [bind_apply, killHandle_apply, h1, setHandle_apply, pure_apply, sat_ok, hspec]
        have hmove := Inv_move (hId ev) hij (lookup_set_eq _ hi) ((List.getElem?_set_ne hij).trans hj) ev
        rw [List.set_comm _ _ hij, List.set_set] at hmove
        exact finish_ok hmove
          (absL_unsplit hij (fun k b hki _ hk => hvd k b hki hk) rfl ((hvd j _ hji hj).trans hvo))
      · -- `other` has no capacity: it is dropped
        subst hoc0
        obtain rfl : olen = 0 := Nat.le_zero.mp holc
        obtain rfl : vo = [] := List.eq_nil_of_length_eq_zero hvol
        have hself : (absL s.regions s.hs).set i (some ⟨.mut, vh⟩) = absL s.regions s.hs :=
          set_self (absL_lookup hi hvh)
        obtain ⟨s', h1, h2⟩ := (mutDrop_spec hI hj).at_slot s.events
        simp only [bind_apply, killHandle_apply, h1, pure_apply, sat_ok, hspec, List.append_nil, hself]
        exact h2
      · -- contiguous halves of the same shared buffer
        obtain ⟨rfl, rfl, hsome, rfl⟩ := hcont
        cases arc with
        | none => cases hsome
        | some c =>
          obtain ⟨ce, he, hl, hrc, hrc1, hb⟩ := hI.ctrl_of_handle hi (c := c) rfl
          have hne1 : ce.rc ≠ 1 := fun h1 => hji (refCountL_unique (hrc ▸ h1) hi rfl hj rfl)
          have hrel := releaseCtrl_dec (s := ⟨s.regions, s.ctrls, s.hs.set j none, s.owners, s.events⟩)
            he hl (Nat.ne_of_gt hrc1) hne1
          simp only [bind_apply, killHandle_apply, mutDrop, hrel, setHandle_apply, pure_apply, sat_ok, hspec]
          cases oreg with
          | none => exact absurd (Nat.le_zero.mp (mut_none_cap hI hi ▸ hlc)) hl0
          | some r =>
            -- exclusivity forces `cap = len` here, which is why the model's `cap + ocap` is the joined
            -- capacity (Rust: `self.cap += other.cap`)
            obtain rfl : cap = len := mut_adjacent_full hI hij hi hj hoc0
            obtain ⟨_, ⟨vlen, vcap, vorig, hlive, hcapo⟩, _⟩ := handleOKL_mutA.mp (hI.hok j _ hj)
            have hrdm := rdL_concat hvh hvo hvhl
            exact finish_ok (Inv_merge hI (h' := .mut (some c) (some r) off (cap + olen) (cap + ocap) orig)
              hij hi hj rfl he hl hne1 rfl rfl
              (handleOKL_mutA.mpr ⟨Nat.add_le_add_left holc cap,
                ⟨vlen, vcap, vorig, hlive, Nat.add_assoc off cap ocap ▸ hcapo⟩, by rw [hrdm]; rfl⟩)
              trivial rfl rfl (fun b => disjointB_mut_join) _)
              (absL_unsplit hij (fun _ _ _ _ _ => rfl) rfl hrdm)
      · -- general case: `extend_from_slice(other)`, then `other` is dropped
        simp only [bind_apply, readRange_of_rdL hvo, killHandle_apply]
        rcases mutExtend_spec hI cfg e hi vo hvh with hp | ⟨h'', R2, C2, heq, hk, hI2, hv2, hoth⟩
        · -- the extension panics (capacity overflow); `other` is dropped during unwinding
          obtain ⟨s', h2, h3⟩ := (mutDrop_spec hI hj).at_slot s.events
          simp only [hp (s.hs.set j none) s.events, h2, panic_apply, sat_panic, hspecp]
          exact h3
        · obtain ⟨ev1, h1⟩ := heq (s.hs.set j none) s.events
          have hj2 : (s.hs.set i (some h''))[j]? = some (some (.mut oarc oreg ooff olen ocap oorig)) :=
            (List.getElem?_set_ne hij).trans hj
          obtain ⟨R3, C3, hd3, hId3, hvd3⟩ := mutDrop_spec (hI2 ev1) hj2
          obtain ⟨ev3, h3⟩ := hd3 ((s.hs.set j none).set i (some h'')) ev1
          simp only [h1, setHandle_apply, h3, pure_apply, sat_ok, hspec]
          have hInv := hId3 ev3
          rw [List.set_comm _ _ hij] at hInv
          refine finish_ok hInv (absL_unsplit hij (fun k b hki hkj hkb => ?_) hk
            ((hvd3 i h'' hij (lookup_set_eq _ hi)).trans hv2))
          exact (hvd3 k b hkj ((List.getElem?_set_ne (Ne.symm hki)).trans hkb)).trans (hoth k b hki hkb)

end OpsD

theorem step_drop (cfg : Cfg) (e : Env) (i : Nat) (s : St) (hw : WFx s) :
    StepOKx cfg e (.drop i) s := by
  have hI := hw.inv
  refine .of_getHandle hw rfl rfl fun h hi => ?_
  rw [bind_apply, killHandle_apply, abs_eq s]
  simp only [Spec_stepOk_drop]
  have hok := hI.hok i h hi
  have fin : ∀ {m : M Unit}, Dropped s i m →
      ((m >>= fun _ => pure Val.unit) { s with hs := s.hs.set i none }).sat
        (fun _ s' => WFx s' ∧ abs s' = (absL s.regions s.hs).set i none)
        (fun s' => WFx s' ∧ abs s' = Spec.stepPanic (.drop i) (absL s.regions s.hs)) :=
    fun hd => sat_then_unit (hd.at_slot s.events)
  cases h with
  | bytes repr reg off len =>
    cases repr with
    | «static» => exact fin (Dropped.nothing hI hi rfl rfl)
    | owned c => exact fin (Dropped.release hI hi (c := c) rfl)
    | shared c => exact fin (Dropped.release hI hi (c := c) rfl)
    | sharedV c => exact fin (Dropped.release hI hi (c := c) rfl)
    | prom vt oc =>
      cases oc with
      | some c => exact fin (Dropped.release hI hi (c := c) rfl)
      | none =>
        obtain ⟨⟨r, rfl, hlive, hsz, hvt⟩, _⟩ := handleOKL_promV.mp hok
        obtain ⟨s', heq, hr⟩ := (Dropped.dealloc hI hi (r := r) rfl hsz.symm).at_slot s.events
        refine sat_then_unit ⟨s', ?_, hr⟩
        simp only [bytesDrop, bind_apply, promDecode_eq (s := { s with hs := s.hs.set i none }) hlive hvt, heq]
  | «mut» arc reg off len cap orig => exact fin (OpsD.mutDrop_spec hI hi)
  | vec reg len cap => exact fin (Dropped.vec hI hi rfl (handleOKL_vec.mp hok).2.1 rfl)

end BytesVerif.Core
