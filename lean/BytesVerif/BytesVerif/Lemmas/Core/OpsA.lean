/-
`StepOKx` for the constructors (`newVec`, `mutWithCapacity`, `mutFromSlice`, `mutZeroed`, `copyFromSlice`,
`fromVec`, `fromStatic`, `fromOwner`), for `clone` (at the end: a shared handle for `Bytes`, a copy for
`BytesMut` and `Vec`), for `isUnique`, and for the in-place writes `setByte` and `fillSpare`.  `fromStatic` and `fromOwner` need the size bound that every Rust slice satisfies; without
it their statements are false (`step_fromStatic_refuted`, `step_fromOwner_refuted`).
-/
import BytesVerif.Lemmas.Core.Helpers
import BytesVerif.Lemmas.Core.Drop
namespace BytesVerif.Core
namespace OpsA

theorem Spec_get_abs {s : St} {i : Nat} {h : Handle} {v : List Byte} (hi : s.hs[i]? = some (some h))
    (hv : viewOfL s.regions h = some v) : Spec.get (abs s) i = some ⟨kindOf h, v⟩ :=
  abs_eq s ▸ Spec_get_absL hi hv

theorem rdL_new_region (R : List Region) (bs : List Byte) (k : RKind) :
    rdL (R ++ [⟨bs.length, bs.map some, true, k⟩]) (some R.length) 0 bs.length = some bs := by
  apply rdL_some_of (List.getElem?_concat_length) rfl (by simp)
  show List.take bs.length (List.drop 0 (bs.map some)) = bs.map some
  rw [List.drop_zero]; exact List.take_of_length_le (by simp)

theorem disjointB_fresh_region {s : St} (hI : Inv s) {j : Nat} {b : Handle} (hj : s.hs[j]? = some (some b))
    (repr : BRepr) (off len : Nat) :
    disjointB b (.bytes repr (some s.regions.length) off len) = true := by
  rw [disjointB_iff]
  intro r o l r' o' l' h1 h2
  by_cases hl0 : l = 0
  · exact .inr (.inl hl0)
  · cases h2
    exact .inl (Nat.ne_of_lt (hI.span_lt hj h1 hl0))

/-- the pieces before, at and behind the write are read separately and put together by `rdL_concat` -/
theorem rdL_write_mid {R : List Region} {r : Nat} {rg : Region} {off len a : Nat} {bs v : List Byte}
    (hr : R[r]? = some rg) (hl : rg.live = true) (hdl : rg.data.length = rg.size)
    (hv : rdL R (some r) off len = some v) (hvl : v.length = len)
    (h2 : a + bs.length ≤ len) (hb : off + a + bs.length ≤ rg.size) :
    rdL (R.set r (rg.write (off + a) bs)) (some r) off len =
      some (v.take a ++ bs ++ v.drop (a + bs.length)) := by
  have hbd : off + a + bs.length ≤ rg.data.length := hdl ▸ hb
  have ha : a ≤ len := Nat.le_trans (Nat.le_add_right _ _) h2
  have hta : (v.take a).length = a := by rw [List.length_take, hvl, Nat.min_eq_left ha]
  have A : rdL (R.set r (rg.write (off + a) bs)) (some r) off a = some (v.take a) := by
    rw [rdL_write_other hr hbd (fun _ => .inl (Nat.le_refl _))]
    exact rdL_take_le hv ha
  have B : rdL (R.set r (rg.write (off + a) bs)) (some r) (off + a) bs.length = some bs :=
    rdL_write_same hr hl hb hdl
  have C : rdL (R.set r (rg.write (off + a) bs)) (some r) (off + (a + bs.length))
      (len - (a + bs.length)) = some (v.drop (a + bs.length)) := by
    rw [rdL_write_other hr hbd (fun _ => .inr (Nat.le_of_eq (Nat.add_assoc _ _ _)))]
    exact rdL_drop hv _
  have ABC := rdL_concat (rdL_concat A B hta) C (by rw [List.length_append, hta])
  rwa [Nat.add_sub_cancel' h2] at ABC

theorem bytesFromVec_full {R : List Region} {C : List CtrlE} {hs : List (Option Handle)} {ow : Nat}
    {ev : List Ev} {r len : Nat} (h0 : len ≠ 0) (hl : isHeapLiveL R r = true) :
    bytesFromVec (some r) len len ⟨R, C, hs, ow, ev⟩ =
      .ok (.bytes (.prom (regionOddL R r) none) (some r) 0 len) ⟨R, C, hs, ow, ev⟩ := by
  simp only [bytesFromVec, if_true, h0, if_false, bind_apply,
    regionOdd_eq (s := ⟨R, C, hs, ow, ev⟩) hl, pure_apply]

/-- the `ok` postcondition of a constructor from `Inv` of the state with the new handle appended, the
frame of the old views (the pair in which `Inv_push_fresh`, `Inv_append_region`, … conclude) and the
view of the new handle -/
theorem finish_push {s : St} {R' : List Region} {C' : List CtrlE} {ow' : Nat} {ev' : List Ev} {h' : Handle}
    {bs : List Byte}
    (hI : Inv ⟨R', C', s.hs ++ [some h'], ow', ev'⟩ ∧
      ∀ (j : Nat) (b : Handle), s.hs[j]? = some (some b) → viewOfL R' b = viewOfL s.regions b)
    (hnew : viewOfL R' h' = some bs) :
    WFx ⟨R', C', s.hs ++ [some h'], ow', ev'⟩ ∧
      abs ⟨R', C', s.hs ++ [some h'], ow', ev'⟩ = abs s ++ [some ⟨kindOf h', bs⟩] := by
  refine finish_ok hI.1 ?_
  show absL R' (s.hs ++ [some h']) = _
  rw [absL_push_of_view _ hI.2, hnew, abs_eq]; rfl

/-- the empty `Bytes` (`Bytes::new()`, STATIC_VTABLE on a dangling pointer) -/
theorem push_empty_static {s : St} (hI : Inv s) (ev : List Ev) :
    WFx ⟨s.regions, s.ctrls, s.hs ++ [some (.bytes .static none 0 0)], s.owners, ev⟩ ∧
      abs ⟨s.regions, s.ctrls, s.hs ++ [some (.bytes .static none 0 0)], s.owners, ev⟩ =
        abs s ++ [some ⟨.bytes, []⟩] :=
  finish_push ⟨Inv_push_empty hI none 0 ev, fun _ _ _ => rfl⟩ (rdL_zero _ _ _)

/-- a whole constructor: `vecNew e bs cap`, then the new `Vec` / KIND_VEC `BytesMut` `mk r` is registered
(`mk` as in `push_vec_spec`) -/
theorem push_vec_ok {s : St} (hw : WFx s) (e : Env) (bs : List Byte) (cap : Nat) (hl : bs.length ≤ cap)
    (mk : Option Nat → Handle)
    (hmk : (∀ r, mk r = .vec r bs.length cap) ∨ (∃ orig, ∀ r, mk r = .mut none r 0 bs.length cap orig))
    (k : Kind) (hk : ∀ r, kindOf (mk r) = k) :
    ((do let r ← vecNew e bs cap
         let i ← newHandle (mk r)
         pure (Val.handle i) : M Val) s).sat
      (fun _ s' => WFx s' ∧ abs s' = abs s ++ [some ⟨k, bs⟩])
      (fun s' => WFx s' ∧ abs s' = abs s) := by
  simp only [bind_apply]
  rcases push_vec_spec hw.inv e bs cap hl mk hmk with hp | ⟨r, s1, heq, hI, hhs, hview, hnew⟩
  · rw [hp]; exact ⟨hw, rfl⟩
  · obtain ⟨R1, C1, hs1, ow1, ev1⟩ := s1
    subst hhs
    simp only [heq, newHandle_apply, pure_apply, sat_ok]
    exact hk r ▸ finish_push ⟨hI _, hview⟩ hnew

theorem step_newVec (cfg : Cfg) (e : Env) (bs : List Byte) (cap : Nat) (s : St) (hw : WFx s) :
    StepOKx cfg e (.newVec bs cap) s :=
  sat_ite (fun _ => ⟨hw, rfl⟩) fun hc =>
    push_vec_ok hw e bs cap (Nat.le_of_not_lt hc) _ (.inl fun _ => rfl) .vec (fun _ => rfl)

theorem step_mutWithCapacity (cfg : Cfg) (e : Env) (cap : Nat) (s : St) (hw : WFx s) :
    StepOKx cfg e (.mutWithCapacity cap) s :=
  push_vec_ok hw e [] cap (Nat.zero_le _) (fun r => mutFromVec r 0 cap) (.inr ⟨_, fun _ => rfl⟩) .mut
    (fun _ => rfl)

theorem step_mutFromSlice (cfg : Cfg) (e : Env) (bs : List Byte) (s : St) (hw : WFx s) :
    StepOKx cfg e (.mutFromSlice bs) s :=
  push_vec_ok hw e bs bs.length (Nat.le_refl _) (fun r => mutFromVec r bs.length bs.length)
    (.inr ⟨_, fun _ => rfl⟩) .mut (fun _ => rfl)

theorem step_mutZeroed (cfg : Cfg) (e : Env) (n : Nat) (s : St) (hw : WFx s) :
    StepOKx cfg e (.mutZeroed n) s :=
  push_vec_ok hw e (List.replicate n 0) n (Nat.le_of_eq List.length_replicate) (fun r => mutFromVec r n n)
    (.inr ⟨originalCapacityToRepr n, fun _ => by rw [List.length_replicate]; rfl⟩) .mut (fun _ => rfl)

theorem step_isUnique (cfg : Cfg) (e : Env) (i : Nat) (s : St) (hw : WFx s) :
    StepOKx cfg e (.isUnique i) s := by
  refine .of_getHandle hw rfl rfl fun h hi => ?_
  cases h with
  | bytes repr reg off len =>
    obtain ⟨b, hb⟩ := bytesIsUnique_ok hw.inv hi
    simp only [bind_apply, hb, pure_apply, sat_ok]; exact ⟨hw, rfl⟩
  | «mut» arc reg off len cap orig => exact ⟨hw, rfl⟩
  | vec reg len cap => exact ⟨hw, rfl⟩

/-- A non-empty write within the capacity of the `BytesMut` in slot `i`: whatever the handle's view
reads afterwards is its new abstract value; exclusivity keeps every other handle's view. -/
theorem mut_write {s : St} (hI : Inv s) {i : Nat} {arc reg : Option Nat} {off len cap orig a : Nat}
    {bs : List Byte} (hi : s.hs[i]? = some (some (.mut arc reg off len cap orig)))
    (hne : bs ≠ []) (hb : a + bs.length ≤ cap) :
    ∃ r rg, reg = some r ∧ s.regions[r]? = some rg ∧ rg.live = true ∧ rg.data.length = rg.size ∧
      off + a + bs.length ≤ rg.size ∧
      writeRange reg (off + a) bs s = .ok () { s with regions := s.regions.set r (rg.write (off + a) bs) } ∧
      ∀ v', rdL (s.regions.set r (rg.write (off + a) bs)) reg off len = some v' →
        WFx { s with regions := s.regions.set r (rg.write (off + a) bs) } ∧
        abs { s with regions := s.regions.set r (rg.write (off + a) bs) } =
          (abs s).set i (some ⟨.mut, v'⟩) := by
  have hin : off + a + bs.length ≤ off + cap := Nat.add_assoc .. ▸ Nat.add_le_add_left hb off
  cases reg with
  | none =>
    obtain rfl : cap = 0 := mut_none_cap hI hi
    exact (hne (List.eq_nil_of_length_eq_zero (Nat.eq_zero_of_add_eq_zero_left (Nat.le_zero.mp hb)))).elim
  | some r =>
    obtain ⟨rg, kk, hr, hlive, hkind, hsz⟩ := hI.span_le_size hi rfl rfl
    have hb' := Nat.le_trans hin hsz
    refine ⟨r, rg, rfl, hr, hlive, (region_size_le hI.regs hr).2, hb',
      writeRange_eq hne hr hlive hb' hkind, fun v' hv' => ?_⟩
    have hok' : handleOKL (s.regions.set r (rg.write (off + a) bs)) s.ctrls
        (.mut arc (some r) off len cap orig) = true :=
      handleOKL_mut_relen (hI.hok i _ hi) (fun r' => metaL_set_data _ r' hr)
        (mut_len_le_cap (hI.hok i _ hi)) (by rw [hv']; rfl)
    obtain ⟨hI', hview⟩ := Inv_write_set hI (h' := .mut arc (some r) off len cap orig) hi rfl rfl hr
      ⟨Nat.le_add_right _ _, hin⟩ rfl rfl (spanSub_refl _) rfl hok' s.events
    have habs := absL_set_of_view (some (.mut arc (some r) off len cap orig)) hview
    rw [set_self hi] at hI' habs
    refine finish_ok hI' (habs.trans ?_)
    simp only [Option.bind_some, viewOfL, hreg, hoff, hlen, hv', Option.map_some, kindOf, abs_eq]

theorem Spec_stepOk_setByte {a : Spec.St} {i : Nat} {x : SH} (h : Spec.get a i = some x) (k : Nat)
    (b : Byte) (v : Val) :
    Spec.stepOk (.setByte i k b) v a = a.set i (some ⟨x.kind, x.val.set k b⟩) := by
  simp [Spec.stepOk, h, Spec.setAt]

theorem step_setByte (cfg : Cfg) (e : Env) (i k : Nat) (b : Byte) (s : St) (hw : WFx s) :
    StepOKx cfg e (.setByte i k b) s := by
  have hI := hw.inv
  refine .of_getHandle hw rfl rfl fun h hi => ?_
  have hpanic : WFx s ∧ abs s = Spec.stepPanic (.setByte i k b) (abs s) := ⟨hw, rfl⟩
  cases h with
  | bytes repr reg off len => exact hpanic
  | vec reg len cap => exact hpanic
  | «mut» arc reg off len cap orig =>
    refine sat_ite (fun _ => hpanic) fun hk => ?_
    have hkl : k < len := Nat.lt_of_not_ge hk
    have hlc := mut_len_le_cap (hI.hok i _ hi)
    obtain ⟨v, (hv : rdL s.regions reg off len = some v), (hvl : v.length = len)⟩ := hI.view hi
    obtain ⟨r, rg, rfl, hr, hlive, hdl, hb, heq, hfin⟩ :=
      mut_write hI hi (a := k) (bs := [b]) (List.cons_ne_nil _ _) (Nat.lt_of_lt_of_le hkl hlc)
    simp only [bind_apply, heq, pure_apply, sat_ok]
    rw [Spec_stepOk_setByte (Spec_get_abs hi hv)]
    refine hfin _ ((rdL_write_mid hr hlive hdl hv hvl hkl hb).trans ?_)
    rw [List.set_eq_take_append_cons_drop, if_pos (hvl ▸ hkl), List.append_assoc]; rfl

theorem step_fillSpare (cfg : Cfg) (e : Env) (i : Nat) (b : Byte) (s : St) (hw : WFx s) :
    StepOKx cfg e (.fillSpare i b) s := by
  have hI := hw.inv
  refine .of_getHandle hw rfl rfl fun h hi => ?_
  have hsame : WFx s ∧ abs s = abs s := ⟨hw, rfl⟩
  cases h with
  | bytes repr reg off len => exact hsame
  | vec reg len cap => exact hsame
  | «mut» arc reg off len cap orig =>
    simp only [bind_apply]
    by_cases h0 : cap - len = 0
    · simp only [h0, List.replicate_zero, writeRange_nil, pure_apply, sat_ok]; exact hsame
    · have hlc := mut_len_le_cap (hI.hok i _ hi)
      obtain ⟨v, (hv : rdL s.regions reg off len = some v), (hvl : v.length = len)⟩ := hI.view hi
      obtain ⟨r, rg, rfl, hr, hlive, hdl, hb, heq, hfin⟩ :=
        mut_write hI hi (a := len) (bs := List.replicate (cap - len) b)
          (mt (List.replicate_eq_nil_iff b).mp h0)
          (Nat.le_of_eq (by rw [List.length_replicate, Nat.add_sub_cancel' hlc]))
      simp only [heq, pure_apply, sat_ok]
      have hself : (abs s).set i (some ⟨.mut, v⟩) = abs s := by
        rw [abs_eq]; exact set_self (absL_lookup hi hv)
      rw [← hself]
      refine hfin v ?_
      rw [rdL_write_other hr (hdl ▸ hb) (fun _ => .inl (Nat.le_refl _))]; exact hv

theorem step_copyFromSlice (cfg : Cfg) (e : Env) (bs : List Byte) (s : St) (hw : WFx s) :
    StepOKx cfg e (.copyFromSlice bs) s := by
  have hI := hw.inv
  unfold StepOKx
  dsimp only [step]
  simp only [bind_apply]
  rcases vecNew_cases e bs bs.length s with ⟨h0, heq⟩ | ⟨_, heq⟩ | ⟨h0, h1, _⟩
  · obtain rfl : bs = [] := List.eq_nil_of_length_eq_zero h0
    simp only [List.length_nil, vecNew_zero, bytesFromVec, if_true, pure_apply, newHandle_apply, sat_ok]
    exact push_empty_static hI _
  · simp only [heq, sat_panic]; exact ⟨hw, rfl⟩
  · have hlive : isHeapLiveL (s.regions ++ [vecRegion bs bs.length (e.odd s.regions.length)])
        s.regions.length = true := by simp [isHeapLiveL_new, vecRegion]
    have hrd := rdL_vecRegion s.regions (bs := bs) (e.odd s.regions.length) (Nat.le_refl _)
    simp only [vecNew_eq e bs h0 h1 s, bytesFromVec_full h0 hlive, newHandle_apply, pure_apply, sat_ok]
    refine finish_push (Inv_push_fresh hI (vecRegion_ok _ h0 h1 (Nat.le_refl _)) rfl rfl rfl rfl ?_ ?_ _) hrd
    · intro r o l h; cases h; rfl
    · exact handleOKL_promV.mpr ⟨⟨_, rfl, hlive, by simp [regionSizeL_new, vecRegion], rfl⟩, by rw [hrd]; rfl⟩

theorem Spec_stepOk_fromVec {a : Spec.St} {i : Nat} {x : SH} (h : Spec.get a i = some x) (v : Val) :
    Spec.stepOk (.fromVec i) v a = a.set i (some ⟨.bytes, x.val⟩) := by
  simp [Spec.stepOk, h, Spec.setAt]

/-- `Bytes::from(Vec<u8>)` is `bytes_of_direct` on the whole buffer of the vector -/
theorem step_fromVec (cfg : Cfg) (e : Env) (i : Nat) (s : St) (hw : WFx s) :
    StepOKx cfg e (.fromVec i) s := by
  have hI := hw.inv
  refine .of_getHandle hw rfl rfl fun h hi => ?_
  have hpanic : WFx s ∧ abs s = Spec.stepPanic (.fromVec i) (abs s) := ⟨hw, rfl⟩
  cases h with
  | bytes repr reg off len => exact hpanic
  | «mut» arc reg off len cap orig => exact hpanic
  | vec reg len cap =>
    obtain ⟨v, (hv : rdL s.regions reg 0 len = some v), _⟩ := hI.view hi
    obtain ⟨hlc, hregc, _⟩ := handleOKL_vec.mp (hI.hok i _ hi)
    have hsub : ∀ repr, spanSub (.bytes repr reg 0 len) (.vec reg len cap) := by
      intro repr r o l h _
      cases reg with
      | none => cases h
      | some r' => cases h; exact ⟨0, cap, rfl, Nat.le_refl _, Nat.add_le_add_left hlc 0⟩
    obtain ⟨repr, s1, heq, hin⟩ := bytes_of_direct hI (reg := reg) (off := 0) (len := len) (cap := cap)
      hregc hi rfl rfl hv (Nat.le_trans (Nat.le_of_eq (Nat.zero_add _)) hlc) hsub
    rw [Nat.zero_add] at heq
    simp only [bind_apply, heq]
    exact hin.stepOK ((Spec_stepOk_fromVec (Spec_get_abs hi hv) _).trans (by rw [abs_eq]))

/-- append a region that is not heap memory (static data, memory behind an owner); nobody refers to
it yet -/
theorem Inv_append_region {s : St} (hI : Inv s) {rg : Region} (hrg : regionOKB rg = true)
    (hk : ∀ o, rg.kind ≠ .heap o) (ev : List Ev) :
    Inv ⟨s.regions ++ [rg], s.ctrls, s.hs, s.owners, ev⟩ ∧
    ∀ (j : Nat) (b : Handle), s.hs[j]? = some (some b) →
      viewOfL (s.regions ++ [rg]) b = viewOfL s.regions b := by
  refine ⟨Inv_alloc hI hrg (n := 0) ?_ (fun _ => rfl) (fun _ _ hj => hI.handle_append _ hj)
    (fun r => by rw [ite_self]; rfl) hI.excl ev, fun _ _ hj => hI.view_append _ hj⟩
  -- not heap memory: the new region needs no owner
  rw [isHeapLiveL_new]
  cases hkk : rg.kind with
  | heap o => exact (hk o hkk).elim
  | _ => rw [Bool.and_false]; rfl

/-- `Bytes::from_owner`: a fresh owner `s.owners`, a fresh `owned` control block with count 1 and the
handle naming it -/
theorem Inv_push_owned {s : St} (hI : Inv s) {reg : Option Nat} {off len : Nat}
    (ok : handleOKL s.regions (s.ctrls ++ [⟨.owned s.owners, 1, true⟩])
      (.bytes (.owned s.ctrls.length) reg off len) = true)
    (hex : ∀ (j : Nat) (b : Handle), s.hs[j]? = some (some b) → isMutable b = true →
      disjointB b (.bytes (.owned s.ctrls.length) reg off len) = true) (ev : List Ev) :
    Inv ⟨s.regions, s.ctrls ++ [⟨.owned s.owners, 1, true⟩],
      s.hs ++ [some (.bytes (.owned s.ctrls.length) reg off len)], s.owners + 1, ev⟩ := by
  refine ⟨hI.regs, forall_live_push (fun j b hj => ?_) ok, ?_, ?_, ?_, ?_, ?_⟩
  · exact List.append_nil s.regions ▸ handleOKL_append [] [⟨.owned s.owners, 1, true⟩] (hI.hok j b hj)
  · intro c e' he hl
    have hc : ctrlOf (.bytes (.owned s.ctrls.length) reg off len) = some s.ctrls.length := rfl
    rw [refCountL_push, hc]
    rcases lookup_push_cases he with ⟨rfl, rfl⟩ | ⟨hcl, he'⟩
    · rw [hI.ref_fresh (Nat.le_refl _), if_pos rfl]
      exact ⟨rfl, Nat.le_refl _, Nat.lt_succ_self _⟩
    · obtain ⟨h1, h2, h3⟩ := hI.cok c e' he' hl
      rw [if_neg fun h => Nat.ne_of_lt hcl (Option.some.inj h).symm]
      exact ⟨h1, h2, ctrlBufOK_owners h3 (Nat.le_succ _)⟩
  · intro r hr
    -- neither the new handle nor the new block owns a region
    rw [dirCountL_push, ctrlCountL_push]
    exact hI.own r hr
  · exact Excl_push hI.excl fun j b hj => ⟨hex j b hj, fun hm => (Bool.false_ne_true hm).elim⟩
  · exact stat_of_statOK (forall_live_push (fun _ _ hj => hI.statOK hj) trivial)
  · -- an old block names an owner `< s.owners`, the new one names `s.owners`
    have key : ∀ c o, liveCtrlL (s.ctrls ++ [⟨.owned s.owners, 1, true⟩]) c = some (.owned o) →
        (liveCtrlL s.ctrls c = some (.owned o) ∧ o < s.owners) ∨ (c = s.ctrls.length ∧ o = s.owners) := by
      intro c o hc
      obtain ⟨e, he, hl, hec⟩ := liveCtrlL_some_iff.mp hc
      rcases lookup_push_cases he with ⟨rfl, rfl⟩ | ⟨_, he'⟩
      · exact .inr ⟨rfl, (Ctrl.owned.inj hec).symm⟩
      · have hc' := liveCtrlL_some_iff.mpr ⟨e, he', hl, hec⟩
        obtain ⟨_, _, _, _, _, _, hb⟩ := hI.cok' hc'
        exact .inl ⟨hc', hb⟩
    intro c1 c2 o h1 h2
    rcases key c1 o h1 with ⟨a1, b1⟩ | ⟨a1, b1⟩
    · rcases key c2 o h2 with ⟨a2, _⟩ | ⟨_, b2⟩
      · exact hI.odist c1 c2 o a1 a2
      · exact (Nat.ne_of_lt b1 b2).elim
    · rcases key c2 o h2 with ⟨_, b2⟩ | ⟨a2, _⟩
      · exact (Nat.ne_of_lt b2 b1).elim
      · rw [a1, a2]

theorem Inv_pop_none {R : List Region} {C : List CtrlE} {hs : List (Option Handle)} {ow : Nat}
    {ev : List Ev} (hI : Inv ⟨R, C, hs ++ [none], ow, ev⟩) (ev' : List Ev) :
    Inv ⟨R, C, hs, ow, ev'⟩ := by
  have hlk : ∀ {j : Nat} {b : Handle}, hs[j]? = some (some b) → (hs ++ [none])[j]? = some (some b) :=
    fun hj => lookup_append_of_some _ hj
  have hlive : liveHs (hs ++ [none]) = liveHs hs := by simp [liveHs, List.filterMap_append]
  have hrc : ∀ c, refCountL (hs ++ [none]) c = refCountL hs c := fun c => by rw [refCountL, hlive]; rfl
  have hdc : ∀ r, dirCountL (hs ++ [none]) r = dirCountL hs r := fun r => by rw [dirCountL, hlive]; rfl
  exact ⟨hI.regs, fun j b hj => hI.hok j b (hlk hj), fun c e he hl => hrc c ▸ hI.cok c e he hl,
    fun r hr => hdc r ▸ hI.own r hr, fun j k a b hj hk => hI.excl j k a b (hlk hj) (hlk hk),
    fun j r off len hj => hI.stat j r off len (hlk hj), hI.odist⟩

/-! `regionOKB` bounds the size of *every* region by `isizeMax`, and `step (.fromStatic bs)` (like
`step (.fromOwner bs _)`) appends a region of size `bs.length` unconditionally: the statement needs
`bs.length ≤ isizeMax` (true of every Rust slice).  Without it it is false, see `fromStatic_false` /
`step_fromStatic_refuted` below. -/

theorem Inv_push_static {s : St} (hI : Inv s) {bs : List Byte} (hbs : bs.length ≤ isizeMax) (ev : List Ev) :
    Inv ⟨s.regions ++ [⟨bs.length, bs.map some, true, .static⟩], s.ctrls,
      s.hs ++ [some (.bytes .static (some s.regions.length) 0 bs.length)], s.owners, ev⟩ ∧
    ∀ (j : Nat) (b : Handle), s.hs[j]? = some (some b) →
      viewOfL (s.regions ++ [⟨bs.length, bs.map some, true, .static⟩]) b = viewOfL s.regions b := by
  obtain ⟨hI1, hview⟩ := Inv_append_region hI (rg := ⟨bs.length, bs.map some, true, .static⟩)
    (by simp [regionOKB, hbs]) (fun o h => RKind.noConfusion h) ev
  refine ⟨Inv_push_plain hI1 (h' := .bytes .static (some s.regions.length) 0 bs.length) rfl rfl
    (handleOKL_static.mpr (by rw [rdL_new_region]; rfl)) (fun _ => kindL_new _ _) ?_ ev, hview⟩
  intro j b hj
  have key := disjointB_fresh_region hI hj .static 0 bs.length
  exact ⟨fun _ => key, fun _ => by rw [disjointB_symm]; exact key⟩

theorem step_fromStatic (cfg : Cfg) (e : Env) (bs : List Byte) (hbs : bs.length ≤ isizeMax) (s : St)
    (hw : WFx s) : StepOKx cfg e (.fromStatic bs) s := by
  have hI := hw.inv
  unfold StepOKx
  dsimp only [step]
  by_cases hb : bs = []
  · subst hb
    simp only [if_true, bind_apply, newHandle_apply, pure_apply, sat_ok, List.length_nil]
    exact push_empty_static hI _
  · simp only [hb, if_false, bind_apply, newHandle_apply, pure_apply, sat_ok]
    exact finish_push (Inv_push_static hI hbs _) (rdL_new_region _ _ _)

theorem not_WFx_of_big {bs : List Byte} (hbig : isizeMax < bs.length) {R : List Region} {k : RKind}
    {C : List CtrlE} {hs : List (Option Handle)} {ow : Nat} {ev : List Ev}
    (h : WFx ⟨R ++ [⟨bs.length, bs.map some, true, k⟩], C, hs, ow, ev⟩) : False :=
  Nat.not_le_of_lt hbig (region_size_le h.inv.regs (List.getElem?_concat_length)).1

/-- without the size bound the operation breaks W1 -/
theorem fromStatic_false (cfg : Cfg) (e : Env) (bs : List Byte) (hbig : isizeMax < bs.length) (s : St) :
    ¬ StepOKx cfg e (.fromStatic bs) s := by
  intro h
  have hne : bs ≠ [] := by rintro rfl; exact Nat.not_lt_zero _ hbig
  unfold StepOKx at h
  dsimp only [step] at h
  simp only [hne, if_false, bind_apply, newHandle_apply, pure_apply, sat_ok] at h
  exact not_WFx_of_big hbig h.1

theorem step_fromStatic_refuted (cfg : Cfg) (e : Env) :
    ¬ ∀ (bs : List Byte) (s : St), WFx s → StepOKx cfg e (.fromStatic bs) s := by
  intro h
  exact fromStatic_false cfg e (List.replicate (isizeMax + 1) 0) (by simp) {} (h _ _ WFx_init)

theorem step_fromOwner (cfg : Cfg) (e : Env) (bs : List Byte) (asRefPanics : Bool)
    (hbs : bs.length ≤ isizeMax) (s : St) (hw : WFx s) :
    StepOKx cfg e (.fromOwner bs asRefPanics) s := by
  have hI := hw.inv
  unfold StepOKx
  dsimp only [step]
  simp only [bind_apply, get_apply, modify_apply, newCtrl_apply, emit_apply]
  have hlc : liveCtrlL (s.ctrls ++ [⟨.owned s.owners, 1, true⟩]) s.ctrls.length =
      some (.owned s.owners) := liveCtrlL_new _ _
  -- the empty handle `ret` that exists while `as_ref` runs
  have hbase : ∀ ev, Inv ⟨s.regions, s.ctrls ++ [⟨.owned s.owners, 1, true⟩],
      s.hs ++ [some (.bytes (.owned s.ctrls.length) none 0 0)], s.owners + 1, ev⟩ := fun ev =>
    Inv_push_owned hI (handleOKL_owned.mpr ⟨⟨_, hlc, .inl rfl⟩, by rw [rdL_zero]; rfl⟩)
      (fun j b hj _ => disjointB_of_span_none_right rfl) ev
  refine sat_ite (fun _ => ?_) fun _ => ?_
  · -- unwinding drops `ret`, the last reference to the new block
    obtain ⟨R', C', hd, hId, hvd⟩ := Dropped.release (hbase s.events) (List.getElem?_concat_length) rfl
    obtain ⟨ev, heq⟩ := hd s.hs (.ownerAsRef s.owners :: .allocCtrl s.ctrls.length :: s.events)
    simp only [bind_apply, heq, panic_apply, sat_panic]
    have hI2 := hId ev
    rw [list_set_append_length] at hI2
    exact finish_ok (Inv_pop_none hI2 ev) ((absL_congr fun j a hj =>
      hvd j a (Nat.ne_of_lt (lookup_lt hj)) (lookup_append_of_some _ hj)).trans (abs_eq s).symm)
  · simp only [bind_apply, get_apply]
    refine sat_ite (fun hb => ?_) fun _ => ?_
    · subst hb
      simp only [bind_apply, newHandle_apply, pure_apply, sat_ok]
      exact finish_push ⟨hbase _, fun _ _ _ => rfl⟩ (rdL_zero _ _ _)
    · simp only [bind_apply, modify_apply, newHandle_apply, pure_apply, sat_ok]
      obtain ⟨hI1, hview⟩ := Inv_append_region hI (rg := ⟨bs.length, bs.map some, true, .ownerMem s.owners⟩)
        (by simp [regionOKB, hbs]) (fun o h => RKind.noConfusion h) s.events
      have hrd := rdL_new_region s.regions bs (.ownerMem s.owners)
      refine finish_push ⟨Inv_push_owned hI1 ?_ (fun j b hj _ => disjointB_fresh_region hI hj _ _ _) _,
        hview⟩ hrd
      exact handleOKL_owned.mpr ⟨⟨_, hlc, .inr ⟨_, rfl, kindL_new _ _⟩⟩, by rw [hrd]; rfl⟩

theorem fromOwner_false (cfg : Cfg) (e : Env) (bs : List Byte) (hbig : isizeMax < bs.length) (s : St) :
    ¬ StepOKx cfg e (.fromOwner bs false) s := by
  intro h
  have hne : bs ≠ [] := by rintro rfl; exact Nat.not_lt_zero _ hbig
  unfold StepOKx at h
  dsimp only [step] at h
  simp only [hne, if_false, bind_apply, newHandle_apply, pure_apply, sat_ok, get_apply, modify_apply,
    newCtrl_apply, emit_apply, Bool.false_eq_true] at h
  exact not_WFx_of_big hbig h.1

theorem step_fromOwner_refuted (cfg : Cfg) (e : Env) :
    ¬ ∀ (bs : List Byte) (p : Bool) (s : St), WFx s → StepOKx cfg e (.fromOwner bs p) s := by
  intro h
  exact fromOwner_false cfg e (List.replicate (isizeMax + 1) 0) (by simp) {} (h _ _ _ WFx_init)

end OpsA

theorem Spec_stepOk_clone {a : Spec.St} {i : Nat} {x : SH} (h : Spec.get a i = some x) (v : Val) :
    Spec.stepOk (.clone i) v a = a ++ [some x] := by
  simp [Spec.stepOk, h]

theorem step_clone (cfg : Cfg) (e : Env) (i : Nat) (s : St) (hw : WFx s) :
    StepOKx cfg e (.clone i) s := by
  have hI := hw.inv
  refine .of_getHandle hw rfl rfl fun h hi => ?_
  obtain ⟨v, hv, hvl, hrd⟩ := readRange_view hI hi
  simp only [Spec_stepOk_clone (OpsA.Spec_get_abs hi hv)]
  cases h with
  | bytes repr reg off len =>
    obtain ⟨repr', crepr, C', ev, heq, hk⟩ := bytesClone_spec hI hi
    simp only [bind_apply, heq, newHandle_apply, pure_apply, sat_ok]
    refine finish_ok (hk off len off len _ (BSub.refl _ _) (BSub.refl _ _)) ?_
    rw [absL_set_push (h1 := .bytes repr' reg off len) (h2 := .bytes crepr reg off len) hv hv, abs_eq]
    exact congrArg (· ++ _) (set_self (absL_lookup (h := .bytes repr reg off len) hi hv))
  | «mut» arc reg off len cap orig =>
    -- `BytesMut::from(&self[..])`: a fresh KIND_VEC handle of exact size
    obtain rfl : v.length = len := hvl
    simp only [bind_apply, show readRange reg off v.length s = .ok v s from hrd]
    exact OpsA.push_vec_ok hw e v _ (Nat.le_refl _) _ (.inr ⟨_, fun _ => rfl⟩) .mut (fun _ => rfl)
  | vec reg len cap =>
    obtain rfl : v.length = len := hvl
    simp only [bind_apply, show readRange reg 0 v.length s = .ok v s from hrd]
    exact OpsA.push_vec_ok hw e v _ (Nat.le_refl _) _ (.inl fun _ => rfl) .vec (fun _ => rfl)

end BytesVerif.Core
