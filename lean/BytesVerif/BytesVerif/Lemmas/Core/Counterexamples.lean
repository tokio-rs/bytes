/-
`WF` (CoreWF.lean) is not inductive, which is why the proofs work with `WFx` (Inv.lean): two concrete
states satisfy `wfB`, and `Op.drop` on them does not return normally to a state satisfying `wfB`.  Both
states violate X1 resp. X2 of `WFx`, so they are unreachable and no findings about the crate.  Checked by
kernel evaluation (`decide`).
-/
import BytesVerif.Model.CoreWF
namespace BytesVerif.Core.Cex

def cfg : Cfg := ⟨true, true⟩
def env : Env := ⟨fun _ => false⟩

/-- does the step return normally to a state satisfying `wfB`? -/
def okWF (op : Op) (s : St) : Bool :=
  match step cfg env op s with
  | .ok _ s' => wfB s'
  | _ => false

/-- X1 violated: a non-empty STATIC handle (slot 1) aliases the heap buffer owned by the promotable
handle in slot 0. -/
def aliasStatic : St :=
  { regions := [⟨1, [some 7], true, .heap false⟩]
    hs := [some (.bytes (.prom false none) (some 0) 0 1), some (.bytes .static (some 0) 0 1)] }

example : wfB aliasStatic = true := by decide
/-- dropping slot 0 frees the buffer; slot 1 now reads freed memory -/
example : okWF (.drop 0) aliasStatic = false := by decide

/-- X2 violated: two live `Owned` control blocks for the same owner id 0. -/
def twoOwners : St :=
  { regions := [⟨1, [some 7], true, .ownerMem 0⟩]
    ctrls := [⟨.owned 0, 1, true⟩, ⟨.owned 0, 1, true⟩]
    hs := [some (.bytes (.owned 0) (some 0) 0 1), some (.bytes (.owned 1) (some 0) 0 1)]
    owners := 1 }

example : wfB twoOwners = true := by decide
/-- dropping slot 0 drops owner 0 and with it the memory slot 1 still points to -/
example : okWF (.drop 0) twoOwners = false := by decide

end BytesVerif.Core.Cex
