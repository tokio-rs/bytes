/-
`StepOKx` for the conversions `Op.freeze`, `Op.intoVec`, `Op.intoMut`, `Op.tryIntoMut`.

A conversion computes the new handle first and stores it last, so every path is stated as `Installs`
(Helpers.lean) of the handle it returns.  `into_vec` and `into_mut` go the same ways: copy out of a handle
that owns nothing or shares a block (`into_mut` then applies `from_vec`); reuse in place the buffer the slot
owns directly; and, for the sole holder of a control block, let the block hand its buffer over and go on in
place.  `try_into_mut` is `into_mut` guarded by `is_unique`; `freeze` of a KIND_VEC `BytesMut` is
`Bytes::from(Vec)`.
-/
import BytesVerif.Lemmas.Core.Helpers
import BytesVerif.Lemmas.Core.Drop
namespace BytesVerif.Core
namespace OpsC

theorem Spec_stepOk_freeze {a : Spec.St} {i : Nat} {x : SH} (h : Spec.get a i = some x) (v : Val) :
    Spec.stepOk (.freeze i) v a = a.set i (some ⟨.bytes, x.val⟩) := by
  delta Spec.stepOk
  simp only [h, Spec.setAt]

theorem Spec_stepOk_intoVec {a : Spec.St} {i : Nat} {x : SH} (h : Spec.get a i = some x) (v : Val) :
    Spec.stepOk (.intoVec i) v a = a.set i (some ⟨.vec, x.val⟩) := by
  delta Spec.stepOk
  simp only [h, Spec.setAt]

theorem Spec_stepOk_intoMut {a : Spec.St} {i : Nat} {x : SH} (h : Spec.get a i = some x) (v : Val) :
    Spec.stepOk (.intoMut i) v a = a.set i (some ⟨.mut, x.val⟩) := by
  delta Spec.stepOk
  simp only [h, Spec.setAt]

theorem Spec_stepOk_tryIntoMut_handle {a : Spec.St} {i : Nat} {x : SH} (h : Spec.get a i = some x)
    (j : Nat) : Spec.stepOk (.tryIntoMut i) (.handle j) a = a.set i (some ⟨.mut, x.val⟩) := by
  delta Spec.stepOk
  simp only [h, Spec.setAt]

theorem Spec_stepOk_tryIntoMut_err (a : Spec.St) (i j : Nat) :
    Spec.stepOk (.tryIntoMut i) (.err j) a = a := rfl

theorem spanSub_bytes_of_mut {repr : BRepr} {arc reg : Option Nat} {off len cap orig o l : Nat}
    (h1 : off ≤ o) (h2 : o + l ≤ off + cap) :
    spanSub (.bytes repr reg o l) (.mut arc reg off len cap orig) := by
  intro r o' l' h hl
  cases reg with
  | none => cases h
  | some r' => cases h; exact ⟨off, cap, rfl, h1, h2⟩

theorem takeSharedB_eq {s : St} {c : Nat} {e : CtrlE} {r cap : Nat} (hc : s.ctrls[c]? = some e)
    (hl : e.live = true) (hct : e.c = .sharedB r cap) :
    takeSharedB c s = .ok (r, cap)
      { s with ctrls := s.ctrls.set c ⟨.sharedB r cap, 0, false⟩,
               events := .deallocCtrl c :: s.events } := by
  obtain ⟨ct, rc, live⟩ := e
  simp only at hl hct; subst hl hct
  have hc' : (s.ctrls.set c ⟨.sharedB r cap, 0, true⟩)[c]? = some ⟨.sharedB r cap, 0, true⟩ :=
    lookup_set_eq _ hc
  simp only [takeSharedB, bind_apply, getCtrl_eq hc rfl, setCtrl_apply, pure_apply]
  rw [freeCtrl_eq (c := c) (e := ⟨.sharedB r cap, 0, true⟩) hc' rfl]
  simp only [List.set_set]

/-- `ctrlBufOK` states the size equation the other way round than `handleOKL_vec` and `handleOKL_mutV` do -/
theorem bufOK_of_sharedV {R : List Region} {ow : Nat} {reg : Option Nat} {vlen vcap orig : Nat} :
    ctrlBufOK R ow (.sharedV reg vlen vcap orig) →
    match reg with
    | none => vcap = 0
    | some r => isHeapLiveL R r = true ∧ vcap = regionSizeL R r := by
  cases reg with
  | none => exact id
  | some r => exact fun h => ⟨h.1, h.2.symm⟩

/-- one owner of a region moves from the control blocks (`c`, `c'`) to the direct owners (`d`, `d'`) -/
theorem count_transfer {d d' c c' x n : Nat} (hd : d' = d + x) (hc : c' + x = c) (h : d + c = n) :
    d' + c' = n := by
  rw [hd, Nat.add_assoc, Nat.add_comm x, hc, h]

/-- "demote", the mirror image of `Inv_promote`: slot `i` holds the only reference to control block `c`,
which is freed (`e'` is what is left of it) and hands its buffer `(reg, cap)` over; the slot now stands for
the empty `Vec` on that buffer (`takeSharedB`, `shared_v_to_vec`, `From<BytesMut> for Vec<u8>`) -/
theorem Inv_demote_vec {s : St} (hI : Inv s) {i : Nat} {h : Handle} {c : Nat} {e e' : CtrlE}
    {reg : Option Nat} {cap : Nat}
    (hbuf : match reg with
      | none => cap = 0
      | some r => isHeapLiveL s.regions r = true ∧ cap = regionSizeL s.regions r)
    (hi : s.hs[i]? = some (some h)) (hc : ctrlOf h = some c) (he : s.ctrls[c]? = some e)
    (hl : e.live = true) (h1 : e.rc = 1) (hdead : e'.live = false) (hreg : ctrlRegion e.c = reg)
    (ev : List Ev) :
    Inv ⟨s.regions, s.ctrls.set c e', s.hs.set i (some (.vec reg 0 cap)), s.owners, ev⟩ := by
  obtain ⟨hrc, _, _⟩ := hI.cok c e he hl
  have hrc1 : refCountL s.hs c = 1 := hrc.symm.trans h1
  have hother : ∀ (j : Nat) (b : Handle), j ≠ i → s.hs[j]? = some (some b) → ctrlOf b ≠ some c :=
    fun j b hji hj hcb => hji (refCountL_unique hrc1 hi hc hj hcb)
  have hdn : directRegion h = none := ctrlOf_some_direct_none hc
  have hc' : ctrlOf (Handle.vec reg 0 cap) = none := rfl
  have hd' : directRegion (Handle.vec reg 0 cap) = ctrlRegion e.c := hreg.symm
  have hsp : ∀ r o l, span (Handle.vec reg 0 cap) = some (r, o, l) → l ≠ 0 → ctrlRegion e.c = some r := by
    intro r o l hs _
    cases reg with
    | none => cases hs
    | some r' => cases hs; exact hreg
  refine (Inv_sole_gen hI (MetaEq.refl hI.regs (fun r => ctrlRegion e.c = some r))
    (fun r hp j b hji hj => hI.alone_ctrl hi hc he hl h1 hp hji hj) ?_ ?_ ?_ ?_
    (handleOKL_vec.mpr ⟨Nat.zero_le _, hbuf, by rw [rdL_zero]; rfl⟩) trivial hsp ev).1
  · intro j b hji hj c2 hc2
    exact liveCtrlL_set_ne _ (fun h => hother j b hji hj (h ▸ hc2))
  · intro c2 e2 he2 hl2
    by_cases hcc : c = c2
    · subst hcc; rw [lookup_set_eq _ he] at he2; cases he2; rw [hdead] at hl2; cases hl2
    · rw [List.getElem?_set_ne hcc] at he2
      obtain ⟨k1, k2, k3⟩ := hI.cok c2 e2 he2 hl2
      have hk := refCountL_set_some (Handle.vec reg 0 cap) c2 hi
      have : ctrlOf h ≠ some c2 := fun h2 => hcc (Option.some.inj (hc.symm.trans h2))
      simp only [this, if_false, hc', reduceCtorEq, Nat.add_zero] at hk
      exact ⟨by rw [hk]; exact k1, k2, k3⟩
  · -- the buffer's one owner used to be the block and is now the slot
    intro r hr
    have hk := dirCountL_set_some (Handle.vec reg 0 cap) r hi
    have hcs := ctrlCountL_set e' r he
    have ho := hI.own r hr
    simp only [hdn, reduceCtorEq, if_false, Nat.add_zero, hd'] at hk
    simp only [hl, hdead, Bool.true_and, Bool.false_and, Bool.false_eq_true, if_false, Nat.add_zero,
      beq_iff_eq] at hcs
    exact count_transfer hk hcs ho
  · intro c2 ct hct
    by_cases hcc : c = c2
    · subst hcc; rw [liveCtrlL_set_eq _ he, hdead] at hct; cases hct
    · rwa [liveCtrlL_set_ne _ hcc] at hct

/-- `copyWithin reg off 0 len` on the buffer `(reg, cap)` that slot `i` owns directly (`h` is what the slot
stands for): the slot becomes the `Vec` made of the whole buffer -/
theorem vec_of_direct {s : St} {i : Nat} {h : Handle} {reg : Option Nat} {len cap : Nat}
    (hbuf : match reg with
      | none => cap = 0
      | some r => isHeapLiveL s.regions r = true ∧ cap = regionSizeL s.regions r)
    (hI : Inv { s with hs := s.hs.set i (some h) }) (hlt : i < s.hs.length)
    (hc : ctrlOf h = none) (hd : directRegion h = reg) {off : Nat} {v : List Byte}
    (hv : rdL s.regions reg off len = some v) (hlc : len ≤ cap) :
    ∃ s1, copyWithin reg off 0 len s = .ok () s1 ∧
      Installs s.regions s.hs i .vec v (.vec reg len cap) s1 := by
  cases reg with
  | none =>
    subst hbuf
    have hl0 : len = 0 := Nat.le_zero.mp hlc
    subst hl0
    rw [rdL_zero] at hv
    cases hv
    exact ⟨s, copyWithin_zero _ _ _ _,
      Installs.of_sole hI hlt (MetaEq.refl hI.regs (fun _ => False)) (fun _ hp => hp.elim)
        (by rw [hc]; rfl) (by rw [hd]; rfl) (handleOKL_vec.mpr ⟨Nat.le_refl _, rfl, rfl⟩) trivial
        (fun _ _ _ hs _ => by cases hs) (rdL_zero _ _ _)⟩
  | some r =>
    simp only at hbuf
    obtain ⟨R', heq, hM, hrd⟩ := copyWithin_front hI.regs hbuf.1 hv
    refine ⟨_, heq s rfl, Installs.of_sole hI hlt hM
      (fun r' hp j b hji hj => hp ▸ hI.alone_direct (List.getElem?_set_self hlt) hd hji hj)
      (by rw [hc]; rfl) (by rw [hd]; rfl)
      ((handleOKL_vec (reg := some r)).mpr ⟨hlc, ⟨?_, ?_⟩, by rw [hrd]; rfl⟩) trivial
      (fun r' o l hs _ => by cases hs; rfl) hrd⟩
    · rw [isHeapLiveL_of_meta (hM.mt r)]; exact hbuf.1
    · rw [regionSizeL_of_meta (hM.mt r)]; exact hbuf.2

/-- `shared_v_to_vec` / `From<BytesMut> for Vec<u8>` (KIND_ARC), unique branch: the vector is taken out
of the control block (`mem::replace(&mut shared.vec, Vec::new())`), the block is released, the view is
moved to the front -/
theorem vec_of_sharedV {s : St} (hI : Inv s) {i : Nat} {h : Handle} {c : Nat} {e : CtrlE}
    {reg : Option Nat} {vlen vcap orig : Nat} (hi : s.hs[i]? = some (some h)) (hc : ctrlOf h = some c)
    (he : s.ctrls[c]? = some e) (hl : e.live = true) (h1 : e.rc = 1)
    (hct : e.c = .sharedV reg vlen vcap orig) {off len : Nat} {v : List Byte}
    (hv : rdL s.regions reg off len = some v) (hb : off + len ≤ vcap) :
    ∃ s1 s2,
      releaseCtrl c { s with ctrls := s.ctrls.set c { e with c := .sharedV none 0 0 orig } } = .ok () s1 ∧
      copyWithin reg off 0 len s1 = .ok () s2 ∧
      Installs s.regions s.hs i .vec v (.vec reg len vcap) s2 := by
  obtain ⟨_, _, hbuf⟩ := hI.cok c e he hl
  rw [hct] at hbuf
  have hbuf' := bufOK_of_sharedV hbuf
  obtain ⟨ev, hrel⟩ := releaseCtrl_last
    (s := { s with ctrls := s.ctrls.set c { e with c := .sharedV none 0 0 orig } })
    (e := { e with c := .sharedV none 0 0 orig }) (lookup_set_eq _ he) hl h1
    (show (0 : Nat) = 0 from rfl) hI.regs
  simp only [freeBuf, List.set_set] at hrel
  have hD := Inv_demote_vec hI (reg := reg) (cap := vcap) hbuf' hi hc he hl h1
    (e' := ⟨.sharedV none 0 0 orig, 0, false⟩) rfl (by rw [hct]; rfl) ev
  obtain ⟨s2, hcw, hinst⟩ := vec_of_direct
    (s := { s with ctrls := s.ctrls.set c ⟨.sharedV none 0 0 orig, 0, false⟩, events := ev })
    (reg := reg) (cap := vcap) hbuf' hD (lookup_lt hi) rfl rfl hv
    (Nat.le_trans (Nat.le_add_left len off) hb)
  exact ⟨_, s2, hrel, hcw, hinst⟩

theorem toVecCopy_cases (e : Env) {s : St} {reg : Option Nat} {off len : Nat} {v : List Byte}
    (hv : rdL s.regions reg off len = some v) :
    (len = 0 ∧ toVecCopy e reg off len s = .ok (.vec none len len) s) ∨
    (toVecCopy e reg off len s = .panic s) ∨
    (len ≠ 0 ∧ len ≤ isizeMax ∧
      toVecCopy e reg off len s = .ok (.vec (some s.regions.length) len len)
        ⟨s.regions ++ [vecRegion v len (e.odd s.regions.length)], s.ctrls, s.hs, s.owners,
          .alloc s.regions.length len :: s.events⟩) := by
  simp only [toVecCopy, bind_apply, readRange_of_rdL hv]
  rcases vecNew_cases e v len s with ⟨h0, heq⟩ | ⟨_, heq⟩ | ⟨h0, h1, _⟩
  · exact .inl ⟨h0, by simp only [heq, pure_apply]⟩
  · exact .inr (.inl (by simp only [heq]))
  · exact .inr (.inr ⟨h0, h1, by simp only [vecNew_eq e v h0 h1 s, pure_apply]⟩)

theorem fill_empty {s : St} {i : Nat} {h : Handle} (hi : s.hs[i]? = some (some h))
    {RK : List Region} {CK : List CtrlE} (hK : ∀ ev, Inv ⟨RK, CK, s.hs.set i none, s.owners, ev⟩)
    (hviewK : ∀ (j : Nat) (b : Handle), j ≠ i → s.hs[j]? = some (some b) →
      viewOfL RK b = viewOfL s.regions b)
    {bs : List Byte} {len : Nat} (hbl : bs.length = len) (h0 : len = 0) (ev : List Ev) :
    Installs s.regions s.hs i .vec bs (.vec none len len) ⟨RK, CK, s.hs, s.owners, ev⟩ := by
  subst hbl
  cases List.eq_nil_of_length_eq_zero h0
  have hF := Inv_fill_plain (hK ev) (h' := .vec none 0 0) (lookup_set_eq _ hi) rfl rfl
    (handleOKL_vec.mpr ⟨Nat.le_refl _, rfl, rfl⟩) trivial (fun _ _ _ hs => by cases hs) ev
  simp only [List.set_set] at hF
  exact ⟨hF, rfl, rfl, rdL_zero _ _ _, hviewK⟩

theorem fill_fresh {s : St} {i : Nat} {h : Handle} (hi : s.hs[i]? = some (some h))
    {RK : List Region} {CK : List CtrlE} (hK : ∀ ev, Inv ⟨RK, CK, s.hs.set i none, s.owners, ev⟩)
    (hviewK : ∀ (j : Nat) (b : Handle), j ≠ i → s.hs[j]? = some (some b) →
      viewOfL RK b = viewOfL s.regions b)
    (odd : Bool) {bs : List Byte} {len : Nat} (hbl : bs.length = len) (h0 : len ≠ 0) (h1 : len ≤ isizeMax)
    (ev : List Ev) :
    Installs s.regions s.hs i .vec bs (.vec (some RK.length) len len)
      ⟨RK ++ [vecRegion bs len odd], CK, s.hs, s.owners, ev⟩ := by
  subst hbl
  obtain ⟨hF, hviewF⟩ := Inv_fill_fresh (hK ev) (h' := .vec (some RK.length) bs.length bs.length)
    (lookup_set_eq _ hi) (vecRegion_ok odd h0 h1 (Nat.le_refl _)) rfl rfl rfl rfl
    (fun _ _ _ hs => by cases hs; rfl) (handleOKL_fresh_vec _ _ _ (Nat.le_refl _)) ev
  simp only [List.set_set] at hF
  exact ⟨hF, rfl, rfl, rdL_vecRegion RK odd (Nat.le_refl _), fun j b hji hj =>
    (hviewF j b ((List.getElem?_set_ne (Ne.symm hji)).trans hj)).trans (hviewK j b hji hj)⟩

/-- `static_to_vec`, and what `static_to_mut` starts with -/
theorem copyOut_plain {s : St} (hI : Inv s) (e : Env) {i : Nat} {h : Handle}
    (hi : s.hs[i]? = some (some h)) (hc : ctrlOf h = none) (hd : directRegion h = none)
    {v : List Byte} (hv : viewOfL s.regions h = some v) :
    (toVecCopy e (hreg h) (hoff h) (hlen h) s).sat
      (fun w s1 => ∃ r, w = .vec r (hlen h) (hlen h) ∧ Installs s.regions s.hs i .vec v w s1)
      (· = s) := by
  have hvl := rdL_length hI.regs hv
  have hK := fun ev => Inv_kill_plain hI hi hc hd ev
  rcases toVecCopy_cases e hv with ⟨h0, heq⟩ | hp | ⟨h0, h1, heq⟩
  · rw [heq]
    exact ⟨_, rfl, fill_empty hi hK (fun _ _ _ _ => rfl) hvl h0 _⟩
  · rw [hp]; rfl
  · rw [heq]
    exact ⟨_, rfl, fill_fresh hi hK (fun _ _ _ _ => rfl) _ hvl h0 h1 _⟩

theorem ctrlRegion_lt {R : List Region} {ow : Nat} {ct : Ctrl} (h : ctrlBufOK R ow ct) :
    ∀ r, ctrlRegion ct = some r → r < R.length := by
  intro r hr
  cases ct with
  | sharedB r0 cap => cases hr; exact isHeapLiveL_lt h.1
  | sharedV reg vlen vcap orig => cases hr; exact isHeapLiveL_lt h.1
  | owned o => cases hr

/-- `owned_to_vec` and the not-unique branches of `shared_to_vec_impl`, `shared_v_to_vec`,
`From<BytesMut> for Vec<u8>` and their `_to_mut` counterparts; `k` is what the caller does with the copy -/
theorem copyOut_release {s : St} (hI : Inv s) (e : Env) {i : Nat} {h : Handle} {c : Nat}
    (hi : s.hs[i]? = some (some h)) (hc : ctrlOf h = some c)
    {v : List Byte} (hv : viewOfL s.regions h = some v)
    {α : Type} (k : Handle → M α) {Q : α → St → Prop} {Qp : St → Prop} (hp : Qp s)
    (hk : ∀ r s1, Installs s.regions s.hs i .vec v (.vec r (hlen h) (hlen h)) s1 →
      (k (.vec r (hlen h) (hlen h)) s1).sat Q Qp) :
    ((toVecCopy e (hreg h) (hoff h) (hlen h) >>= fun w => releaseCtrl c >>= fun _ => k w) s).sat Q Qp := by
  have hvl := rdL_length hI.regs hv
  obtain ⟨e0, he, hl, hrc, h1, hb⟩ := hI.ctrl_of_handle hi hc
  rcases toVecCopy_cases e hv with ⟨h0, heq⟩ | hpn | ⟨h0, hle, heq⟩
  · -- nothing allocated
    obtain ⟨R', C', hd, hId, hvd⟩ := Dropped.release hI hi hc
    obtain ⟨ev, hrel⟩ := hd s.hs s.events
    rw [bind_apply, heq]
    simp only [bind_apply, hrel]
    exact hk _ _ (fill_empty hi hId hvd hvl h0 _)
  · simp only [bind_apply, hpn, sat_panic]; exact hp
  · have hrg := vecRegion_ok (bs := v) (e.odd s.regions.length) h0 hle (Nat.le_of_eq hvl)
    rcases releaseCtrl_cases
        (s := ⟨s.regions ++ [vecRegion v (hlen h) (e.odd s.regions.length)], s.ctrls, s.hs, s.owners,
          .alloc s.regions.length (hlen h) :: s.events⟩) he hl h1
        (ctrlBufOK_append _ hb (Nat.le_refl _))
        (fun r rg' hr => (lookup_push_cases hr).elim (fun h => h.2 ▸ hrg) (fun h => hI.regs r rg' h.2))
        with ⟨hne, hrel⟩ | ⟨h1', ev, hrel⟩
    · simp only [bind_apply, heq, hrel]
      exact hk _ _ (fill_fresh hi (fun ev => Inv_kill_dec hI hi hc he hl hne ev) (fun _ _ _ _ => rfl)
        _ hvl h0 hle _)
    · -- the release frees the old buffer: it commutes with the allocation that came first
      rw [freeBuf_append (o := e.odd s.regions.length) rfl (ctrlRegion_lt hb)] at hrel
      simp only [bind_apply, heq, hrel]
      have := fill_fresh hi (fun ev => (Inv_kill_last hI hi hc he hl h1' ev).1)
        (Inv_kill_last hI hi hc he hl h1' []).2 (e.odd s.regions.length) hvl h0 hle ev
      rw [(Killed.of_freeBuf s.regions e0.c).len] at this
      exact hk _ _ this

/-- `shared_to_vec_impl` (common to the promoted promotable and the SHARED vtable) -/
def sharedToVec (e : Env) (c : Nat) (reg : Option Nat) (off len : Nat) : M Handle := do
  let u ← ctrlIsUnique c
  if u then do
    let (r, cap) ← takeSharedB c
    copyWithin (some r) off 0 len
    pure (.vec (some r) len cap)
  else do
    let v ← toVecCopy e reg off len
    releaseCtrl c
    pure v

/-- `promotable_to_vec` on a KIND_VEC handle -/
theorem bytesIntoVec_promV (e : Env) (vt : Bool) (reg : Option Nat) (off len : Nat) :
    bytesIntoVec e (.bytes (.prom vt none) reg off len) =
      (promDecode vt reg >>= fun _ => copyWithin reg off 0 len >>= fun _ => pure (.vec reg len (off + len))) :=
  rfl

theorem sharedToVec_spec {s : St} (hI : Inv s) (e : Env) {i : Nat} {repr : BRepr} {reg : Option Nat}
    {off len c r cap : Nat} (hi : s.hs[i]? = some (some (.bytes repr reg off len)))
    (hc : ctrlOf (.bytes repr reg off len) = some c)
    (hlive : liveCtrlL s.ctrls c = some (.sharedB r cap)) (hreg' : reg = some r) (hb : off + len ≤ cap)
    {v : List Byte} (hv : rdL s.regions reg off len = some v) :
    (sharedToVec e c reg off len s).sat (Installs s.regions s.hs i .vec v) (· = s) := by
  subst hreg'
  obtain ⟨e0, he, hl, hct, _, _, hbuf⟩ := hI.cok' hlive
  refine sat_ifUnique he hl (fun h1 => ?_) (fun _ => ?_)
  · have hbuf' : isHeapLiveL s.regions r = true ∧ cap = regionSizeL s.regions r := ⟨hbuf.1, hbuf.2.symm⟩
    have hD := Inv_demote_vec hI (reg := some r) hbuf' hi hc he hl h1
      (e' := ⟨.sharedB r cap, 0, false⟩) rfl (by rw [hct]; rfl) (.deallocCtrl c :: s.events)
    obtain ⟨s1, hcw, hinst⟩ := vec_of_direct
      (s := { s with ctrls := s.ctrls.set c ⟨.sharedB r cap, 0, false⟩,
                     events := .deallocCtrl c :: s.events })
      (reg := some r) hbuf' hD (lookup_lt hi) rfl rfl hv (Nat.le_trans (Nat.le_add_left len off) hb)
    simp only [bind_apply, takeSharedB_eq he hl hct, hcw, pure_apply, sat_ok]
    exact hinst
  · exact copyOut_release hI e hi hc hv pure rfl (fun _ _ hinst => hinst)

theorem bytesIntoVec_spec {s : St} (hI : Inv s) (e : Env) {i : Nat} {repr : BRepr} {reg : Option Nat}
    {off len : Nat} (hi : s.hs[i]? = some (some (.bytes repr reg off len))) {v : List Byte}
    (hv : rdL s.regions reg off len = some v) :
    (bytesIntoVec e (.bytes repr reg off len) s).sat (Installs s.regions s.hs i .vec v) (· = s) := by
  have hok := hI.hok i _ hi
  cases repr with
  | «static» =>
    exact R.sat_mono (copyOut_plain hI e hi rfl rfl hv) (fun _ _ ⟨_, _, hinst⟩ => hinst) (fun _ hs => hs)
  | owned c => exact copyOut_release hI e hi (c := c) rfl hv pure rfl (fun _ _ hinst => hinst)
  | prom vt oc =>
    cases oc with
    | none =>
      obtain ⟨⟨r, hreg', hlive, hsz, hvt⟩, _⟩ := handleOKL_promV.mp hok
      subst hreg'
      obtain ⟨s1, hcw, hinst⟩ := vec_of_direct (reg := some r) (cap := off + len) ⟨hlive, hsz⟩
        (hI.set_self hi) (lookup_lt hi) rfl rfl hv (Nat.le_add_left len off)
      simp only [bytesIntoVec_promV, bind_apply, promDecode_eq hlive hvt, hcw, pure_apply, sat_ok]
      exact hinst
    | some c =>
      obtain ⟨⟨r, cap, h1, h2, h3⟩, _⟩ := handleOKL_promA.mp hok
      exact sharedToVec_spec hI e hi rfl h1 h2 h3 hv
  | shared c =>
    obtain ⟨⟨r, cap, h1, h2, h3⟩, _⟩ := handleOKL_shared.mp hok
    exact sharedToVec_spec hI e hi rfl h1 h2 h3 hv
  | sharedV c =>
    obtain ⟨⟨vlen, vcap, vorig, h1, h3⟩, _⟩ := handleOKL_sharedV.mp hok
    obtain ⟨e0, he, hl, hct, _⟩ := hI.cok' h1
    refine sat_ifUnique he hl (fun hrc => ?_) (fun _ => ?_)
    · obtain ⟨s1, s2, hrel, hcw, hinst⟩ := vec_of_sharedV hI hi (c := c) rfl he hl hrc hct hv h3
      refine sat_getCtrl he hl ?_
      simp only [hct, bind_apply, setCtrl_apply, hrel, hcw, pure_apply, sat_ok]
      exact hinst
    · exact copyOut_release hI e hi (c := c) rfl hv pure rfl (fun _ _ hinst => hinst)

theorem step_intoVec (cfg : Cfg) (e : Env) (i : Nat) (s : St) (hw : WFx s) :
    StepOKx cfg e (.intoVec i) s := by
  have hI := hw.inv
  refine .of_getHandle hw rfl rfl fun h hi => ?_
  have hpanic : WFx s ∧ abs s = Spec.stepPanic (.intoVec i) (abs s) := ⟨hw, rfl⟩
  obtain ⟨v, hv, hvl⟩ := hI.view hi
  have hspec : Spec.stepOk (.intoVec i) (.handle i) (abs s) =
      (absL s.regions s.hs).set i (some ⟨.vec, v⟩) := by
    rw [abs_eq]; exact Spec_stepOk_intoVec (Spec_get_absL hi hv) _
  have hok := hI.hok i h hi
  cases h with
  | bytes repr reg off len => exact sat_install hw rfl hspec (bytesIntoVec_spec hI e hi hv)
  | vec reg len cap => exact hpanic
  | «mut» arc reg off len cap orig =>
    cases arc with
    | none =>
      -- KIND_VEC: `rebuild_vec`, then `ptr::copy` to the front
      have hv : rdL s.regions reg off len = some v := hv
      obtain ⟨hlc, _, hregc, _⟩ := handleOKL_mutV.mp hok
      obtain ⟨s1, hcw, hinst⟩ := vec_of_direct (reg := reg) (cap := off + cap) hregc (hI.set_self hi)
        (lookup_lt hi) rfl rfl hv (Nat.le_trans hlc (Nat.le_add_left cap off))
      simp only [bind_apply, hcw]
      exact hinst.stepOK hspec
    | some c =>
      have hv : rdL s.regions reg off len = some v := hv
      obtain ⟨hlc, ⟨vlen, vcap, vorig, h1, h3⟩, _⟩ := handleOKL_mutA.mp hok
      obtain ⟨e0, he, hl, hct, _⟩ := hI.cok' h1
      refine sat_getCtrl he hl (sat_ite (fun hrc => ?_) (fun _ => ?_))
      · obtain ⟨s1, s2, hrel, hcw, hinst⟩ := vec_of_sharedV hI hi (c := c) rfl he hl hrc hct hv
          (Nat.le_trans (Nat.add_le_add_left hlc off) h3)
        simp only [hct, bind_apply, setCtrl_apply, hrel, hcw]
        exact hinst.stepOK hspec
      · exact copyOut_release hI e hi (c := c) rfl hv
          (fun w => setHandle i w >>= fun _ => pure (Val.handle i)) hpanic
          (fun _ _ hinst => hinst.stepOK hspec)

theorem spanSub_mut_of {arc arc' : Option Nat} {reg : Option Nat} {off len cap orig o l c orig' : Nat}
    (h1 : off ≤ o) (h2 : o + c ≤ off + cap) :
    spanSub (.mut arc' reg o l c orig') (.mut arc reg off len cap orig) := by
  intro r o' l' h hl
  cases reg with
  | none => cases h
  | some r' => cases h; exact ⟨off, cap, rfl, h1, h2⟩

/-- `advance_unchecked(k)` on the KIND_VEC handle `from_vec` just made (vec position 0), including
the `promote_to_shared` branch taken when the position does not fit the 59 position bits -/
theorem mutAdvance_from_zero (cfg : Cfg) {reg : Option Nat} {len cap orig k : Nat} (hk : k ≤ cap) (s : St) :
    (k ≤ W / 32 - 1 ∧
      mutAdvanceUnchecked cfg (.mut none reg 0 len cap orig) k s =
        .ok (.mut none reg k (len - k) (cap - k) orig) s) ∨
    (¬ k ≤ W / 32 - 1 ∧
      mutAdvanceUnchecked cfg (.mut none reg 0 len cap orig) k s =
        .ok (.mut (some s.ctrls.length) reg k (len - k) (cap - k) orig)
          { s with ctrls := s.ctrls ++ [⟨.sharedV reg len cap orig, 1, true⟩],
                   events := .allocCtrl s.ctrls.length :: s.events }) := by
  by_cases hp : k ≤ W / 32 - 1
  · have := mutAdvanceUnchecked_vec cfg (reg := reg) (off := 0) (len := len) (orig := orig) hk
      (by rw [Nat.zero_add]; exact hp) s
    rw [Nat.zero_add] at this
    exact .inl ⟨hp, this⟩
  · have h0 : k ≠ 0 := fun h => hp (h ▸ Nat.zero_le _)
    have := mutAdvanceUnchecked_promote cfg (reg := reg) (off := 0) (len := len) (orig := orig) hk h0
      (by rw [Nat.zero_add]; exact hp) s
    simp only [Nat.zero_add] at this
    exact .inr ⟨hp, this⟩

/-- `Vec::from_raw_parts(buf, n, cap)`, `from_vec`, `advance_unchecked(off)` on the buffer of size `cap`
that slot `i` owns directly (`h` is what the slot stands for): the slot becomes a `BytesMut` on `[off, cap)`
with view `[off, off+len)`, KIND_VEC if the position fits, else KIND_ARC on a fresh control block -/
theorem mut_of_direct (cfg : Cfg) {s : St} {i : Nat} {h : Handle} {r : Nat}
    (hI : Inv { s with hs := s.hs.set i (some h) }) (hlt : i < s.hs.length)
    (hd : directRegion h = some r) {off len cap n : Nat} {v : List Byte}
    (hv : rdL s.regions (some r) off len = some v) (hlive : isHeapLiveL s.regions r = true)
    (hcap : cap = regionSizeL s.regions r) (hb : off + len ≤ cap) (hn : n - off = len) :
    ∃ m s1, mutAdvanceUnchecked cfg (mutFromVec (some r) n cap) off s = .ok m s1 ∧
      Installs s.regions s.hs i .mut v m s1 := by
  have hi : (s.hs.set i (some h))[i]? = some (some h) := List.getElem?_set_self hlt
  have hcn := direct_some_ctrlOf_none hd
  have hsole : ∀ r', r' = r → ∀ (j : Nat) (b : Handle), j ≠ i →
      (s.hs.set i (some h))[j]? = some (some b) → ¬ Anchor s.regions s.ctrls b r' :=
    fun r' hp j b hji hj => hp ▸ hI.alone_direct hi hd hji hj
  have hM := MetaEq.refl hI.regs (fun r' => r' = r)
  have hrd : (rdL s.regions (some r) off len).isSome = true := by rw [hv]; rfl
  have hoc : off ≤ cap := Nat.le_trans (Nat.le_add_right off len) hb
  have hoc' : off + (cap - off) = cap := Nat.add_sub_of_le hoc
  have hlc : len ≤ cap - off := Nat.le_sub_of_add_le' hb
  have hsp : ∀ (o l c : Nat) r' o' l', span (.mut none (some r) o l c (originalCapacityToRepr cap)) =
      some (r', o', l') → l' ≠ 0 → r' = r := fun _ _ _ _ _ _ hs _ => by cases hs; rfl
  rcases mutAdvance_from_zero cfg (reg := some r) (len := n) (cap := cap)
      (orig := originalCapacityToRepr cap) hoc s with ⟨hp, hadv⟩ | ⟨hp, hadv⟩
  · rw [hn] at hadv
    exact ⟨_, _, hadv, Installs.of_sole hI hlt hM hsole (by rw [hcn]; rfl) (by rw [hd]; rfl)
      ((handleOKL_mutV (reg := some r)).mpr ⟨hlc, hp, ⟨hlive, hoc'.trans hcap⟩, hrd⟩) trivial (hsp _ _ _) hv⟩
  · -- `promote_to_shared`: an empty KIND_VEC handle on the whole buffer, which is then promoted
    rw [hn] at hadv
    have h1 := (Installs.of_sole hI hlt hM hsole
      (m := .mut none (some r) 0 0 cap (originalCapacityToRepr cap)) (by rw [hcn]; rfl) (by rw [hd]; rfl)
      ((handleOKL_mutV (reg := some r)).mpr
        ⟨Nat.zero_le _, Nat.zero_le _, ⟨hlive, by rw [Nat.zero_add]; exact hcap⟩, rfl⟩)
      trivial (hsp _ _ _) (rdL_zero _ _ _)).inv
    have h2 := Inv_promote h1
      (h' := .mut (some s.ctrls.length) (some r) off len (cap - off) (originalCapacityToRepr cap))
      (ct := .sharedV (some r) n cap (originalCapacityToRepr cap)) (List.getElem?_set_self hlt) rfl rfl rfl
      (spanSub_mut_of (Nat.zero_le _) (Nat.le_of_eq (hoc'.trans (Nat.zero_add cap).symm))) (fun _ => rfl)
      (handleOKL_mutA.mpr ⟨hlc, ⟨n, cap, _, liveCtrlL_new _ _, Nat.le_of_eq hoc'⟩, hrd⟩)
      ⟨hlive, hcap.symm⟩ (fun o ho => Ctrl.noConfusion ho) (.allocCtrl s.ctrls.length :: s.events)
    simp only [List.set_set] at h2
    exact ⟨_, _, hadv, h2, rfl, rfl, hv, fun _ _ _ _ => rfl⟩

/-- `shared_to_mut_impl` (common to the promoted promotable and the SHARED vtable) -/
def sharedToMut (cfg : Cfg) (e : Env) (c : Nat) (reg : Option Nat) (off len : Nat) : M Handle := do
  let u ← ctrlIsUnique c
  if u then do
    let (r, cap) ← takeSharedB c
    mutAdvanceUnchecked cfg (mutFromVec (some r) (len + off) cap) off
  else do
    let v ← toVecCopy e reg off len
    releaseCtrl c
    match v with
    | .vec r l cp => pure (mutFromVec r l cp)
    | _ => panic

/-- `promotable_to_mut` on a KIND_VEC handle -/
theorem bytesIntoMut_promV (cfg : Cfg) (e : Env) (vt : Bool) (reg : Option Nat) (off len : Nat) :
    bytesIntoMut cfg e (.bytes (.prom vt none) reg off len) =
      (promDecode vt reg >>= fun _ => mutAdvanceUnchecked cfg (mutFromVec reg (off + len) (off + len)) off) :=
  rfl

theorem sharedToMut_spec {s : St} (hI : Inv s) (cfg : Cfg) (e : Env) {i : Nat} {repr : BRepr}
    {reg : Option Nat} {off len c r cap : Nat} (hi : s.hs[i]? = some (some (.bytes repr reg off len)))
    (hc : ctrlOf (.bytes repr reg off len) = some c)
    (hlive : liveCtrlL s.ctrls c = some (.sharedB r cap)) (hreg' : reg = some r) (hb : off + len ≤ cap)
    {v : List Byte} (hv : rdL s.regions reg off len = some v) :
    (sharedToMut cfg e c reg off len s).sat (Installs s.regions s.hs i .mut v) (· = s) := by
  subst hreg'
  obtain ⟨e0, he, hl, hct, _, _, hbuf⟩ := hI.cok' hlive
  refine sat_ifUnique he hl (fun h1 => ?_) (fun _ => ?_)
  · have hbuf' : isHeapLiveL s.regions r = true ∧ cap = regionSizeL s.regions r := ⟨hbuf.1, hbuf.2.symm⟩
    have hD := Inv_demote_vec hI (reg := some r) hbuf' hi hc he hl h1
      (e' := ⟨.sharedB r cap, 0, false⟩) rfl (by rw [hct]; rfl) (.deallocCtrl c :: s.events)
    obtain ⟨m, s1, hadv, hinst⟩ := mut_of_direct cfg
      (s := { s with ctrls := s.ctrls.set c ⟨.sharedB r cap, 0, false⟩,
                     events := .deallocCtrl c :: s.events })
      hD (lookup_lt hi) rfl hv hbuf.1 hbuf'.2 hb (Nat.add_sub_cancel (n := len) (m := off))
    simp only [bind_apply, takeSharedB_eq he hl hct, hadv, sat_ok]
    exact hinst
  · exact copyOut_release hI e hi hc hv _ rfl (fun _ _ hinst => hinst.fromVec (lookup_lt hi))

theorem bytesIntoMut_spec {s : St} (hI : Inv s) (cfg : Cfg) (e : Env) {i : Nat} {repr : BRepr}
    {reg : Option Nat} {off len : Nat} (hi : s.hs[i]? = some (some (.bytes repr reg off len)))
    {v : List Byte} (hv : rdL s.regions reg off len = some v) :
    (bytesIntoMut cfg e (.bytes repr reg off len) s).sat (Installs s.regions s.hs i .mut v) (· = s) := by
  have hok := hI.hok i _ hi
  have hlt := lookup_lt hi
  cases repr with
  | «static» =>
    refine (sat_bind _ _ _ _ _).mpr (R.sat_mono (copyOut_plain hI e hi rfl rfl hv) ?_ (fun _ hs => hs))
    rintro _ s1 ⟨r, rfl, hinst⟩
    exact hinst.fromVec hlt
  | owned c =>
    exact copyOut_release hI e hi (c := c) rfl hv _ rfl (fun _ _ hinst => hinst.fromVec hlt)
  | prom vt oc =>
    cases oc with
    | none =>
      obtain ⟨⟨r, hreg', hlive, hsz, hvt⟩, _⟩ := handleOKL_promV.mp hok
      subst hreg'
      obtain ⟨m, s1, hadv, hinst⟩ := mut_of_direct cfg (hI.set_self hi) hlt (r := r) rfl hv hlive hsz
        (Nat.le_refl _) (Nat.add_sub_cancel_left (n := off) (m := len))
      simp only [bytesIntoMut_promV, bind_apply, promDecode_eq hlive hvt, hadv, sat_ok]
      exact hinst
    | some c =>
      obtain ⟨⟨r, cap, h1, h2, h3⟩, _⟩ := handleOKL_promA.mp hok
      exact sharedToMut_spec hI cfg e hi rfl h1 h2 h3 hv
  | shared c =>
    obtain ⟨⟨r, cap, h1, h2, h3⟩, _⟩ := handleOKL_shared.mp hok
    exact sharedToMut_spec hI cfg e hi rfl h1 h2 h3 hv
  | sharedV c =>
    obtain ⟨⟨vlen, vcap, vorig, h1, h3⟩, hrd⟩ := handleOKL_sharedV.mp hok
    obtain ⟨e0, he, hl, hct, _⟩ := hI.cok' h1
    refine sat_ifUnique he hl (fun hrc => ?_) (fun _ => ?_)
    · -- `shared_v_to_mut`, unique: the handle keeps the block and becomes a KIND_ARC `BytesMut`
      refine sat_getCtrl he hl ?_
      simp only [hct, pure_apply, sat_ok]
      have hID := hI.set_self hi
      exact Installs.of_sole hID hlt (m := .mut (some c) reg off len (vcap - off) vorig)
        (MetaEq.refl hI.regs (fun r' => reg = some r'))
        (fun r' hp j b hji hj => hID.alone_ctrl (List.getElem?_set_self hlt) (c := c) rfl he hl hrc
          (by rw [hct]; exact hp) hji hj) rfl rfl
        (handleOKL_mutA.mpr ⟨Nat.le_sub_of_add_le' h3, ⟨vlen, vcap, vorig, h1,
          Nat.le_of_eq (Nat.add_sub_of_le (Nat.le_trans (Nat.le_add_right off len) h3))⟩, hrd⟩) trivial
        (fun r' o l hs _ => by
          cases reg with
          | none => cases hs
          | some r0 => cases hs; rfl) hv
    · exact copyOut_release hI e hi (c := c) rfl hv _ rfl (fun _ _ hinst => hinst.fromVec hlt)

theorem step_intoMut (cfg : Cfg) (e : Env) (i : Nat) (s : St) (hw : WFx s) :
    StepOKx cfg e (.intoMut i) s := by
  have hI := hw.inv
  refine .of_getHandle hw rfl rfl fun h hi => ?_
  obtain ⟨v, hv, hvl⟩ := hI.view hi
  cases h with
  | bytes repr reg off len =>
    exact sat_install hw rfl (by rw [abs_eq]; exact Spec_stepOk_intoMut (Spec_get_absL hi hv) _)
      (bytesIntoMut_spec hI cfg e hi hv)
  | vec reg len cap => exact ⟨hw, rfl⟩
  | «mut» arc reg off len cap orig => exact ⟨hw, rfl⟩

theorem step_tryIntoMut (cfg : Cfg) (e : Env) (i : Nat) (s : St) (hw : WFx s) :
    StepOKx cfg e (.tryIntoMut i) s := by
  have hI := hw.inv
  refine .of_getHandle hw rfl rfl fun h hi => ?_
  obtain ⟨v, hv, hvl⟩ := hI.view hi
  cases h with
  | bytes repr reg off len =>
    obtain ⟨b, hb⟩ := bytesIsUnique_ok hI hi
    simp only [bind_apply, hb]
    cases b with
    | false => exact ⟨hw, rfl⟩
    | true =>
      exact sat_install hw rfl (by rw [abs_eq]; exact Spec_stepOk_tryIntoMut_handle (Spec_get_absL hi hv) i)
        (bytesIntoMut_spec hI cfg e hi hv)
  | vec reg len cap => exact ⟨hw, rfl⟩
  | «mut» arc reg off len cap orig => exact ⟨hw, rfl⟩

theorem step_freeze (cfg : Cfg) (e : Env) (i : Nat) (s : St) (hw : WFx s) :
    StepOKx cfg e (.freeze i) s := by
  have hI := hw.inv
  refine .of_getHandle hw rfl rfl fun h hi => ?_
  have hpanic : WFx s ∧ abs s = Spec.stepPanic (.freeze i) (abs s) := ⟨hw, rfl⟩
  obtain ⟨v, hv, hvl⟩ := hI.view hi
  have hspec : Spec.stepOk (.freeze i) (.handle i) (abs s) =
      (absL s.regions s.hs).set i (some ⟨.bytes, v⟩) := by
    rw [abs_eq]; exact Spec_stepOk_freeze (Spec_get_absL hi hv) _
  have hok := hI.hok i h hi
  cases h with
  | bytes repr reg off len => exact hpanic
  | vec reg len cap => exact hpanic
  | «mut» arc reg off len cap orig =>
    cases arc with
    | some c =>
      obtain ⟨hlc, ⟨vlen, vcap, vorig, hlive, hcap⟩, hrd⟩ := handleOKL_mutA.mp hok
      have hle : off + len ≤ off + cap := Nat.add_le_add_left hlc off
      have hinst : Installs s.regions s.hs i .bytes v (.bytes (.sharedV c) reg off len) s :=
        ⟨Inv_set_sub hI hi (h' := .bytes (.sharedV c) reg off len) rfl rfl
          (handleOKL_sharedV.mpr ⟨⟨vlen, vcap, vorig, hlive, Nat.le_trans hle hcap⟩, hrd⟩)
          (statOK_of_ctrl (c := c) rfl) (spanSub_bytes_of_mut (Nat.le_refl _) hle)
          (fun hm => (Bool.false_ne_true hm).elim) _, rfl, rfl, hv, fun _ _ _ _ => rfl⟩
      exact hinst.stepOK hspec
    | none =>
      obtain ⟨hlc, hoffb, hregc, hrd⟩ := handleOKL_mutV.mp hok
      have hle : off + len ≤ off + cap := Nat.add_le_add_left hlc off
      obtain ⟨repr, s1, heq, hinst⟩ := bytes_of_direct hI (reg := reg) (off := off) (len := len)
        (cap := off + cap) hregc hi rfl rfl hv hle
        (fun _ => spanSub_bytes_of_mut (Nat.le_refl _) hle)
      have hng : ¬ off > off + len := Nat.not_lt.mpr (Nat.le_add_right off len)
      simp only [bind_apply, heq, hng, if_false, Nat.zero_add, Nat.add_sub_cancel_left]
      exact hinst.stepOK hspec

end OpsC
end BytesVerif.Core
