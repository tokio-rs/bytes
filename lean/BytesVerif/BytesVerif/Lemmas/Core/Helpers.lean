/-
What the proofs of the single operations share, on top of the transitions of Trans.lean: rules that take a
program apart at the fetch of a handle or control block; specifications of the helper functions several
operations call; sub-ranges (`BSub`, `MSub`); the empty handle; `Installs`, the result of an operation that
computes a replacement for the handle in a slot.  Each `…_spec` gives the execution equation of the helper
*and* a continuation clause "whatever the caller does next within these bounds re-establishes `Inv`", because
the state right after the helper is not well-formed (a reference is counted whose handle is not registered yet).
-/
import BytesVerif.Lemmas.Core.Trans
namespace BytesVerif.Core

theorem sat_getHandle {α : Type} {s : St} {i : Nat} {body : Handle → M α} {Q : α → St → Prop}
    {Qp : St → Prop} (hdead : (∀ h, s.hs[i]? ≠ some (some h)) → Qp s)
    (hbody : ∀ h, s.hs[i]? = some (some h) → (body h s).sat Q Qp) :
    ((getHandle i >>= body) s).sat Q Qp := by
  rw [bind_apply]
  rcases getHandle_cases s i with ⟨h, hi, hg⟩ | ⟨hn, hg⟩
  · rw [hg]; exact hbody h hi
  · rw [hg]; exact hdead hn

theorem sat_getCtrl {α : Type} {s : St} {c : Nat} {e0 : CtrlE} (he : s.ctrls[c]? = some e0)
    (hl : e0.live = true) {body : CtrlE → M α} {Q : α → St → Prop} {Qp : St → Prop}
    (h : (body e0 s).sat Q Qp) : ((getCtrl c >>= body) s).sat Q Qp := by
  rw [bind_apply, getCtrl_eq he hl]; exact h

/-- both branches of `if shared.ref_cnt == 1` -/
theorem sat_ifUnique {α : Type} {s : St} {c : Nat} {e0 : CtrlE} (he : s.ctrls[c]? = some e0)
    (hl : e0.live = true) {A B : M α} {Q : α → St → Prop} {Qp : St → Prop}
    (hA : e0.rc = 1 → (A s).sat Q Qp) (hB : e0.rc ≠ 1 → (B s).sat Q Qp) :
    ((ctrlIsUnique c >>= fun u => if u = true then A else B) s).sat Q Qp := by
  simp only [bind_apply, ctrlIsUnique_eq he hl, beq_iff_eq]
  by_cases h1 : e0.rc = 1
  · simp only [h1, if_true]; exact hA h1
  · simp only [h1, if_false]; exact hB h1

/-- Every operation on an existing handle begins by fetching it, and is rejected with the state
untouched when the slot is not live; what remains is the rest of the operation, run on a live handle. -/
theorem StepOKx.of_getHandle {cfg : Cfg} {e : Env} {op : Op} {s : St} (hw : WFx s) {i : Nat}
    {body : Handle → M Val} (hstep : step cfg e op = getHandle i >>= body)
    (hpanic : Spec.stepPanic op (abs s) = abs s)
    (hbody : ∀ h, s.hs[i]? = some (some h) →
      (body h s).sat (fun v s' => WFx s' ∧ abs s' = Spec.stepOk op v (abs s))
        (fun s' => WFx s' ∧ abs s' = Spec.stepPanic op (abs s))) :
    StepOKx cfg e op s := by
  unfold StepOKx
  rw [hstep]
  exact sat_getHandle (fun _ => ⟨hw, hpanic.symm⟩) hbody

theorem absL_set_push {R : List Region} {hs : List (Option Handle)} {i : Nat} {h1 h2 : Handle}
    {v1 v2 : List Byte} (hv1 : viewOfL R h1 = some v1) (hv2 : viewOfL R h2 = some v2) :
    absL R (hs.set i (some h1) ++ [some h2]) =
      (absL R hs).set i (some ⟨kindOf h1, v1⟩) ++ [some ⟨kindOf h2, v2⟩] := by
  rw [absL_push_some hv2, absL_set_some hv1]

theorem absL_lookup {R : List Region} {hs : List (Option Handle)} {i : Nat} {h : Handle}
    {v : List Byte} (hi : hs[i]? = some (some h)) (hv : viewOfL R h = some v) :
    (absL R hs)[i]? = some (some ⟨kindOf h, v⟩) := by
  simp [absL, List.getElem?_map, hi, hv]

/-- `[o, o+l) ⊆ [off, off+len)` -/
def BSub (off len o l : Nat) : Prop := off ≤ o ∧ o + l ≤ off + len

theorem BSub.refl (off len : Nat) : BSub off len off len := ⟨Nat.le_refl _, Nat.le_refl _⟩

theorem rdL_of_sub {R : List Region} {reg : Option Nat} {off len o l : Nat} {v : List Byte}
    (hv : rdL R reg off len = some v) (hs : BSub off len o l) :
    rdL R reg o l = some ((v.drop (o - off)).take l) := by
  have := rdL_sub hv (o - off) l (by have := hs.1; have := hs.2; omega)
  rwa [Nat.add_sub_cancel' hs.1] at this

theorem rdL_isSome_sub {R : List Region} {reg : Option Nat} {off len o l : Nat}
    (h : (rdL R reg off len).isSome = true) (hs : BSub off len o l) :
    (rdL R reg o l).isSome = true := by
  obtain ⟨v, hv⟩ := Option.isSome_iff_exists.mp h
  rw [rdL_of_sub hv hs]; rfl

theorem add_add_sub {off k c : Nat} (h : k ≤ c) : off + k + (c - k) = off + c := by omega

theorem bsub_head {off len k : Nat} (hk : k ≤ len) : BSub off len off k :=
  ⟨Nat.le_refl _, Nat.add_le_add_left hk off⟩

theorem bsub_mid {off len lo hi : Nat} (h1 : lo ≤ hi) (h2 : hi ≤ len) :
    BSub off len (off + lo) (hi - lo) :=
  ⟨Nat.le_add_right _ _, add_add_sub h1 ▸ Nat.add_le_add_left h2 off⟩

theorem bsub_tail {off len k : Nat} (hk : k ≤ len) : BSub off len (off + k) (len - k) :=
  bsub_mid hk (Nat.le_refl _)

theorem handleOKL_mut_shrink {R : List Region} {C : List CtrlE} {arc reg : Option Nat}
    {off len cap orig n : Nat} (hok : handleOKL R C (.mut arc reg off len cap orig) = true) (hn : n ≤ len) :
    handleOKL R C (.mut arc reg off n cap orig) = true :=
  handleOKL_mut_relen hok (fun _ => rfl) (Nat.le_trans hn (mut_len_le_cap hok))
    (rdL_isSome_sub (handleOKL_rd hok) (bsub_head hn))

/-- every `Bytes` representation except the un-promoted promotable one tolerates shrinking -/
theorem handleOKL_bytes_sub {R : List Region} {C : List CtrlE} {repr : BRepr} {reg : Option Nat}
    {off len o l : Nat} (hok : handleOKL R C (.bytes repr reg off len) = true)
    (hs : BSub off len o l) (hp : ∀ vt, repr ≠ .prom vt none) :
    handleOKL R C (.bytes repr reg o l) = true := by
  have hrd := rdL_isSome_sub (handleOKL_rd hok) hs
  obtain ⟨hs1, hs2⟩ := hs
  cases repr with
  | «static» => exact handleOKL_static.mpr hrd
  | owned c =>
    obtain ⟨⟨ow, h1, h2⟩, _⟩ := handleOKL_owned.mp hok
    refine handleOKL_owned.mpr ⟨⟨ow, h1, ?_⟩, hrd⟩
    rcases h2 with h2 | h2
    · left; omega
    · exact .inr h2
  | prom vt oc =>
    cases oc with
    | none => exact (hp vt rfl).elim
    | some c =>
      obtain ⟨⟨r, cap, h1, h2, h3⟩, _⟩ := handleOKL_promA.mp hok
      exact handleOKL_promA.mpr ⟨⟨r, cap, h1, h2, Nat.le_trans hs2 h3⟩, hrd⟩
  | shared c =>
    obtain ⟨⟨r, cap, h1, h2, h3⟩, _⟩ := handleOKL_shared.mp hok
    exact handleOKL_shared.mpr ⟨⟨r, cap, h1, h2, Nat.le_trans hs2 h3⟩, hrd⟩
  | sharedV c =>
    obtain ⟨⟨vlen, vcap, vorig, h1, h3⟩, _⟩ := handleOKL_sharedV.mp hok
    exact handleOKL_sharedV.mpr ⟨⟨vlen, vcap, vorig, h1, Nat.le_trans hs2 h3⟩, hrd⟩

theorem spanSub_bytes {repr repr' : BRepr} {reg : Option Nat} {off len o l : Nat}
    (hs : BSub off len o l) : spanSub (.bytes repr' reg o l) (.bytes repr reg off len) := by
  intro r o' l' h hl
  cases reg with
  | none => simp [span] at h
  | some r' =>
    simp only [span, Option.some.injEq, Prod.mk.injEq] at h
    obtain ⟨rfl, rfl, rfl⟩ := h
    exact ⟨off, len, rfl, hs.1, hs.2⟩

theorem statOK_sub {R : List Region} {reg : Option Nat} {off len o l : Nat}
    (h : statOK R (.bytes .static reg off len)) (hs : BSub off len o l) :
    statOK R (.bytes .static reg o l) := by
  cases reg with
  | none => trivial
  | some r =>
    intro hl; apply h
    have := hs.1; have := hs.2; omega

theorem handleOKL_empty (R : List Region) (C : List CtrlE) (reg : Option Nat) (off : Nat) :
    handleOKL R C (.bytes .static reg off 0) = true :=
  handleOKL_static.mpr (by rw [rdL_zero]; rfl)

theorem statOK_empty (R : List Region) (reg : Option Nat) (off : Nat) :
    statOK R (.bytes .static reg off 0) := by
  cases reg with
  | none => trivial
  | some r => exact fun h => (h rfl).elim

theorem span_empty {reg : Option Nat} {off r o l : Nat}
    (h : span (.bytes .static reg off 0) = some (r, o, l)) : l = 0 := by
  cases reg with
  | none => cases h
  | some r' => cases h; rfl

/-- registering an empty handle (`new_empty_with_ptr`, `Bytes::new`) -/
theorem Inv_push_empty {s : St} (hI : Inv s) (reg : Option Nat) (off : Nat) (ev : List Ev) :
    Inv ⟨s.regions, s.ctrls, s.hs ++ [some (.bytes .static reg off 0)], s.owners, ev⟩ :=
  Inv_push_plain_nospan hI rfl rfl (handleOKL_empty _ _ _ _) (statOK_empty _ _ _)
    (fun _ _ _ => span_empty) ev

/-- a split at one end of a `Bytes`: the whole handle moves to the new slot, slot `i` keeps an empty
handle at a position `o` inside the old range -/
theorem Inv_set_empty_push {s : St} (hI : Inv s) {i : Nat} {repr : BRepr} {reg : Option Nat}
    {off len o : Nat} (hi : s.hs[i]? = some (some (.bytes repr reg off len))) (ho : BSub off len o 0)
    (ev : List Ev) :
    Inv ⟨s.regions, s.ctrls, s.hs.set i (some (.bytes .static reg o 0)) ++ [some (.bytes repr reg off len)],
      s.owners, ev⟩ :=
  -- the empty handle names no control block and owns no region: its summand is `0`
  Inv_set_push_plain hI hi (h1 := .bytes .static reg o 0) (h2 := .bytes repr reg off len)
    (fun _ => Nat.zero_add _) (fun _ => Nat.zero_add _)
    (handleOKL_empty _ _ _ _) (hI.hok i _ hi) (statOK_empty _ _ _) (hI.statOK hi)
    (spanSub_bytes ho) (spanSub_refl _) (fun h => h) (fun h => h) nofun nofun ev

theorem Inv_refill_static {s : St} {R' : List Region} {C' : List CtrlE} {ow : Nat} {ev : List Ev} {i : Nat}
    {x : Option Handle} (hK : Inv ⟨R', C', s.hs.set i none, ow, ev⟩) (hi : s.hs[i]? = some x)
    (reg : Option Nat) (off : Nat) (ev' : List Ev) :
    Inv ⟨R', C', s.hs.set i (some (.bytes .static reg off 0)), ow, ev'⟩ := by
  have := Inv_fill_plain hK (h' := .bytes .static reg off 0) (lookup_set_eq none hi) rfl rfl
    (handleOKL_empty _ _ _ _) (statOK_empty _ _ _) (fun _ _ _ => span_empty) ev'
  rwa [List.set_set] at this

theorem ctrlOf_bytes (repr : BRepr) (reg reg' : Option Nat) (off len off' len' : Nat) :
    ctrlOf (.bytes repr reg' off' len') = ctrlOf (.bytes repr reg off len) := by
  cases repr with
  | prom vt oc => cases oc <;> rfl
  | _ => rfl

/-- The shapes whose `clone` is `incCtrl c` and a copy of the handle under the vtable `crepr`: the
state after it, and the continuation clause of `bytesClone_spec`. -/
theorem bytesClone_share {s : St} (hI : Inv s) {i c : Nat} {repr crepr : BRepr} {reg : Option Nat}
    {off len : Nat} (hi : s.hs[i]? = some (some (.bytes repr reg off len)))
    (hbc : bytesClone i s = (do incCtrl c; pure (Handle.bytes crepr reg off len)) s)
    (hc : ctrlOf (.bytes repr reg off len) = some c) (hcc : ctrlOf (.bytes crepr reg off len) = some c)
    (hp : ∀ vt, repr ≠ .prom vt none)
    (hcr : ∀ o l, handleOKL s.regions s.ctrls (.bytes repr reg o l) = true →
      handleOKL s.regions s.ctrls (.bytes crepr reg o l) = true) :
    ∃ (C' : List CtrlE) (ev : List Ev),
      bytesClone i s = .ok (.bytes crepr reg off len)
        ⟨s.regions, C', s.hs.set i (some (.bytes repr reg off len)), s.owners, ev⟩ ∧
      ∀ (o1 l1 o2 l2 : Nat) (ev' : List Ev), BSub off len o1 l1 → BSub off len o2 l2 →
        Inv ⟨s.regions, C', s.hs.set i (some (.bytes repr reg o1 l1)) ++ [some (.bytes crepr reg o2 l2)],
          s.owners, ev'⟩ := by
  obtain ⟨e, he, hl, _⟩ := hI.ctrl_of_handle hi hc
  refine ⟨s.ctrls.set c { e with rc := e.rc + 1 }, s.events, ?_, ?_⟩
  · rw [hbc, bind_apply, incCtrl_eq he hl, set_self hi]; rfl
  · intro o1 l1 o2 l2 ev' b1 b2
    have hok := hI.hok i _ hi
    exact Inv_set_push_share hI hi he hc ((ctrlOf_bytes ..).trans hc) ((ctrlOf_bytes ..).trans hcc)
      (handleOKL_bytes_sub hok b1 hp) (hcr _ _ (handleOKL_bytes_sub hok b2 hp))
      (spanSub_bytes b1) (spanSub_bytes b2) (fun h => h) (fun h => h)
      (fun h => nomatch h) (fun h => nomatch h) ev'

/-- The vtable `clone` of the `Bytes` in slot `i`.  It returns a handle `.bytes crepr reg off len`
with the same view, may promote slot `i` (`repr'`), and leaves a state in which the new reference is
already counted.  The continuation clause says: registering *any* sub-range of the clone while
shrinking slot `i` to *any* sub-range re-establishes the invariant (this is what `clone`, `slice`,
`split_off`, `split_to` do next). -/
theorem bytesClone_spec {s : St} (hI : Inv s) {i : Nat} {repr : BRepr} {reg : Option Nat}
    {off len : Nat} (hi : s.hs[i]? = some (some (.bytes repr reg off len))) :
    ∃ (repr' crepr : BRepr) (C' : List CtrlE) (ev : List Ev),
      bytesClone i s = .ok (.bytes crepr reg off len)
        ⟨s.regions, C', s.hs.set i (some (.bytes repr' reg off len)), s.owners, ev⟩ ∧
      ∀ (o1 l1 o2 l2 : Nat) (ev' : List Ev), BSub off len o1 l1 → BSub off len o2 l2 →
        Inv ⟨s.regions, C', s.hs.set i (some (.bytes repr' reg o1 l1)) ++ [some (.bytes crepr reg o2 l2)],
          s.owners, ev'⟩ := by
  have hok := hI.hok i _ hi
  cases repr with
  | «static» =>
    refine ⟨.static, .static, s.ctrls, s.events, ?_, ?_⟩
    · rw [bytesClone, bind_apply, getHandle_eq hi, set_self hi]; rfl
    · intro o1 l1 o2 l2 ev' b1 b2
      have hp : ∀ vt, BRepr.static ≠ .prom vt none := fun _ h => nomatch h
      exact Inv_set_push_plain hI hi (fun _ => rfl) (fun _ => rfl)
        (handleOKL_bytes_sub hok b1 hp) (handleOKL_bytes_sub hok b2 hp)
        (statOK_sub (hI.statOK hi) b1) (statOK_sub (hI.statOK hi) b2)
        (spanSub_bytes b1) (spanSub_bytes b2) (fun h => h) (fun h => h)
        (fun h => nomatch h) (fun h => nomatch h) ev'
  | owned c | shared c | sharedV c =>
    exact ⟨_, _, bytesClone_share hI hi (by rw [bytesClone, bind_apply, getHandle_eq hi]) rfl rfl
      (fun _ h => nomatch h) (fun _ _ h => h)⟩
  | prom vt oc =>
    cases oc with
    | some c =>
      exact ⟨_, .shared c, bytesClone_share hI hi (by rw [bytesClone, bind_apply, getHandle_eq hi]) rfl rfl
        (fun _ h => nomatch h) (fun _ _ h => handleOKL_shared.mpr (handleOKL_promA.mp h))⟩
    | none =>
      obtain ⟨⟨r, hreg, hlive, hsz, hvt⟩, hrd⟩ := handleOKL_promV.mp hok
      subst hreg
      let c := s.ctrls.length
      let ct := Ctrl.sharedB r (off + len)
      refine ⟨.prom vt (some c), .shared c, s.ctrls ++ [⟨ct, 2, true⟩], .allocCtrl c :: s.events, ?_, ?_⟩
      · rw [bytesClone, bind_apply, getHandle_eq hi]
        simp only [bind_apply, promDecode_eq hlive hvt, newCtrl_apply, setHandle_apply, pure_apply]
        rfl
      · intro o1 l1 o2 l2 ev' b1 b2
        have okA : ∀ o l, BSub off len o l →
            handleOKL s.regions (s.ctrls ++ [⟨ct, 1, true⟩]) (.bytes (.prom vt (some c)) (some r) o l) = true :=
          fun o l b => handleOKL_promA.mpr
            ⟨⟨r, off + len, liveCtrlL_new _ _, rfl, b.2⟩, rdL_isSome_sub hrd b⟩
        exact Inv_promote_share hI (h' := .bytes (.prom vt (some c)) (some r) off len) hi rfl rfl rfl
          (spanSub_bytes (BSub.refl _ _)) (fun h => h) (okA off len (BSub.refl _ _)) ⟨hlive, hsz.symm⟩
          (fun _ h => nomatch h) rfl rfl
          (okA o1 l1 b1) (handleOKL_shared.mpr (handleOKL_promA.mp (okA o2 l2 b2)))
          (spanSub_bytes b1) (spanSub_bytes b2) (fun h => h) (fun h => nomatch h)
          (fun h => nomatch h) (fun h => nomatch h) ev'

theorem vecRegion_ok {bs : List Byte} {cap : Nat} (odd : Bool) (h0 : cap ≠ 0) (h1 : cap ≤ isizeMax)
    (hl : bs.length ≤ cap) : regionOKB (vecRegion bs cap odd) = true := by
  simp [regionOKB, vecRegion, h1]; omega

theorem rdL_vecRegion (R : List Region) {bs : List Byte} {cap : Nat} (odd : Bool) (hl : bs.length ≤ cap) :
    rdL (R ++ [vecRegion bs cap odd]) (some R.length) 0 bs.length = some bs := by
  apply rdL_some_of (List.getElem?_concat_length) rfl
  · simpa [vecRegion] using hl
  · simp [vecRegion]

theorem handleOKL_fresh_mut (R : List Region) (C : List CtrlE) {bs : List Byte} {cap : Nat} (odd : Bool)
    (orig : Nat) (hl : bs.length ≤ cap) :
    handleOKL (R ++ [vecRegion bs cap odd]) C (.mut none (some R.length) 0 bs.length cap orig) = true := by
  refine handleOKL_mutV.mpr ⟨hl, Nat.zero_le _, ⟨?_, ?_⟩, ?_⟩
  · simp [isHeapLiveL_new, vecRegion]
  · simp [regionSizeL_new, vecRegion]
  · simp [rdL_vecRegion R odd hl]

theorem handleOKL_fresh_vec (R : List Region) (C : List CtrlE) {bs : List Byte} {cap : Nat} (odd : Bool)
    (hl : bs.length ≤ cap) :
    handleOKL (R ++ [vecRegion bs cap odd]) C (.vec (some R.length) bs.length cap) = true := by
  refine handleOKL_vec.mpr ⟨hl, ⟨?_, ?_⟩, ?_⟩
  · simp [isHeapLiveL_new, vecRegion]
  · simp [regionSizeL_new, vecRegion]
  · simp [rdL_vecRegion R odd hl]

/-- Registering a fresh vector / KIND_VEC BytesMut holding `bs` (`Vec::with_capacity` + copy): the
whole outcome of `vecNew e bs cap` followed by `newHandle (mk r)`.  `mk` is `fun r => .vec r n cap` or
`fun r => mutFromVec r n cap`. -/
theorem push_vec_spec {s : St} (hI : Inv s) (e : Env) (bs : List Byte) (cap : Nat) (hl : bs.length ≤ cap)
    (mk : Option Nat → Handle)
    (hmk : (∀ r, mk r = .vec r bs.length cap) ∨
           (∃ orig, ∀ r, mk r = .mut none r 0 bs.length cap orig)) :
    (vecNew e bs cap s = .panic s) ∨
    ∃ r s1, vecNew e bs cap s = .ok r s1 ∧
      (∀ ev, Inv ⟨s1.regions, s1.ctrls, s1.hs ++ [some (mk r)], s1.owners, ev⟩) ∧
      s1.hs = s.hs ∧
      (∀ (j : Nat) (b : Handle), s.hs[j]? = some (some b) → viewOfL s1.regions b = viewOfL s.regions b) ∧
      viewOfL s1.regions (mk r) = some bs := by
  -- both kinds of handle hold nothing but the region `r`, which they span from offset 0
  have hc : ∀ r, ctrlOf (mk r) = none := fun r => by
    rcases hmk with hmk | ⟨orig, hmk⟩ <;> rw [hmk] <;> rfl
  have hd : ∀ r, directRegion (mk r) = r := fun r => by
    rcases hmk with hmk | ⟨orig, hmk⟩ <;> rw [hmk] <;> rfl
  have hsp : ∀ r0 r o l, span (mk r0) = some (r, o, l) → r0 = some r := fun r0 r o l h => by
    rcases hmk with hmk | ⟨orig, hmk⟩ <;> rw [hmk] at h <;> cases r0 <;> cases h <;> rfl
  have hview : ∀ R r, viewOfL R (mk r) = rdL R r 0 bs.length := fun R r => by
    rcases hmk with hmk | ⟨orig, hmk⟩ <;> rw [hmk] <;> rfl
  rcases vecNew_cases e bs cap s with ⟨h0, heq⟩ | ⟨_, heq⟩ | ⟨h0, h1, _⟩
  · -- no allocation
    subst h0
    cases List.eq_nil_of_length_eq_zero (Nat.le_zero.mp hl)
    refine .inr ⟨none, s, heq, fun ev => ?_, rfl, fun _ _ _ => rfl, (hview _ _).trans (rdL_zero _ _ _)⟩
    refine Inv_push_plain_nospan hI (hc _) (hd _) ?_ (statOK_of_mutable ?_)
      (fun r o l h => nomatch hsp none r o l h) ev
    · rcases hmk with hmk | ⟨orig, hmk⟩ <;> rw [hmk]
      · exact handleOKL_vec.mpr ⟨Nat.le_refl _, rfl, rfl⟩
      · exact handleOKL_mutV.mpr ⟨Nat.le_refl _, Nat.zero_le _, rfl, rfl⟩
    · rcases hmk with hmk | ⟨orig, hmk⟩ <;> rw [hmk] <;> rfl
  · exact .inl heq
  · refine .inr ⟨_, _, vecNew_eq e bs h0 h1 s, fun ev => ?_, rfl, fun _ _ hj => hI.view_append _ hj,
      (hview _ _).trans (rdL_vecRegion _ _ hl)⟩
    refine (Inv_push_fresh hI (vecRegion_ok (bs := bs) (e.odd s.regions.length) h0 h1 hl) rfl rfl
      (hc _) (hd _) (fun r o l h => (Option.some.inj (hsp _ r o l h)).symm) ?_ ev).1
    rcases hmk with hmk | ⟨orig, hmk⟩ <;> rw [hmk]
    · exact handleOKL_fresh_vec _ _ _ hl
    · exact handleOKL_fresh_mut _ _ _ _ hl

/-- `.mut _ reg o l c _` is a piece of `.mut _ reg off len cap _`: its capacity range lies in
`[off, off+cap)` and its view in the initialised part `[off, off+len)` -/
def MSub (off len cap o l c : Nat) : Prop :=
  off ≤ o ∧ o + c ≤ off + cap ∧ l ≤ c ∧ (l = 0 ∨ o + l ≤ off + len)

theorem spanSub_mut {arc arc' : Option Nat} {reg : Option Nat} {off len cap orig o l c orig' : Nat}
    (hs : MSub off len cap o l c) :
    spanSub (.mut arc' reg o l c orig') (.mut arc reg off len cap orig) := by
  intro r o' l' h hl
  cases reg with
  | none => simp [span] at h
  | some r' =>
    simp only [span, Option.some.injEq, Prod.mk.injEq] at h
    obtain ⟨rfl, rfl, rfl⟩ := h
    exact ⟨off, cap, rfl, hs.1, hs.2.1⟩

theorem msub_head {off len cap k : Nat} (hk : k ≤ len) (hlc : len ≤ cap) : MSub off len cap off k k :=
  ⟨Nat.le_refl _, Nat.add_le_add_left (Nat.le_trans hk hlc) off, Nat.le_refl _,
    .inr (Nat.add_le_add_left hk off)⟩

theorem msub_tail {off len cap k : Nat} (hk : k ≤ len) (hlc : len ≤ cap) :
    MSub off len cap (off + k) (len - k) (cap - k) :=
  ⟨Nat.le_add_right _ _, Nat.le_of_eq (add_add_sub (Nat.le_trans hk hlc)), Nat.sub_le_sub_right hlc k,
    .inr (Nat.le_of_eq (add_add_sub hk))⟩

/-- `shallow_clone` of the `BytesMut` in slot `i`: both results are KIND_ARC handles on a control
block `c` whose count already includes the clone; if the handle was KIND_VEC it has been promoted
(`promote_to_shared(2)`) — slot `i` itself is only rewritten by the caller.  Continuation clause:
installing two exclusive pieces re-establishes the invariant (`split_off`, `split_to`, `split`). -/
theorem mutShallowClone_spec {s : St} (hI : Inv s) {i : Nat} {arc reg : Option Nat}
    {off len cap orig : Nat} (hi : s.hs[i]? = some (some (.mut arc reg off len cap orig))) :
    ∃ (c : Nat) (C' : List CtrlE) (ev : List Ev),
      mutShallowClone (.mut arc reg off len cap orig) s =
        .ok (.mut (some c) reg off len cap orig, .mut (some c) reg off len cap orig)
          ⟨s.regions, C', s.hs, s.owners, ev⟩ ∧
      ∀ (o1 l1 c1 o2 l2 c2 : Nat) (ev' : List Ev), MSub off len cap o1 l1 c1 → MSub off len cap o2 l2 c2 →
        (o1 + c1 ≤ o2 ∨ o2 + c2 ≤ o1) →
        Inv ⟨s.regions, C',
          s.hs.set i (some (.mut (some c) reg o1 l1 c1 orig)) ++ [some (.mut (some c) reg o2 l2 c2 orig)],
          s.owners, ev'⟩ := by
  have hok := hI.hok i _ hi
  have hrd0 : (rdL s.regions reg off len).isSome = true := handleOKL_rd hok
  have hrd : ∀ o l c, MSub off len cap o l c → (rdL s.regions reg o l).isSome = true := by
    intro o l c hm
    rcases hm.2.2.2 with h0 | h1
    · subst h0; rw [rdL_zero]; rfl
    · exact rdL_isSome_sub hrd0 ⟨hm.1, h1⟩
  have hdisj : ∀ {a1 a2 : Option Nat} {o1 l1 c1 o2 l2 c2 g1 g2 : Nat}, (o1 + c1 ≤ o2 ∨ o2 + c2 ≤ o1) →
      disjointB (.mut a1 reg o1 l1 c1 g1) (.mut a2 reg o2 l2 c2 g2) = true := by
    intro a1 a2 o1 l1 c1 o2 l2 c2 g1 g2 h
    refine disjointB_iff.mpr fun r o l r' o' l' h1 h2 => ?_
    cases reg with
    | none => cases h1
    | some r0 => cases h1; cases h2; exact .inr (.inr (.inr h))
  cases arc with
  | some c =>
    obtain ⟨hlc, ⟨vlen, vcap, vorig, hlive, hcap⟩, _⟩ := handleOKL_mutA.mp hok
    obtain ⟨e, he, hl, _⟩ := hI.ctrl_of_handle hi (c := c) rfl
    refine ⟨c, s.ctrls.set c { e with rc := e.rc + 1 }, s.events,
      by rw [mutShallowClone, bind_apply, incCtrl_eq he hl]; rfl, ?_⟩
    intro o1 l1 c1 o2 l2 c2 ev' m1 m2 hd
    have okp : ∀ o l cc, MSub off len cap o l cc →
        handleOKL s.regions s.ctrls (.mut (some c) reg o l cc orig) = true := fun o l cc hm =>
      handleOKL_mutA.mpr ⟨hm.2.2.1, ⟨vlen, vcap, vorig, hlive, Nat.le_trans hm.2.1 hcap⟩, hrd o l cc hm⟩
    exact Inv_set_push_share hI hi he rfl rfl rfl (okp _ _ _ m1) (okp _ _ _ m2)
      (spanSub_mut m1) (spanSub_mut m2) (fun _ => rfl) (fun _ => rfl)
      (fun _ => hdisj hd) (fun _ => hdisj hd.symm) ev'
  | none =>
    obtain ⟨hlc, hoffb, hregc, _⟩ := handleOKL_mutV.mp hok
    let c := s.ctrls.length
    let ct := Ctrl.sharedV reg (off + len) (off + cap) orig
    refine ⟨c, s.ctrls ++ [⟨ct, 2, true⟩], .allocCtrl c :: s.events,
      rfl, ?_⟩
    intro o1 l1 c1 o2 l2 c2 ev' m1 m2 hd
    have okp : ∀ o l cc, MSub off len cap o l cc →
        handleOKL s.regions (s.ctrls ++ [⟨ct, 1, true⟩]) (.mut (some c) reg o l cc orig) = true :=
      fun o l cc hm => handleOKL_mutA.mpr
        ⟨hm.2.2.1, ⟨off + len, off + cap, orig, liveCtrlL_new _ _, hm.2.1⟩, hrd o l cc hm⟩
    have hbuf : ctrlBufOK s.regions s.owners ct := by
      cases reg with
      | none => exact hregc
      | some r => exact ⟨hregc.1, hregc.2.symm⟩
    have hfull : MSub off len cap off len cap := ⟨Nat.le_refl _, Nat.le_refl _, hlc, .inr (Nat.le_refl _)⟩
    exact Inv_promote_share hI (h' := .mut (some c) reg off len cap orig) hi rfl
      (by cases reg <;> rfl) rfl (spanSub_mut hfull) (fun h => h) (okp _ _ _ hfull) hbuf
      (fun _ h => nomatch h) rfl rfl (okp _ _ _ m1) (okp _ _ _ m2)
      (spanSub_mut m1) (spanSub_mut m2) (fun _ => rfl) (fun _ => rfl)
      (fun _ => hdisj hd) (fun _ => hdisj hd.symm) ev'

theorem mutAdvanceUnchecked_arc (cfg : Cfg) {c : Nat} {reg : Option Nat} {off len cap orig k : Nat}
    (hk : k ≤ cap) (s : St) :
    mutAdvanceUnchecked cfg (.mut (some c) reg off len cap orig) k s =
      .ok (.mut (some c) reg (off + k) (len - k) (cap - k) orig) s := by
  by_cases h0 : k = 0
  · subst h0; simp [mutAdvanceUnchecked]
  · simp [mutAdvanceUnchecked, h0, dassert_eq cfg (cond := decide (k ≤ cap)) (by simpa using hk),
      usub_eq cfg hk]

/-- `advance_unchecked(k)` on a KIND_VEC handle whose new position still fits the `VEC_POS` field -/
theorem mutAdvanceUnchecked_vec (cfg : Cfg) {reg : Option Nat} {off len cap orig k : Nat}
    (hk : k ≤ cap) (hpos : off + k ≤ W / 32 - 1) (s : St) :
    mutAdvanceUnchecked cfg (.mut none reg off len cap orig) k s =
      .ok (.mut none reg (off + k) (len - k) (cap - k) orig) s := by
  by_cases h0 : k = 0
  · subst h0; simp [mutAdvanceUnchecked]
  · simp [mutAdvanceUnchecked, h0, dassert_eq cfg (cond := decide (k ≤ cap)) (by simpa using hk),
      usub_eq cfg hk, hpos]

/-- … and when it does not: `promote_to_shared(1)` -/
theorem mutAdvanceUnchecked_promote (cfg : Cfg) {reg : Option Nat} {off len cap orig k : Nat}
    (hk : k ≤ cap) (h0 : k ≠ 0) (hpos : ¬ off + k ≤ W / 32 - 1) (s : St) :
    mutAdvanceUnchecked cfg (.mut none reg off len cap orig) k s =
      .ok (.mut (some s.ctrls.length) reg (off + k) (len - k) (cap - k) orig)
        { s with ctrls := s.ctrls ++ [⟨.sharedV reg (off + len) (off + cap) orig, 1, true⟩],
                 events := .allocCtrl s.ctrls.length :: s.events } := by
  simp [mutAdvanceUnchecked, h0, dassert_eq cfg (cond := decide (k ≤ cap)) (by simpa using hk),
    usub_eq cfg hk, hpos, newCtrl]

/-- `m`, stored in slot `i` of `s1`, is a `k` holding `v`; the invariant holds, and every other slot
shows what it showed when the regions were `R` (the handles are `H` throughout: a conversion computes
`m` first and stores it last). -/
structure Installs (R : List Region) (H : List (Option Handle)) (i : Nat) (k : Kind) (v : List Byte)
    (m : Handle) (s1 : St) : Prop where
  inv : Inv { s1 with hs := H.set i (some m) }
  hs : s1.hs = H
  kind : kindOf m = k
  view : viewOfL s1.regions m = some v
  frame : ∀ (j : Nat) (b : Handle), j ≠ i → H[j]? = some (some b) → viewOfL s1.regions b = viewOfL R b

theorem Installs.finish {R : List Region} {H : List (Option Handle)} {i : Nat} {k : Kind} {v : List Byte}
    {m : Handle} {s1 : St} (h : Installs R H i k v m s1) :
    WFx { s1 with hs := s1.hs.set i (some m) } ∧
    abs { s1 with hs := s1.hs.set i (some m) } = (absL R H).set i (some ⟨k, v⟩) := by
  rw [h.hs]
  refine finish_ok h.inv ?_
  show absL s1.regions (H.set i (some m)) = _
  rw [absL_set_of_view _ h.frame]
  simp only [Option.bind_some, h.view, Option.map_some, h.kind]

/-- the converted handle is stored and returned -/
theorem Installs.stepOK {op : Op} {s s1 : St} {i : Nat} {k : Kind} {v : List Byte} {m : Handle}
    {Qp : St → Prop} (h : Installs s.regions s.hs i k v m s1)
    (hspec : Spec.stepOk op (.handle i) (abs s) = (absL s.regions s.hs).set i (some ⟨k, v⟩)) :
    ((setHandle i m >>= fun _ => pure (Val.handle i)) s1).sat
      (fun x s' => WFx s' ∧ abs s' = Spec.stepOk op x (abs s)) Qp :=
  ⟨h.finish.1, h.finish.2.trans hspec.symm⟩

/-- the end of `into_vec` / `into_mut` / `try_into_mut`: a conversion that panics leaves the state alone -/
theorem sat_install {op : Op} {s : St} {i : Nat} {k : Kind} {v : List Byte} (hw : WFx s)
    (hp : Spec.stepPanic op (abs s) = abs s)
    (hspec : Spec.stepOk op (.handle i) (abs s) = (absL s.regions s.hs).set i (some ⟨k, v⟩))
    {conv : M Handle} (h : (conv s).sat (Installs s.regions s.hs i k v) (· = s)) :
    ((conv >>= fun m => setHandle i m >>= fun _ => pure (Val.handle i)) s).sat
      (fun x s' => WFx s' ∧ abs s' = Spec.stepOk op x (abs s))
      (fun s' => WFx s' ∧ abs s' = Spec.stepPanic op (abs s)) := by
  refine (sat_bind _ _ _ _ _).mpr (R.sat_mono h (fun m s1 hm => hm.stepOK hspec) ?_)
  rintro _ rfl
  exact ⟨hw, hp.symm⟩

/-- `BytesMut::from_vec`: the `Vec` computed for slot `i` becomes the KIND_VEC `BytesMut` on the same buffer -/
theorem Installs.fromVec {R : List Region} {H : List (Option Handle)} {i : Nat} {v : List Byte}
    {r : Option Nat} {len cap : Nat} {s1 : St} (hlt : i < H.length)
    (h : Installs R H i .vec v (.vec r len cap) s1) : Installs R H i .mut v (mutFromVec r len cap) s1 := by
  have hi : (H.set i (some (.vec r len cap)))[i]? = some (some (.vec r len cap)) :=
    List.getElem?_set_self hlt
  obtain ⟨hlc, hbuf, hrd⟩ := handleOKL_vec.mp (h.inv.hok i _ hi)
  have hsub : spanSub (mutFromVec r len cap) (.vec r len cap) := by
    cases r with
    | none => exact spanSub_refl (.vec none len cap)
    | some r => exact spanSub_refl (.vec (some r) len cap)
  have hI' := Inv_set_sub h.inv hi (h' := mutFromVec r len cap) rfl rfl
    (handleOKL_mutV.mpr ⟨hlc, Nat.zero_le _, by rw [Nat.zero_add]; exact hbuf, hrd⟩) trivial hsub
    (fun _ => rfl) s1.events
  simp only [List.set_set] at hI'
  exact ⟨hI', h.hs, rfl, h.view, h.frame⟩

/-- `Inv_sole_set` for a conversion: the invariant is known with `h` in slot `i` (which may stand for
what the slot holds after a control block has handed over its buffer) -/
theorem Installs.of_sole {s : St} {i : Nat} {h m : Handle} (hI : Inv { s with hs := s.hs.set i (some h) })
    (hlt : i < s.hs.length) {R' : List Region} {P : Nat → Prop} (hR : MetaEq s.regions R' P)
    (hsole : ∀ r, P r → ∀ (j : Nat) (b : Handle), j ≠ i → (s.hs.set i (some h))[j]? = some (some b) →
      ¬ Anchor s.regions s.ctrls b r)
    (hc : ctrlOf m = ctrlOf h) (hd : directRegion m = directRegion h)
    (ok : handleOKL R' s.ctrls m = true) (st : statOK R' m)
    (hsp : ∀ r o l, span m = some (r, o, l) → l ≠ 0 → P r) {v : List Byte} (hv : viewOfL R' m = some v) :
    Installs s.regions s.hs i (kindOf m) v m { s with regions := R' } := by
  obtain ⟨hI', hview⟩ := Inv_sole_set hI (List.getElem?_set_self hlt) hR hsole hc hd ok st hsp s.events
  simp only [List.set_set] at hI'
  exact ⟨hI', rfl, rfl, hv,
    fun j b hji hj => hview j b hji (by rw [List.getElem?_set_ne (Ne.symm hji)]; exact hj)⟩

/-- `ptr::copy(ptr, base, len)`: a readable range is copied to the start of its live heap region (whose other
properties stay as they are) and reads back there -/
theorem copyWithin_front {R : List Region}
    (hR : ∀ (r : Nat) (rg : Region), R[r]? = some rg → regionOKB rg = true)
    {r off len : Nat} {v : List Byte} (hlive : isHeapLiveL R r = true)
    (hv : rdL R (some r) off len = some v) :
    ∃ R', (∀ s : St, s.regions = R → copyWithin (some r) off 0 len s = .ok () { s with regions := R' }) ∧
      MetaEq R R' (fun r' => r' = r) ∧ rdL R' (some r) 0 len = some v := by
  obtain ⟨rg, k, hr, hl, hk⟩ := isHeapLiveL_iff.mp hlive
  have hvl := rdL_length hR hv
  subst hvl
  by_cases h0 : v.length = 0
  · cases List.eq_nil_of_length_eq_zero h0
    exact ⟨R, fun s hs => hs ▸ copyWithin_zero _ _ _ s, MetaEq.refl hR _, rdL_zero _ _ _⟩
  · rcases rdL_eq_some_iff.mp hv with ⟨h, _⟩ | ⟨_, r', rg', hr1, hr2, _, hb, _⟩
    · exact (h0 h).elim
    cases hr1; rw [hr] at hr2; cases hr2
    have hfit : 0 + v.length ≤ rg.size := by
      rw [Nat.zero_add]; exact Nat.le_trans (Nat.le_add_left _ off) hb
    exact ⟨_, fun s hs => hs ▸ copyWithin_eq h0 (hs ▸ hv) rfl (hs ▸ hr) hl hfit hk, MetaEq.write hR hr hfit,
      rdL_write_same hr hl hfit (region_size_le hR hr).2⟩

/-- `Bytes::from(Vec<u8>)` on the buffer `(reg, off + len, cap)` that slot `i` owns directly, followed by
`advance(off)`: the slot becomes a `Bytes` on `[off, off + len)` -- STATIC if the buffer is empty,
promotable if it is full, SHARED on a fresh control block otherwise. -/
theorem bytes_of_direct {s : St} (hI : Inv s) {i : Nat} {h : Handle} {reg : Option Nat}
    {off len cap : Nat} {v : List Byte}
    (hbuf : match reg with
      | none => cap = 0
      | some r => isHeapLiveL s.regions r = true ∧ cap = regionSizeL s.regions r)
    (hi : s.hs[i]? = some (some h)) (hc : ctrlOf h = none) (hd : directRegion h = reg)
    (hv : rdL s.regions reg off len = some v) (hle : off + len ≤ cap)
    (hsub : ∀ repr, spanSub (.bytes repr reg off len) h) :
    ∃ repr s1, bytesFromVec reg (off + len) cap s = .ok (.bytes repr reg 0 (off + len)) s1 ∧
      Installs s.regions s.hs i .bytes v (.bytes repr reg off len) s1 := by
  have hrd : (rdL s.regions reg off len).isSome = true := by rw [hv]; rfl
  have himm : ∀ repr, isMutable (.bytes repr reg off len) = true → isMutable h = true :=
    fun _ hm => (Bool.false_ne_true hm).elim
  -- the two representations that keep owning the buffer directly
  have keep : ∀ repr, ctrlOf (.bytes repr reg off len) = none → directRegion (.bytes repr reg off len) = reg →
      handleOKL s.regions s.ctrls (.bytes repr reg off len) = true → statOK s.regions (.bytes repr reg off len) →
      Installs s.regions s.hs i .bytes v (.bytes repr reg off len) s := fun repr h1 h2 ok st =>
    ⟨Inv_set_sub hI hi (h1.trans hc.symm) (h2.trans hd.symm) ok st (hsub _) (himm _) _, rfl, rfl, hv,
      fun _ _ _ _ => rfl⟩
  cases reg with
  | none =>
    -- no allocation: `cap = 0`, the empty boxed slice becomes a STATIC handle
    subst hbuf
    have h0 : off + len = 0 := Nat.le_zero.mp hle
    exact ⟨.static, s, by simp only [bytesFromVec, h0, if_true, pure_apply],
      keep _ rfl rfl (handleOKL_static.mpr hrd) trivial⟩
  | some r =>
    simp only at hbuf
    have hpos := heap_size_pos hI.regs hbuf.1
    by_cases hl : off + len = cap
    · -- `len == cap`: `into_boxed_slice` does not reallocate; promotable, vtable by address parity
      subst hl
      exact ⟨.prom (regionOddL s.regions r) none, s,
        by simp only [bytesFromVec, hbuf.2, hpos, if_true, if_false, bind_apply, regionOdd_eq hbuf.1,
          pure_apply],
        keep _ rfl rfl (handleOKL_promV.mpr ⟨⟨r, rfl, hbuf.1, hbuf.2, rfl⟩, hrd⟩) trivial⟩
    · -- spare capacity: the buffer moves into a fresh `Shared` block with count 1
      refine ⟨.shared s.ctrls.length, _,
        by simp only [bytesFromVec, hl, if_false, bind_apply, newCtrl_apply, pure_apply]; rfl, ?_⟩
      exact ⟨Inv_promote hI hi (h' := .bytes (.shared s.ctrls.length) (some r) off len)
        (ct := .sharedB r cap) hc hd rfl (hsub _) (himm _)
        (handleOKL_shared.mpr ⟨⟨r, cap, liveCtrlL_new _ _, rfl, hle⟩, hrd⟩)
        ⟨hbuf.1, hbuf.2.symm⟩ (fun o h => Ctrl.noConfusion h) _, rfl, rfl, hv, fun _ _ _ _ => rfl⟩

/-- the vtable's `is_unique` never fails on a live `Bytes` and does not touch the state -/
theorem bytesIsUnique_ok {s : St} (hI : Inv s) {i : Nat} {repr : BRepr} {reg : Option Nat} {off len : Nat}
    (hi : s.hs[i]? = some (some (.bytes repr reg off len))) :
    ∃ b, bytesIsUnique (.bytes repr reg off len) s = .ok b s := by
  have share : ∀ c, ctrlOf (.bytes repr reg off len) = some c → ∃ b, ctrlIsUnique c s = .ok b s := by
    intro c hc
    obtain ⟨e0, he, hl, _⟩ := hI.ctrl_of_handle hi hc
    exact ⟨_, ctrlIsUnique_eq he hl⟩
  cases repr with
  | «static» => exact ⟨false, rfl⟩
  | owned c => exact ⟨false, rfl⟩
  | shared c => exact share c rfl
  | sharedV c => exact share c rfl
  | prom vt oc =>
    cases oc with
    | none => exact ⟨true, rfl⟩
    | some c => exact share c rfl

end BytesVerif.Core
