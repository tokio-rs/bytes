/-
Facts about the reference model (`Spec.get` under `setAt` / append,
framing of `Spec.stepOk` / `Spec.stepPanic`, sub-range property of the operations on a `Bytes`
value) and the model-side fact that the writing operations reject a `Bytes` handle.
-/
import BytesVerif.Lemmas.Core.Sound
namespace BytesVerif.Core

/-- handles whose value in the reference model an operation may change (everything else is framed); `reserve`,
`tryReclaim`, `fillSpare`, `isUnique` take a handle but leave its value as it is -/
def touched : Op → List Nat
  | .fromVec i | .splitOff i _ | .splitTo i _ | .split i | .truncate i _ | .clear i | .advance i _
  | .tryIntoMut i | .intoMut i | .intoVec i | .freeze i | .extend i _ | .resize i _ _ | .setByte i _ _ | .drop i => [i]
  | .unsplit i j => [i, j]
  | _ => []

namespace PropC01

theorem get_lt {a : Spec.St} {j : Nat} {x : SH} (h : Spec.get a j = some x) : j < a.length := by
  unfold Spec.get at h
  cases hj : a[j]? with
  | none => simp [hj] at h
  | some _ => exact (List.getElem?_eq_some_iff.mp hj).1

theorem get_append {a : Spec.St} {j : Nat} (h : j < a.length) (b : Spec.St) :
    Spec.get (a ++ b) j = Spec.get a j := by
  simp [Spec.get, List.getElem?_append_left h]

theorem get_setAt_ne {a : Spec.St} {i j : Nat} (h : ¬ j = i) (v : Option SH) :
    Spec.get (Spec.setAt a i v) j = Spec.get a j := by
  simp [Spec.get, Spec.setAt, Ne.symm h]

theorem get_setAt_eq {a : Spec.St} {j : Nat} (h : j < a.length) (v : Option SH) :
    Spec.get (Spec.setAt a j v) j = v := by
  simp [Spec.get, Spec.setAt, h]

theorem length_setAt (a : Spec.St) (i : Nat) (v : Option SH) : (Spec.setAt a i v).length = a.length := by
  simp [Spec.setAt]

def upd (s : Spec.St) (i : Nat) (f : SH → SH) : Spec.St :=
  match Spec.get s i with
  | some h => Spec.setAt s i (some (f h))
  | none => s

theorem get_upd_ne {a : Spec.St} {i j : Nat} (h : i ≠ j) (f : SH → SH) :
    Spec.get (upd a i f) j = Spec.get a j := by
  unfold upd
  split
  · exact get_setAt_ne h.symm _
  · rfl

theorem get_upd_eq {a : Spec.St} {j : Nat} {x : SH} (h : Spec.get a j = some x) (f : SH → SH) :
    Spec.get (upd a j f) j = some (f x) := by
  unfold upd
  rw [h]
  exact get_setAt_eq (get_lt h) _

/-- operations that write into handle `j` (and therefore are rejected by the model on a `Bytes`) -/
def writesTo (j : Nat) : Op → Prop
  | .extend i _ | .resize i _ _ | .setByte i _ _ | .unsplit i _ => i = j
  | _ => False

instance (j : Nat) (op : Op) : Decidable (writesTo j op) := by
  cases op <;> simp only [writesTo] <;> infer_instance

theorem sub_drop (l : List Byte) (k : Nat) : l.drop k = (l.drop k).take l.length := by
  rw [List.take_of_length_le]
  simp

/-- a panic changes the reference state only in `unsplit` of two live `BytesMut`: the argument is
consumed -/
theorem stepPanic_cases (op : Op) (a : Spec.St) : Spec.stepPanic op a = a ∨
    ∃ i k q, op = .unsplit i k ∧ Spec.get a k = some q ∧ q.kind = .mut ∧
      Spec.stepPanic op a = Spec.setAt a k none := by
  cases op
  case unsplit i k =>
    simp only [Spec.stepPanic]
    split
    · next p q hp hq =>
      split
      · next hc => exact .inr ⟨i, k, q, rfl, hq, hc.2.2, rfl⟩
      · exact .inl rfl
    · exact .inl rfl
  all_goals exact .inl rfl

/-- a panic never changes what a `Bytes` handle reads (the handle consumed by a panicking `unsplit`
is a `BytesMut`) -/
theorem immut_panic (op : Op) (a : Spec.St) (j : Nat) (x : SH) (hx : Spec.get a j = some x)
    (hk : x.kind = .bytes) : Spec.get (Spec.stepPanic op a) j = some x := by
  rcases stepPanic_cases op a with h | ⟨i, k, q, rfl, hq, hm, h⟩
  · rw [h]; exact hx
  · have hjk : ¬ j = k := fun e => by
      rw [e, hq] at hx; cases hx; rw [hk] at hm; cases hm
    rw [h, get_setAt_ne hjk]
    exact hx

/-- slot `j` is below `a.length`, so neither an append nor a `setAt` at a touched index reaches it -/
theorem frame_ok (op : Op) (v : Val) (a : Spec.St) (j : Nat) (hj : j ∉ touched op) (x : SH)
    (hx : Spec.get a j = some x) : Spec.get (Spec.stepOk op v a) j = some x := by
  have hlt := get_lt hx
  cases op <;> dsimp only [Spec.stepOk, touched] at hj ⊢
  all_goals (repeat' split)
  all_goals first
    | with_reducible exact hx
    | (simp only [List.mem_cons, List.not_mem_nil, or_false, not_or] at hj
       simp only [get_append, get_setAt_ne, length_setAt, hlt, hx, hj, not_false_eq_true])

theorem frame_panic (op : Op) (a : Spec.St) (j : Nat) (hj : j ∉ touched op) (x : SH)
    (hx : Spec.get a j = some x) : Spec.get (Spec.stepPanic op a) j = some x := by
  rcases stepPanic_cases op a with h | ⟨i, k, q, rfl, _, _, h⟩
  · rw [h]; exact hx
  · rw [h, get_setAt_ne (fun e => hj (by rw [e]; exact List.mem_cons_of_mem _ List.mem_cons_self))]
    exact hx

/-- every operation of the reference model other than the writing ones leaves in slot `j` a
sub-range of what was there -/
theorem immut_ok (op : Op) (v : Val) (a : Spec.St) (j : Nat) (hw : ¬ writesTo j op) (x : SH)
    (hx : Spec.get a j = some x) :
    ∀ y, Spec.get (Spec.stepOk op v a) j = some y → ∃ lo n, y.val = (x.val.drop lo).take n := by
  have hlt := get_lt hx
  have whole : x.val = (x.val.drop 0).take x.val.length := by rw [List.drop_zero, List.take_length]
  have sub : ∀ (w : SH) (lo n : Nat), w.val = (x.val.drop lo).take n →
      ∀ y, some w = some y → ∃ lo n, y.val = (x.val.drop lo).take n := by
    intro w lo n hw y hy
    cases hy
    exact ⟨lo, n, hw⟩
  by_cases ht : j ∈ touched op
  · cases op <;> simp only [touched, List.mem_cons, List.not_mem_nil, or_false] at ht <;>
      (try exact ht.elim) <;> simp only [writesTo] at hw
    all_goals (try subst ht)
    all_goals simp only [Spec.stepOk, hx, get_append, get_setAt_eq, length_setAt, hlt]
    case fromVec | intoMut | intoVec | freeze => exact sub _ 0 x.val.length whole
    case splitOff k | truncate k => exact sub _ 0 k (by rw [List.drop_zero])
    case splitTo k | advance k => exact sub _ k x.val.length (sub_drop _ _)
    case split | clear => exact sub _ 0 0 rfl
    case tryIntoMut =>
      split <;> simp only [hx, get_setAt_eq, hlt]
      · exact sub _ 0 x.val.length whole
      · exact sub x 0 x.val.length whole
    case extend | resize | setByte => exact (hw rfl).elim
    case drop => exact fun _ hy => nomatch hy
    case unsplit i k =>
      have hk : j = k := ht.elim (fun h => (hw h.symm).elim) id
      subst hk
      split <;> simp only [hx, get_setAt_eq, length_setAt, hlt]
      · exact fun _ hy => nomatch hy
      · exact sub x 0 x.val.length whole
  · rw [frame_ok op v a j ht x hx]
    exact sub x 0 x.val.length whole

theorem bytes_of_abs {s : St} {j : Nat} {x : SH} (hx : Spec.get (abs s) j = some x)
    (hk : x.kind = .bytes) :
    ∃ repr reg off len, s.hs[j]? = some (some (.bytes repr reg off len)) := by
  unfold Spec.get abs at hx
  rw [List.getElem?_map] at hx
  cases hj : s.hs[j]? with
  | none => simp [hj] at hx
  | some oh =>
    cases oh with
    | none => simp [hj] at hx
    | some h =>
      simp only [hj, Option.map_some, Option.join_some, Option.bind_some] at hx
      cases hv : viewOf s h with
      | none => simp [hv] at hx
      | some bs =>
        simp only [hv, Option.map_some, Option.some.injEq] at hx
        subst hx
        cases h with
        | bytes repr reg off len => exact ⟨repr, reg, off, len, rfl⟩
        | «mut» | vec => simp [kindOf] at hk

theorem writes_panic (cfg : Cfg) (e : Env) (op : Op) (s : St) (j : Nat) {repr : BRepr}
    {reg : Option Nat} {off len : Nat} (h : s.hs[j]? = some (some (.bytes repr reg off len)))
    (hw : writesTo j op) : step cfg e op s = .panic s := by
  cases op <;> simp only [writesTo] at hw
  all_goals subst hw
  all_goals rw [step]
  case extend | resize | setByte => rw [bind_apply, getHandle_eq h]; rfl
  case unsplit i k =>
    by_cases hik : i = k
    · rw [if_pos hik]; rfl
    · rw [if_neg hik, bind_apply, getHandle_eq h]
      dsimp only
      rw [bind_apply]
      rcases getHandle_cases s k with ⟨o, _, ho⟩ | ⟨_, ho⟩ <;> rw [ho] <;> rfl

end PropC01
end BytesVerif.Core
