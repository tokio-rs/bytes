/-
The vocabulary of C07 (zero-copy sharing: `addrOf`, `lenOf`, `shift`, `NoCopy`) and what the operations do to
it.

The properties of C07 only speak about normal (`ok`) outcomes, the handle table, the `data`/`size`
of regions and the kind of the new events.  Almost all of it is independent of the invariant: we
invert the execution (`m s = .ok a s'`) primitive by primitive.

  NC s s'        no `alloc` event appended, every region keeps `data` and `size`
  Fr s s'        `NC s s'` and the handle table is untouched
  FrM m          every normal outcome of `m` is `Fr`-related to its start state (closed under
                 `bind`/`ite`/`pure`; holds for all reference-count primitives and the drops)
  *_ok           inversion lemmas of the shared helpers (`bytesClone`, `bytesSplitOffCore`,
                 `mutShallowClone`, `mutAdvanceUnchecked`, `bytesFromVec`, `opTruncate`, …)

Only `tryIntoMut` on a SHARED/promoted handle needs the invariant (the handle's region is the one
recorded in its control block).
-/
import BytesVerif.Lemmas.Core.PropC08
namespace BytesVerif.Core

variable {α β : Type}

def addrOf : Handle → Option Nat × Nat
  | .bytes _ reg off _ => (reg, off)
  | .mut _ reg off _ _ _ => (reg, off)
  | .vec reg _ _ => (reg, 0)

def lenOf : Handle → Nat
  | .bytes _ _ _ len => len
  | .mut _ _ _ len _ _ => len
  | .vec _ len _ => len

def shift (a : Option Nat × Nat) (k : Nat) : Option Nat × Nat := (a.1, a.2 + k)

theorem addrOf_eq (h : Handle) : addrOf h = (hreg h, hoff h) := by cases h <;> rfl
theorem lenOf_eq (h : Handle) : lenOf h = hlen h := by cases h <;> rfl

/-- no byte buffer allocated and no region's contents changed -/
def NoCopy (s s' : St) : Prop :=
  (∀ ev ∈ s'.events.take (s'.events.length - s.events.length), ∀ r z, ev ≠ .alloc r z) ∧
  (∀ (r : Nat) (rg : Region), s.regions[r]? = some rg → ∃ rg' : Region, s'.regions[r]? = some rg' ∧ rg'.data = rg.data ∧ rg'.size = rg.size)

/-- `NoCopy` with the appended events named instead of cut out by `take`: this form composes (`NC.trans`);
`noCopy` turns it into the form C07 is stated in -/
def NC (s s' : St) : Prop :=
  (∃ new : List Ev, s'.events = new ++ s.events ∧ ∀ ev ∈ new, ∀ r z, ev ≠ Ev.alloc r z) ∧
  (∀ (r : Nat) (rg : Region), s.regions[r]? = some rg →
    ∃ rg' : Region, s'.regions[r]? = some rg' ∧ rg'.data = rg.data ∧ rg'.size = rg.size)

theorem NC.refl (s : St) : NC s s :=
  ⟨⟨[], rfl, PropC08.NoAlloc_nil⟩, fun _ rg h => ⟨rg, h, rfl, rfl⟩⟩

theorem NC.trans {a b c : St} (h1 : NC a b) (h2 : NC b c) : NC a c := by
  obtain ⟨⟨n1, e1, p1⟩, r1⟩ := h1
  obtain ⟨⟨n2, e2, p2⟩, r2⟩ := h2
  refine ⟨⟨n2 ++ n1, by rw [e2, e1, List.append_assoc], PropC08.NoAlloc_append p2 p1⟩, ?_⟩
  intro r rg h
  obtain ⟨rg1, h1, d1, z1⟩ := r1 r rg h
  obtain ⟨rg2, h2, d2, z2⟩ := r2 r rg1 h1
  exact ⟨rg2, h2, d2.trans d1, z2.trans z1⟩

def Fr (s s' : St) : Prop := NC s s' ∧ s'.hs = s.hs

theorem Fr.refl (s : St) : Fr s s := ⟨NC.refl s, rfl⟩
theorem Fr.trans {a b c : St} (h1 : Fr a b) (h2 : Fr b c) : Fr a c :=
  ⟨h1.1.trans h2.1, h2.2.trans h1.2⟩

/-- every normal outcome of `m` leaves the handle table alone, allocates no buffer, moves no byte -/
def FrM (m : M α) : Prop := ∀ s a s1, m s = .ok a s1 → Fr s s1

theorem FrM.bind {m : M α} {f : α → M β} (hm : FrM m) (hf : ∀ a, FrM (f a)) : FrM (m >>= f) := by
  intro s b s' h
  obtain ⟨a, s1, hm', h⟩ := ok_of_bind h
  exact (hm s a s1 hm').trans (hf a s1 b s' h)

theorem FrM.pure (a : α) : FrM (pure a : M α) := by
  intro s b s1 h; cases h; exact Fr.refl _
theorem FrM.panic : FrM (panic : M α) := by intro s b s1 h; cases h
theorem FrM.ub (w : String) : FrM (ub w : M α) := by intro s b s1 h; cases h
theorem FrM.ite {c : Prop} [Decidable c] {m1 m2 : M α} (h1 : FrM m1) (h2 : FrM m2) :
    FrM (if c then m1 else m2) := by
  split
  · exact h1
  · exact h2

theorem FrM_getCtrl (c : Nat) : FrM (getCtrl c) := by
  intro s a s1 h
  obtain ⟨rfl, _⟩ := getCtrl_ok h
  exact Fr.refl _

theorem FrM_getRegion (r : Nat) : FrM (getRegion r) := by
  intro s a s1 h
  obtain ⟨rfl, _⟩ := getRegion_ok h
  exact Fr.refl _

theorem FrM_setCtrl (c : Nat) (e : CtrlE) : FrM (setCtrl c e) := by
  intro s a s1 h; cases h; exact ⟨NC.refl _, rfl⟩

theorem FrM_emit {ev : Ev} (hev : ∀ r z, ev ≠ Ev.alloc r z) : FrM (emit ev) := by
  intro s a s1 h; cases h
  exact ⟨⟨⟨[ev], rfl, PropC08.NoAlloc_cons hev PropC08.NoAlloc_nil⟩,
    fun r rg h => ⟨rg, h, rfl, rfl⟩⟩, rfl⟩

theorem FrM_newCtrl (ct : Ctrl) (rc : Nat) : FrM (newCtrl ct rc) := by
  intro s a s1 h; cases h
  exact ⟨⟨⟨[.allocCtrl s.ctrls.length], rfl, PropC08.NoAlloc_cons nofun PropC08.NoAlloc_nil⟩,
    fun r rg h => ⟨rg, h, rfl, rfl⟩⟩, rfl⟩

theorem FrM_freeCtrl (c : Nat) : FrM (freeCtrl c) := by
  unfold freeCtrl
  exact (FrM_getCtrl c).bind fun e => (FrM_setCtrl _ _).bind fun _ => FrM_emit nofun

theorem FrM_incCtrl (c : Nat) : FrM (incCtrl c) := by
  unfold incCtrl
  exact (FrM_getCtrl c).bind fun e => FrM_setCtrl _ _

theorem FrM_ctrlIsUnique (c : Nat) : FrM (ctrlIsUnique c) := by
  unfold ctrlIsUnique
  exact (FrM_getCtrl c).bind fun e => FrM.pure _

theorem FrM_freeRegion (r size : Nat) : FrM (freeRegion r size) := by
  intro s a s1 h
  unfold freeRegion at h
  obtain ⟨rg, s0, hg, h⟩ := ok_of_bind h
  obtain ⟨hs0, hr⟩ := getRegion_ok hg
  rw [hs0] at h
  rcases ite_ok h with ⟨_, h⟩ | ⟨_, h⟩
  · cases h
  rcases ite_ok h with ⟨_, h⟩ | ⟨_, h⟩
  · cases h
  cases hk : rg.kind <;> rw [hk] at h <;> cases h
  refine ⟨⟨⟨[.dealloc r size], rfl, PropC08.NoAlloc_cons nofun PropC08.NoAlloc_nil⟩, ?_⟩, rfl⟩
  intro r' rg' h'
  by_cases hrr : r = r'
  · subst hrr
    rw [hr] at h'; cases h'
    exact ⟨_, lookup_set_eq _ hr, rfl, rfl⟩
  · exact ⟨rg', (List.getElem?_set_ne hrr).trans h', rfl, rfl⟩

theorem FrM_vecFree (reg : Option Nat) (cap : Nat) : FrM (vecFree reg cap) := by
  unfold vecFree
  cases reg with
  | none => exact FrM.ite (FrM.pure _) (FrM.ub _)
  | some r => exact FrM.ite (FrM.ub _) (FrM_freeRegion _ _)

theorem FrM_killOwner (o : Nat) :
    FrM (modify fun s => { s with regions := s.regions.map (fun rg =>
      if rg.kind = RKind.ownerMem o then { rg with live := false } else rg) }) := by
  intro s a s1 h; cases h
  refine ⟨⟨⟨[], rfl, PropC08.NoAlloc_nil⟩, ?_⟩, rfl⟩
  intro r rg h
  simp only [List.getElem?_map, h, Option.map_some]
  split
  · exact ⟨_, rfl, rfl, rfl⟩
  · exact ⟨_, rfl, rfl, rfl⟩

theorem FrM_releaseCtrl (c : Nat) : FrM (releaseCtrl c) := by
  unfold releaseCtrl
  refine (FrM_getCtrl c).bind fun e => ?_
  refine FrM.ite (FrM.ub _) (FrM.ite (FrM_setCtrl _ _) ((FrM_setCtrl _ _).bind fun _ => ?_))
  split
  · exact (FrM_freeRegion _ _).bind fun _ => FrM_freeCtrl c
  · exact (FrM_vecFree _ _).bind fun _ => FrM_freeCtrl c
  · exact (FrM_emit (by intro r z h; cases h)).bind fun _ => (FrM_killOwner _).bind fun _ => FrM_freeCtrl c

theorem FrM_regionOdd (r : Option Nat) : FrM (regionOdd r) := by
  unfold regionOdd
  cases r with
  | none => exact FrM.pure _
  | some r =>
    refine (FrM_getRegion r).bind fun rg => ?_
    split <;> exact FrM.pure _

theorem FrM_promDecode (vt : Bool) (reg : Option Nat) : FrM (promDecode vt reg) := by
  unfold promDecode
  exact (FrM_regionOdd reg).bind fun _ => FrM.ite (FrM.pure _) (FrM.ub _)

theorem FrM_bytesDrop (h : Handle) : FrM (bytesDrop h) := by
  unfold bytesDrop
  split
  · exact FrM.pure _
  · exact FrM_releaseCtrl _
  · exact FrM_releaseCtrl _
  · exact FrM_releaseCtrl _
  · exact FrM_releaseCtrl _
  · split
    · exact FrM.ub _
    · exact (FrM_promDecode _ _).bind fun _ => FrM_freeRegion _ _
  · exact FrM.panic

theorem FrM_mutDrop (h : Handle) : FrM (mutDrop h) := by
  unfold mutDrop
  split
  · exact FrM_vecFree _ _
  · exact FrM_releaseCtrl _
  · exact FrM.panic

theorem FrM_uadd (cfg : Cfg) (a b : Nat) : FrM (uadd cfg a b) := by
  unfold uadd; exact FrM.ite (FrM.pure _) (FrM.ite FrM.panic (FrM.pure _))
theorem FrM_usub (cfg : Cfg) (a b : Nat) : FrM (usub cfg a b) := by
  unfold usub; exact FrM.ite (FrM.pure _) (FrM.ite FrM.panic (FrM.pure _))
theorem FrM_dassert (cfg : Cfg) (b : Bool) : FrM (dassert cfg b) := by
  unfold dassert; exact FrM.ite FrM.panic (FrM.pure _)

theorem seq_pure_ok {m : M β} (hm : FrM m) {a c : α} {s s1 : St}
    (h : (m >>= fun _ => (pure a : M α)) s = .ok c s1) : c = a ∧ Fr s s1 := by
  obtain ⟨u, s0, h1, h2⟩ := ok_of_bind h
  cases h2
  exact ⟨rfl, hm _ _ _ h1⟩

theorem bytesClone_ok {s s1 : St} {i : Nat} {repr : BRepr} {reg : Option Nat} {off len : Nat}
    {c : Handle} (hx : s.hs[i]? = some (some (.bytes repr reg off len)))
    (h : bytesClone i s = .ok c s1) :
    ∃ crepr repr', c = .bytes crepr reg off len ∧
      s1.hs = s.hs.set i (some (.bytes repr' reg off len)) ∧ NC s s1 := by
  have hself := set_self hx
  unfold bytesClone at h
  obtain ⟨h0, s0, hg, h⟩ := ok_of_bind h
  rw [getHandle_eq hx] at hg; cases hg
  -- the representations with a control block: the count goes up, `self` stays as it is
  have inc : ∀ (k : Nat) (crepr : BRepr),
      (incCtrl k >>= fun _ => pure (Handle.bytes crepr reg off len)) s = .ok c s1 →
      ∃ crepr repr', c = .bytes crepr reg off len ∧
        s1.hs = s.hs.set i (some (.bytes repr' reg off len)) ∧ NC s s1 := by
    intro k crepr h
    obtain ⟨rfl, hf⟩ := seq_pure_ok (FrM_incCtrl k) h
    exact ⟨_, repr, rfl, by rw [hf.2, hself], hf.1⟩
  cases repr with
  | «static» => cases h; exact ⟨.static, .static, rfl, hself.symm, NC.refl _⟩
  | owned k | shared k | sharedV k => exact inc k _ h
  | prom vt oc =>
    cases oc with
    | some k => exact inc k _ h
    | none =>
      cases reg with
      | none => cases h
      | some r =>
        obtain ⟨u, s2, h1, h⟩ := ok_of_bind h
        have f1 := FrM_promDecode _ _ _ _ _ h1
        obtain ⟨k, s3, h2, h⟩ := ok_of_bind h
        have f2 := FrM_newCtrl _ _ _ _ _ h2
        obtain ⟨u', s4, h3, h⟩ := ok_of_bind h
        cases h3; cases h
        have f := f1.trans f2
        exact ⟨_, .prom vt (some k), rfl, by simp only [f.2], f.1⟩

theorem mutAdvanceUnchecked_ok {cfg : Cfg} {arc reg : Option Nat} {off len cap orig k : Nat}
    {h' : Handle} {s s1 : St}
    (h : mutAdvanceUnchecked cfg (.mut arc reg off len cap orig) k s = .ok h' s1) :
    Fr s s1 ∧ ∃ arc' cap', h' = .mut arc' reg (off + k) (len - k) cap' orig := by
  unfold mutAdvanceUnchecked at h
  by_cases hk : k = 0
  · subst hk
    simp only [if_true] at h
    cases h
    exact ⟨Fr.refl _, arc, cap, rfl⟩
  · simp only [hk, if_false] at h
    obtain ⟨u, s2, h1, h⟩ := ok_of_bind h
    have f1 := FrM_dassert _ _ _ _ _ h1
    obtain ⟨cap', s3, h2, h⟩ := ok_of_bind h
    have f2 := FrM_usub _ _ _ _ _ _ h2
    cases arc with
    | some c =>
      cases h
      exact ⟨f1.trans f2, _, _, rfl⟩
    | none =>
      rcases ite_ok h with ⟨_, h⟩ | ⟨_, h⟩
      · cases h
        exact ⟨f1.trans f2, _, _, rfl⟩
      · obtain ⟨c, s4, h3, h⟩ := ok_of_bind h
        have f3 := FrM_newCtrl _ _ _ _ _ h3
        cases h
        exact ⟨(f1.trans f2).trans f3, _, _, rfl⟩

theorem mutShallowClone_ok {arc reg : Option Nat} {off len cap orig : Nat} {a b : Handle} {s s1 : St}
    (h : mutShallowClone (.mut arc reg off len cap orig) s = .ok (a, b) s1) :
    Fr s s1 ∧ ∃ c, a = .mut (some c) reg off len cap orig ∧ b = .mut (some c) reg off len cap orig := by
  unfold mutShallowClone at h
  cases arc with
  | some c =>
    obtain ⟨hab, hf⟩ := seq_pure_ok (FrM_incCtrl c) h
    cases hab
    exact ⟨hf, c, rfl, rfl⟩
  | none =>
    obtain ⟨h', s2, h1, h⟩ := ok_of_bind h
    unfold mutPromote at h1
    obtain ⟨c, s3, h2, h1⟩ := ok_of_bind h1
    have f := FrM_newCtrl _ _ _ _ _ h2
    cases h1; cases h
    exact ⟨f, c, rfl, rfl⟩

/-- `Bytes::split_off(k)`: self stays at its address, the tail starts `k` further -/
theorem bytesSplitOffCore_ok {s s1 : St} {i k : Nat} {repr : BRepr} {reg : Option Nat} {off len : Nat}
    {o : Handle} (hx : s.hs[i]? = some (some (.bytes repr reg off len)))
    (h : bytesSplitOffCore i k s = .ok o s1) :
    NC s s1 ∧ ∃ orepr repr' l1 l2, o = .bytes orepr reg (off + k) l2 ∧
      s1.hs = s.hs.set i (some (.bytes repr' reg off l1)) := by
  have hself := set_self hx
  unfold bytesSplitOffCore at h
  obtain ⟨h0, s0, hg, h⟩ := ok_of_bind h
  rw [getHandle_eq hx] at hg; cases hg
  rcases ite_ok h with ⟨_, h⟩ | ⟨_, h⟩
  · cases h
    exact ⟨NC.refl _, _, repr, len, _, rfl, hself.symm⟩
  · rcases ite_ok h with ⟨hk0, h⟩ | ⟨_, h⟩
    · obtain ⟨u, s2, h1, h⟩ := ok_of_bind h
      cases h1; cases h
      exact ⟨NC.refl _, repr, _, _, len, by rw [hk0]; rfl, rfl⟩
    · rcases ite_ok h with ⟨_, h⟩ | ⟨_, h⟩
      · cases h
      · obtain ⟨c, s2, h1, h⟩ := ok_of_bind h
        obtain ⟨crepr, repr', rfl, hhs, hnc⟩ := bytesClone_ok hx h1
        obtain ⟨h', s3, h2, h⟩ := ok_of_bind h
        have hi2 : s2.hs[i]? = some (some (.bytes repr' reg off len)) := by
          rw [hhs]; exact lookup_set_eq _ hx
        rw [getHandle_eq hi2] at h2; cases h2
        simp only at h
        obtain ⟨u, s4, h3, h⟩ := ok_of_bind h
        cases h3; cases h
        exact ⟨hnc, crepr, repr', k, _, rfl, by simp only [hhs, List.set_set]⟩

theorem bytesFromVec_ok {reg : Option Nat} {len cap : Nat} {b : Handle} {s s1 : St}
    (h : bytesFromVec reg len cap s = .ok b s1) :
    Fr s s1 ∧ ∃ repr reg', b = .bytes repr reg' 0 len ∧ (len ≠ 0 → reg' = reg) := by
  unfold bytesFromVec at h
  rcases ite_ok h with ⟨_, h⟩ | ⟨_, h⟩
  · rcases ite_ok h with ⟨h0, h⟩ | ⟨_, h⟩
    · cases h
      exact ⟨Fr.refl _, _, _, by rw [h0], fun hn => (hn h0).elim⟩
    · obtain ⟨odd, s2, h1, h⟩ := ok_of_bind h
      have f := FrM_regionOdd _ _ _ _ h1
      cases h
      exact ⟨f, _, _, rfl, fun _ => rfl⟩
  · cases reg with
    | none => cases h
    | some r =>
      obtain ⟨c, s2, h1, h⟩ := ok_of_bind h
      have f := FrM_newCtrl _ _ _ _ _ h1
      cases h
      exact ⟨f, _, _, rfl, fun _ => rfl⟩

theorem takeSharedB_ok {c r cap : Nat} {s s1 : St} (h : takeSharedB c s = .ok (r, cap) s1) :
    Fr s s1 ∧ ∃ e, s.ctrls[c]? = some e ∧ e.live = true ∧ e.c = .sharedB r cap := by
  unfold takeSharedB at h
  obtain ⟨e, s0, h1, h⟩ := ok_of_bind h
  obtain ⟨rfl, he, hl⟩ := getCtrl_ok h1
  obtain ⟨ct, rc, live⟩ := e
  cases ct with
  | sharedB r' cap' =>
    simp only at h
    obtain ⟨u, s2, h2, h⟩ := ok_of_bind h
    have f1 := FrM_setCtrl _ _ _ _ _ h2
    obtain ⟨u', s3, h3, h⟩ := ok_of_bind h
    have f2 := FrM_freeCtrl _ _ _ _ h3
    cases h
    exact ⟨f1.trans f2, _, he, hl, rfl⟩
  | sharedV | owned => cases h

theorem noCopy {s s' : St} (h : NC s s') : NoCopy s s' :=
  let ⟨⟨_, e, p⟩, r⟩ := h
  ⟨PropC08.NoAlloc_take e p, r⟩

theorem lookup_new {hs : List (Option Handle)} {i : Nat} {a b : Option Handle} :
    (hs.set i a ++ [b])[hs.length]? = some b := by
  have : hs.length = (hs.set i a).length := by simp
  rw [this]; exact List.getElem?_concat_length

theorem lookup_old {hs : List (Option Handle)} {i : Nat} {x : Option Handle} {a b : Option Handle}
    (hi : hs[i]? = some x) : (hs.set i a ++ [b])[i]? = some a :=
  lookup_append_of_some _ (lookup_set_eq _ hi)


section MutOperand
variable {s s' : St} {i : Nat} {arc reg : Option Nat} {off len cap orig : Nat}
  (hi : s.hs[i]? = some (some (.mut arc reg off len cap orig)))

theorem mutSplit_ok {f : Handle × Handle → M β} {a : β}
    (h : (mutShallowClone (.mut arc reg off len cap orig) >>= f) s = .ok a s') :
    ∃ c s1, Fr s s1 ∧ f (.mut (some c) reg off len cap orig, .mut (some c) reg off len cap orig) s1 = .ok a s' := by
  obtain ⟨⟨x, y⟩, s1, hc, h⟩ := ok_of_bind h
  obtain ⟨f1, c, rfl, rfl⟩ := mutShallowClone_ok hc
  exact ⟨c, s1, f1, h⟩

include hi

theorem splitOff_mut_ok (cfg : Cfg) (e : Env) {k : Nat} {v : Val}
    (hs : step cfg e (.splitOff i k) s = .ok v s') :
    k ≤ cap ∧ v = .handle s.hs.length ∧ NoCopy s s' ∧ ∃ c arc' cap',
      s'.hs = s.hs.set i (some (.mut (some c) reg off (min len k) k orig)) ++
        [some (.mut arc' reg (off + k) (len - k) cap' orig)] := by
  rw [show step cfg e (.splitOff i k) s = (if k > cap then _ else _ : M Val) s from
    getHandle_bind_eq hi _] at hs
  split at hs
  · cases hs
  · obtain ⟨c, s1, f1, hs⟩ := mutSplit_ok hs
    obtain ⟨o', s2, ha, hs⟩ := ok_of_bind hs
    obtain ⟨f2, arc', cap', rfl⟩ := mutAdvanceUnchecked_ok ha
    simp only [bind_apply, setHandle_apply, newHandle_apply, pure_apply, R.ok.injEq] at hs
    obtain ⟨rfl, rfl⟩ := hs
    have f := f1.trans f2
    exact ⟨by omega, by simp [f.2], noCopy f.1, c, arc', cap', by simp only [f.2]⟩

theorem splitTo_mut_ok (cfg : Cfg) (e : Env) {k : Nat} {v : Val}
    (hs : step cfg e (.splitTo i k) s = .ok v s') :
    k ≤ len ∧ v = .handle s.hs.length ∧ NoCopy s s' ∧ ∃ c arc' cap',
      s'.hs = s.hs.set i (some (.mut arc' reg (off + k) (len - k) cap' orig)) ++
        [some (.mut (some c) reg off k k orig)] := by
  rw [show step cfg e (.splitTo i k) s = (if k > len then _ else _ : M Val) s from
    getHandle_bind_eq hi _] at hs
  split at hs
  · cases hs
  · obtain ⟨c, s1, f1, hs⟩ := mutSplit_ok hs
    obtain ⟨o', s2, ha, hs⟩ := ok_of_bind hs
    obtain ⟨f2, arc', cap', rfl⟩ := mutAdvanceUnchecked_ok ha
    simp only [bind_apply, setHandle_apply, newHandle_apply, pure_apply, R.ok.injEq] at hs
    obtain ⟨rfl, rfl⟩ := hs
    have f := f1.trans f2
    exact ⟨by omega, by simp [f.2], noCopy f.1, c, arc', cap', by simp only [f.2]⟩

end MutOperand

theorem opTruncate_ok {i n : Nat} {s s' : St} {v : Val} {x : Handle}
    (hx : s.hs[i]? = some (some x)) (hs : opTruncate i n s = .ok v s') :
    NC s s' ∧ ∃ x', s'.hs[i]? = some (some x') ∧ addrOf x' = addrOf x := by
  unfold opTruncate at hs
  have hs := getHandle_bind_ok hx hs
  have plain : ∀ x' : Handle, addrOf x' = addrOf x →
      (setHandle i x' >>= fun _ => (pure Val.unit : M Val)) s = .ok v s' →
      NC s s' ∧ ∃ x', s'.hs[i]? = some (some x') ∧ addrOf x' = addrOf x := by
    intro x' ha hs
    obtain ⟨u, s1, h1, hs⟩ := ok_of_bind hs
    cases h1; cases hs
    exact ⟨NC.refl _, x', lookup_set_eq _ hx, ha⟩
  have same : (pure Val.unit : M Val) s = .ok v s' →
      NC s s' ∧ ∃ x', s'.hs[i]? = some (some x') ∧ addrOf x' = addrOf x := by
    intro hs; cases hs; exact ⟨NC.refl _, x, hx, rfl⟩
  cases x with
  | bytes repr reg off len =>
    simp only at hs
    split at hs
    · cases repr with
      | prom vt oc =>
        simp only at hs
        obtain ⟨o, s1, hc, hs⟩ := ok_of_bind hs
        obtain ⟨hnc, orepr, repr', l1, l2, rfl, hhs⟩ := bytesSplitOffCore_ok hx hc
        obtain ⟨u, s2, hd, hs⟩ := ok_of_bind hs
        have f := FrM_bytesDrop _ _ _ _ hd
        cases hs
        refine ⟨hnc.trans f.1, .bytes repr' reg off l1, ?_, rfl⟩
        rw [f.2, hhs]; exact lookup_set_eq _ hx
      | «static» | owned | shared | sharedV => simp only at hs; exact plain _ (by rfl) hs
    · exact same hs
  | «mut» | vec =>
    simp only at hs
    split at hs
    · exact plain _ (by rfl) hs
    · exact same hs

end BytesVerif.Core
