/-
The ledger invariant over the event history.

`EvL s` is a *local* formulation of `evOKB s` (it does not need `WFx`): it is preserved by every
primitive of the model, also in the intermediate states of an operation.  `EvPres m` says that the
computation `m` preserves `EvL` (whatever its outcome); it is closed under `>>=`, `if`, `match`, and
holds for every primitive, hence (by structural decomposition, tactic `evp`) for `step`.
-/
import BytesVerif.Lemmas.Core.Sound
namespace BytesVerif.Core

def isDeallocOf' (r : Nat) : Ev → Bool
  | .dealloc r' _ => r' == r
  | _ => false

def isAllocOf' (r : Nat) : Ev → Bool
  | .alloc r' _ => r' == r
  | _ => false

def liveOwned (C : List CtrlE) (o : Nat) : Nat := C.countP fun e => e.live && e.c == .owned o

/-- what the history says about region `r` -/
def regLedger (evs : List Ev) (r : Nat) (rg : Region) : Prop :=
  match rg.kind with
  | .heap _ =>
    evs.filter (isAllocOf' r) = [.alloc r rg.size] ∧
    evs.filter (isDeallocOf' r) = (if rg.live then [] else [.dealloc r rg.size])
  | _ => evs.filter (isAllocOf' r) = [] ∧ evs.filter (isDeallocOf' r) = []

/-- `odrop` is additive (drops recorded + live owner blocks = 1 for an issued owner, 0 otherwise): a primitive
that changes one summand changes the other or the right-hand side by as much, whatever else holds of the state -/
structure EvL (s : St) : Prop where
  reg : ∀ (r : Nat) (rg : Region), s.regions[r]? = some rg → regLedger s.events r rg
  bndA : ∀ r sz, Ev.alloc r sz ∈ s.events → r < s.regions.length
  bndD : ∀ r sz, Ev.dealloc r sz ∈ s.events → r < s.regions.length
  bndR : ∀ o, Ev.ownerAsRef o ∈ s.events → o < s.owners
  bndO : ∀ o, Ev.ownerDrop o ∈ s.events → o < s.owners
  asref : ∀ o, o < s.owners → s.events.count (.ownerAsRef o) = 1
  odrop : ∀ o, s.events.count (.ownerDrop o) + liveOwned s.ctrls o = if o < s.owners then 1 else 0

theorem isAllocOf'_false {ev : Ev} {r : Nat} (h : ∀ sz, ev ≠ .alloc r sz) : isAllocOf' r ev = false := by
  cases ev <;> first | rfl | exact beq_false_of_ne fun e => h _ (by rw [e])

theorem isDeallocOf'_false {ev : Ev} {r : Nat} (h : ∀ sz, ev ≠ .dealloc r sz) :
    isDeallocOf' r ev = false := by
  cases ev <;> first | rfl | exact beq_false_of_ne fun e => h _ (by rw [e])

theorem liveOwned_push (C : List CtrlE) (e : CtrlE) (o : Nat) :
    liveOwned (C ++ [e]) o = liveOwned C o + (if (e.live && e.c == .owned o) = true then 1 else 0) := by
  simp [liveOwned, List.countP_append, List.countP_cons]

theorem liveOwned_set {C : List CtrlE} {c : Nat} {e : CtrlE} (e' : CtrlE) (o : Nat)
    (h : C[c]? = some e) :
    liveOwned (C.set c e') o + (if (e.live && e.c == .owned o) = true then 1 else 0) =
      liveOwned C o + (if (e'.live && e'.c == .owned o) = true then 1 else 0) :=
  countP_set' _ C c e e' h

theorem regLedger_cons {ev : Ev} {evs : List Ev} {r : Nat} {rg : Region}
    (hA : ∀ sz, ev ≠ .alloc r sz) (hD : ∀ sz, ev ≠ .dealloc r sz) :
    regLedger (ev :: evs) r rg ↔ regLedger evs r rg := by
  simp only [regLedger, List.filter_cons, isAllocOf'_false hA, isDeallocOf'_false hD, Bool.false_eq_true, if_false]

namespace EvL
variable {s : St}

theorem of_eq {s' : St} (h : EvL s) (hr : s'.regions = s.regions) (hc : s'.ctrls = s.ctrls)
    (ho : s'.owners = s.owners) (he : s'.events = s.events) : EvL s' := by
  obtain ⟨R, C, H, O, E⟩ := s'
  simp only at hr hc ho he; subst hr hc ho he
  exact ⟨h.reg, h.bndA, h.bndD, h.bndR, h.bndO, h.asref, h.odrop⟩

theorem hs (h : EvL s) (hs' : List (Option Handle)) : EvL { s with hs := hs' } :=
  h.of_eq rfl rfl rfl rfl

/-! A new event `ev` leaves the clauses it does not speak of as they are: those about regions
(`reg`, `bndA`, `bndD`), those about `as_ref` (`bndR`, `asref`), those about owner drops (`bndO`, `odrop`). -/

theorem region_cons (h : EvL s) {ev : Ev} (hA : ∀ r sz, ev ≠ .alloc r sz) (hD : ∀ r sz, ev ≠ .dealloc r sz) :
    (∀ r rg, s.regions[r]? = some rg → regLedger (ev :: s.events) r rg) ∧
    (∀ r sz, Ev.alloc r sz ∈ ev :: s.events → r < s.regions.length) ∧
    (∀ r sz, Ev.dealloc r sz ∈ ev :: s.events → r < s.regions.length) :=
  ⟨fun r rg hr => (regLedger_cons (hA r) (hD r)).mpr (h.reg r rg hr),
   fun r sz hm => (List.mem_cons.mp hm).elim (fun e => absurd e.symm (hA r sz)) (h.bndA r sz),
   fun r sz hm => (List.mem_cons.mp hm).elim (fun e => absurd e.symm (hD r sz)) (h.bndD r sz)⟩

theorem asref_cons (h : EvL s) {ev : Ev} (hR : ∀ o, ev ≠ .ownerAsRef o) :
    (∀ o, Ev.ownerAsRef o ∈ ev :: s.events → o < s.owners) ∧
    (∀ o, o < s.owners → (ev :: s.events).count (.ownerAsRef o) = 1) :=
  ⟨fun o hm => (List.mem_cons.mp hm).elim (fun e => absurd e.symm (hR o)) (h.bndR o),
   fun o ho => (List.count_cons_of_ne (hR o)).trans (h.asref o ho)⟩

theorem odrop_cons (h : EvL s) {ev : Ev} (hO : ∀ o, ev ≠ .ownerDrop o) :
    (∀ o, Ev.ownerDrop o ∈ ev :: s.events → o < s.owners) ∧
    (∀ o, (ev :: s.events).count (.ownerDrop o) + liveOwned s.ctrls o = if o < s.owners then 1 else 0) :=
  ⟨fun o hm => (List.mem_cons.mp hm).elim (fun e => absurd e.symm (hO o)) (h.bndO o),
   fun o => (congrArg (· + _) (List.count_cons_of_ne (hO o))).trans (h.odrop o)⟩

/-- an event the ledger does not record (those about control blocks) -/
theorem emit_neutral (h : EvL s) {ev : Ev} (hA : ∀ r sz, ev ≠ .alloc r sz) (hD : ∀ r sz, ev ≠ .dealloc r sz)
    (hR : ∀ o, ev ≠ .ownerAsRef o) (hO : ∀ o, ev ≠ .ownerDrop o) : EvL { s with events := ev :: s.events } :=
  have ⟨h1, h2, h3⟩ := h.region_cons hA hD
  have ⟨h4, h6⟩ := h.asref_cons hR
  have ⟨h5, h7⟩ := h.odrop_cons hO
  ⟨h1, h2, h3, h4, h5, h6, h7⟩

theorem ctrls_congr (h : EvL s) (C' : List CtrlE) (hC : ∀ o, liveOwned C' o = liveOwned s.ctrls o) :
    EvL { s with ctrls := C' } :=
  ⟨h.reg, h.bndA, h.bndD, h.bndR, h.bndO, h.asref, fun o => by rw [hC o]; exact h.odrop o⟩

theorem regions_congr (h : EvL s) (R' : List Region) (hlen : R'.length = s.regions.length)
    (hR : ∀ (r : Nat) (rg' : Region), R'[r]? = some rg' → ∃ rg, s.regions[r]? = some rg ∧
      rg'.kind = rg.kind ∧ rg'.size = rg.size ∧ ((∃ b, rg.kind = .heap b) → rg'.live = rg.live)) :
    EvL { s with regions := R' } := by
  refine ⟨?_, ?_, ?_, h.bndR, h.bndO, h.asref, h.odrop⟩
  · intro r rg' hr'
    obtain ⟨rg, hr, hk, hsz, hl⟩ := hR r rg' hr'
    have := h.reg r rg hr
    unfold regLedger at this ⊢
    rw [hk, hsz]
    cases hkk : rg.kind with
    | heap b => rw [hkk] at this; simp only at this ⊢; rw [hl ⟨b, hkk⟩]; exact this
    | static | ownerMem => rw [hkk] at this; exact this
  · intro r sz hm; show r < R'.length; rw [hlen]; exact h.bndA r sz hm
  · intro r sz hm; show r < R'.length; rw [hlen]; exact h.bndD r sz hm

theorem fresh_region (h : EvL s) : s.events.filter (isAllocOf' s.regions.length) = [] ∧
    s.events.filter (isDeallocOf' s.regions.length) = [] :=
  ⟨List.filter_eq_nil_iff.mpr fun _ hev hp => Bool.false_ne_true
      ((isAllocOf'_false fun sz e => Nat.lt_irrefl _ (h.bndA _ sz (e ▸ hev))).symm.trans hp),
   List.filter_eq_nil_iff.mpr fun _ hev hp => Bool.false_ne_true
      ((isDeallocOf'_false fun sz e => Nat.lt_irrefl _ (h.bndD _ sz (e ▸ hev))).symm.trans hp)⟩

theorem alloc (h : EvL s) (size : Nat) (data : List (Option Byte)) (b : Bool) :
    EvL { s with regions := s.regions ++ [⟨size, data, true, .heap b⟩],
                 events := .alloc s.regions.length size :: s.events } := by
  have hlen : ∀ r, r < s.regions.length → r < (s.regions ++ [(⟨size, data, true, .heap b⟩ : Region)]).length :=
    fun r hr => by rw [List.length_append]; exact Nat.lt_add_right _ hr
  have ⟨h4, h6⟩ := h.asref_cons (ev := .alloc s.regions.length size) nofun
  have ⟨h5, h7⟩ := h.odrop_cons (ev := .alloc s.regions.length size) nofun
  refine ⟨?_, ?_, fun r sz hm => hlen r ((List.mem_cons.mp hm).elim nofun (h.bndD r sz)), h4, h5, h6, h7⟩
  · intro r rg hr
    rcases lookup_push_cases hr with ⟨rfl, rfl⟩ | ⟨hlt, hr⟩
    · simp only [regLedger, List.filter_cons, isAllocOf', isDeallocOf', beq_self_eq_true, if_true,
        h.fresh_region.1, h.fresh_region.2, Bool.false_eq_true, if_false, and_self]
    · have hne : s.regions.length ≠ r := Nat.ne_of_gt hlt
      exact (regLedger_cons (ev := .alloc s.regions.length size) (fun sz e => hne (by cases e; rfl)) nofun).mpr
        (h.reg r rg hr)
  · intro r sz hm
    rcases List.mem_cons.mp hm with e | hm
    · cases e; rw [List.length_append]; exact Nat.lt_succ_self _
    · exact hlen r (h.bndA r sz hm)

theorem pushNonHeap (h : EvL s) (rg : Region) (hk : ∀ b, rg.kind ≠ .heap b) :
    EvL { s with regions := s.regions ++ [rg] } := by
  have hlen : ∀ r, r < s.regions.length → r < (s.regions ++ [rg]).length :=
    fun r hr => by rw [List.length_append]; exact Nat.lt_add_right _ hr
  refine ⟨?_, fun r sz hm => hlen r (h.bndA r sz hm), fun r sz hm => hlen r (h.bndD r sz hm),
    h.bndR, h.bndO, h.asref, h.odrop⟩
  intro r rg' hr
  rcases lookup_push_cases hr with ⟨rfl, rfl⟩ | ⟨_, hr⟩
  · unfold regLedger
    cases hkk : rg.kind with
    | heap b => exact (hk b hkk).elim
    | static | ownerMem => exact h.fresh_region
  · exact h.reg r rg' hr

theorem free (h : EvL s) {r : Nat} {rg : Region} {b : Bool} (hr : s.regions[r]? = some rg)
    (hl : rg.live = true) (hk : rg.kind = .heap b) :
    EvL { s with regions := s.regions.set r { rg with live := false },
                 events := .dealloc r rg.size :: s.events } := by
  have hlen : (s.regions.set r { rg with live := false }).length = s.regions.length := List.length_set
  have ⟨h4, h6⟩ := h.asref_cons (ev := .dealloc r rg.size) nofun
  have ⟨h5, h7⟩ := h.odrop_cons (ev := .dealloc r rg.size) nofun
  refine ⟨?_, fun r' sz hm => ?_, fun r' sz hm => ?_, h4, h5, h6, h7⟩
  · intro r' rg' hr'
    by_cases hrr : r' = r
    · subst hrr
      rw [lookup_set_eq _ hr] at hr'; cases hr'
      have h0 := h.reg r' rg hr
      simp only [regLedger, hk, hl, if_true] at h0
      simp only [regLedger, hk, List.filter_cons, isAllocOf', isDeallocOf', beq_self_eq_true, if_true, h0.1,
        h0.2, Bool.false_eq_true, if_false, and_self]
    · rw [List.getElem?_set_ne (Ne.symm hrr)] at hr'
      exact (regLedger_cons (ev := .dealloc r rg.size) nofun (fun sz e => hrr (by cases e; rfl))).mpr
        (h.reg r' rg' hr')
  · rw [hlen]; exact (List.mem_cons.mp hm).elim nofun (h.bndA r' sz)
  · rw [hlen]
    rcases List.mem_cons.mp hm with e | hm
    · cases e; exact lookup_lt hr
    · exact h.bndD r' sz hm

theorem setData (h : EvL s) {r : Nat} {rg : Region} (hr : s.regions[r]? = some rg)
    (d : List (Option Byte)) : EvL { s with regions := s.regions.set r { rg with data := d } } := by
  apply h.regions_congr _ (by simp)
  intro r' rg' hr'
  by_cases hrr : r' = r
  · subst hrr
    rw [lookup_set_eq _ hr] at hr'; cases hr'
    exact ⟨rg, hr, rfl, rfl, fun _ => rfl⟩
  · rw [List.getElem?_set_ne (Ne.symm hrr)] at hr'
    exact ⟨rg', hr', rfl, rfl, fun _ => rfl⟩

/-- dropping an owner kills its memory: no heap region is concerned -/
theorem killOwnerMem (h : EvL s) (o : Nat) :
    EvL { s with regions := s.regions.map fun rg =>
      if rg.kind = .ownerMem o then { rg with live := false } else rg } := by
  apply h.regions_congr _ (by simp)
  intro r rg' hr'
  simp only [List.getElem?_map, Option.map_eq_some_iff] at hr'
  obtain ⟨rg, hr, rfl⟩ := hr'
  refine ⟨rg, hr, ?_, ?_, ?_⟩
  · split <;> rfl
  · split <;> rfl
  · rintro ⟨b, hb⟩; simp [hb]

theorem newCtrl (h : EvL s) (ct : Ctrl) (rc : Nat) (hct : ∀ o, ct ≠ .owned o) :
    EvL { s with ctrls := s.ctrls ++ [⟨ct, rc, true⟩],
                 events := .allocCtrl s.ctrls.length :: s.events } := by
  refine (h.emit_neutral (ev := .allocCtrl s.ctrls.length) nofun nofun nofun nofun).ctrls_congr
    (s.ctrls ++ [⟨ct, rc, true⟩]) fun o => ?_
  rw [liveOwned_push]
  have : (ct == Ctrl.owned o) = false := by simpa using hct o
  simp [this]

theorem setCtrl (h : EvL s) {c : Nat} {e : CtrlE} (e' : CtrlE) (hc : s.ctrls[c]? = some e)
    (hl : e'.live = e.live) (hk : ∀ o, e'.c = .owned o ↔ e.c = .owned o) :
    EvL { s with ctrls := s.ctrls.set c e' } := by
  refine h.ctrls_congr _ fun o => ?_
  have hset := liveOwned_set e' o hc
  have hbeq : (e'.c == .owned o) = (e.c == .owned o) := by
    by_cases h1 : e.c = .owned o
    · rw [beq_iff_eq.mpr h1, beq_iff_eq.mpr ((hk o).mpr h1)]
    · rw [beq_eq_false_iff_ne.mpr h1, beq_eq_false_iff_ne.mpr fun hh => h1 ((hk o).mp hh)]
  rw [hl, hbeq] at hset
  omega

theorem freeCtrl (h : EvL s) {c : Nat} {e : CtrlE} (e' : CtrlE) (hc : s.ctrls[c]? = some e)
    (hk : ∀ o, e.c ≠ .owned o) (hl' : e'.live = false) :
    EvL { s with ctrls := s.ctrls.set c e', events := .deallocCtrl c :: s.events } := by
  refine (h.emit_neutral (ev := .deallocCtrl c) nofun nofun nofun nofun).ctrls_congr (s.ctrls.set c e') fun o => ?_
  have := liveOwned_set e' o hc
  have h2 : (e.c == Ctrl.owned o) = false := by simpa using hk o
  simp only [hl', h2, Bool.false_and, Bool.and_false, Bool.false_eq_true, if_false] at this
  simpa using this

/-- dropping the owner: `emit ownerDrop o`, the memory dies, the block is freed -/
theorem dropOwner (h : EvL s) {c : Nat} {e : CtrlE} {o : Nat} (e' : CtrlE) (hc : s.ctrls[c]? = some e)
    (hl : e.live = true) (hk : e.c = .owned o) (hl' : e'.live = false) :
    EvL { s with regions := s.regions.map fun rg =>
                   if rg.kind = .ownerMem o then { rg with live := false } else rg,
                 ctrls := s.ctrls.set c e',
                 events := .deallocCtrl c :: .ownerDrop o :: s.events } := by
  have hpos : 0 < liveOwned s.ctrls o :=
    List.countP_pos_iff.mpr ⟨e, List.mem_of_getElem? hc, by rw [hl, hk, Bool.true_and]; exact beq_self_eq_true _⟩
  have holt : o < s.owners := by
    have := h.odrop o
    split at this
    · assumption
    · omega
  have hstep : EvL { s with ctrls := s.ctrls.set c e', events := .ownerDrop o :: s.events } := by
    have ⟨h1, h2, h3⟩ := h.region_cons (ev := .ownerDrop o) nofun nofun
    have ⟨h4, h6⟩ := h.asref_cons (ev := .ownerDrop o) nofun
    refine ⟨h1, h2, h3, h4, fun o' hm => ?_, h6, fun o' => ?_⟩
    · rcases List.mem_cons.mp hm with e | hm
      · cases e; exact holt
      · exact h.bndO o' hm
    · have h0 := h.odrop o'
      have hset := liveOwned_set e' o' hc
      rw [hl', hl, hk, Bool.false_and, Bool.true_and, if_neg Bool.false_ne_true] at hset
      show (Ev.ownerDrop o :: s.events).count (.ownerDrop o') + liveOwned (s.ctrls.set c e') o' =
        if o' < s.owners then 1 else 0
      rw [List.count_cons]
      by_cases hoo : o = o'
      · subst hoo
        rw [beq_self_eq_true, if_pos rfl] at hset ⊢
        omega
      · rw [beq_false_of_ne (fun e => hoo (Ctrl.owned.inj e)), if_neg Bool.false_ne_true] at hset
        rw [beq_false_of_ne (fun e => hoo (Ev.ownerDrop.inj e)), if_neg Bool.false_ne_true]
        omega
  exact (hstep.killOwnerMem o).emit_neutral nofun nofun nofun nofun

/-- `from_owner`: a new owner, its control block, `as_ref` -/
theorem newOwner (h : EvL s) (rc : Nat) :
    EvL { s with owners := s.owners + 1,
                 ctrls := s.ctrls ++ [⟨.owned s.owners, rc, true⟩],
                 events := .ownerAsRef s.owners :: .allocCtrl s.ctrls.length :: s.events } := by
  have h' := h.emit_neutral (ev := .allocCtrl s.ctrls.length) nofun nofun nofun nofun
  have ⟨h1, h2, h3⟩ := h'.region_cons (ev := .ownerAsRef s.owners) nofun nofun
  have ⟨h5, h7⟩ := h'.odrop_cons (ev := .ownerAsRef s.owners) nofun
  refine ⟨h1, h2, h3, fun o hm => ?_, fun o hm => Nat.lt_succ_of_lt (h5 o hm), fun o ho => ?_, fun o => ?_⟩
  · rcases List.mem_cons.mp hm with e | hm
    · cases e; exact Nat.lt_succ_self _
    · exact Nat.lt_succ_of_lt (h'.bndR o hm)
  · show (Ev.ownerAsRef s.owners :: Ev.allocCtrl s.ctrls.length :: s.events).count (.ownerAsRef o) = 1
    rw [List.count_cons]
    by_cases hoo : s.owners = o
    · subst hoo
      have : (Ev.allocCtrl s.ctrls.length :: s.events).count (.ownerAsRef s.owners) = 0 :=
        List.count_eq_zero.mpr fun hm => Nat.lt_irrefl _ (h'.bndR _ hm)
      rw [this, beq_self_eq_true, if_pos rfl]
    · rw [beq_false_of_ne (fun e => hoo (Ev.ownerAsRef.inj e)), if_neg Bool.false_ne_true]
      exact h'.asref o (Nat.lt_of_le_of_ne (Nat.le_of_lt_succ ho) (Ne.symm hoo))
  · have h0 := h7 o
    dsimp only at h0 ⊢
    rw [liveOwned_push]
    by_cases hoo : s.owners = o
    · subst hoo
      rw [if_neg (Nat.lt_irrefl _)] at h0
      rw [Bool.true_and, beq_self_eq_true, if_pos rfl, if_pos (Nat.lt_succ_self _)]
      omega
    · rw [Bool.true_and, beq_false_of_ne (fun e => hoo (Ctrl.owned.inj e)), if_neg Bool.false_ne_true]
      by_cases hlt : o < s.owners
      · rw [if_pos hlt] at h0; rw [if_pos (Nat.lt_succ_of_lt hlt)]; exact h0
      · rw [if_neg hlt] at h0; rw [if_neg (by omega)]; exact h0

end EvL

/-- whatever the outcome, the final state satisfies the ledger invariant -/
def Post {α : Type} (r : R α) : Prop :=
  match r with
  | .ok _ s' => EvL s'
  | .panic s' => EvL s'
  | .ub _ _ => True

@[simp] theorem Post_ok {α : Type} (a : α) (s : St) : Post (R.ok a s) = EvL s := rfl
@[simp] theorem Post_panic {α : Type} (s : St) : Post (R.panic s : R α) = EvL s := rfl
@[simp] theorem Post_ub {α : Type} (w : String) (s : St) : Post (R.ub w s : R α) = True := rfl

def EvPres {α : Type} (m : M α) : Prop := ∀ s, EvL s → Post (m s)

/-- `m` preserves the ledger invariant when started in a state where control block `c` is the
live block `ce`.  `odrop` counts the live owner blocks, so a `setCtrl c` or `freeCtrl c` preserves `EvL` only
if it is known whether block `c` is one (`EvPresC_setCtrl_bind`, `EvPresC_freeCtrl`); `getCtrl c` tells. -/
def EvPresC {α : Type} (c : Nat) (ce : CtrlE) (m : M α) : Prop :=
  ∀ s, s.ctrls[c]? = some ce → ce.live = true → EvL s → Post (m s)

/-- a normal return leaves `ctrls` as it is, so what `getCtrl c` told still holds after `m` -/
def KeepsC {α : Type} (m : M α) : Prop := ∀ s a s', m s = .ok a s' → s'.ctrls = s.ctrls

section rules
variable {α β : Type}

theorem EvPres_pure (a : α) : EvPres (pure a : M α) := fun _ h => h
theorem EvPres_panic : EvPres (panic : M α) := fun _ h => h
theorem EvPres_ub (w : String) : EvPres (ub w : M α) := fun _ _ => trivial
theorem EvPres_get : EvPres get := fun _ h => h

theorem EvPres.of_ok {m : M α} (hm : EvPres m) {s s' : St} {a : α} (hs : EvL s) (heq : m s = .ok a s') :
    EvL s' := by
  have := hm s hs; rw [heq] at this; exact this

theorem EvPres.of_panic {m : M α} (hm : EvPres m) {s s' : St} (hs : EvL s) (heq : m s = .panic s') :
    EvL s' := by
  have := hm s hs; rw [heq] at this; exact this

/-- a computation whose panic is intercepted (`unsplit`) -/
theorem EvPres_tryBind {α β : Type} {m : M α} {f : α → M β} {g : M β} (hm : EvPres m)
    (hf : ∀ a, EvPres (f a)) (hg : EvPres g) :
    EvPres (fun s => match m s with
      | .ok a s' => f a s'
      | .panic s' => g s'
      | .ub w s' => .ub w s') := by
  intro s hs
  dsimp only
  cases hms : m s with
  | ok a s' => exact hf a s' (hm.of_ok hs hms)
  | panic s' => exact hg s' (hm.of_panic hs hms)
  | ub w s' => trivial

theorem EvPres_bind {m : M α} {f : α → M β} (hm : EvPres m) (hf : ∀ a, EvPres (f a)) :
    EvPres (m >>= f) :=
  EvPres_tryBind hm hf EvPres_panic

theorem EvPres_ite {c : Prop} {_ : Decidable c} {m₁ m₂ : M α} (h₁ : EvPres m₁) (h₂ : EvPres m₂) :
    EvPres (if c then m₁ else m₂) := by
  split
  · exact h₁
  · exact h₂

theorem EvPresC_ite {k : Nat} {ce : CtrlE} {c : Prop} {_ : Decidable c} {m₁ m₂ : M α}
    (h₁ : EvPresC k ce m₁) (h₂ : EvPresC k ce m₂) : EvPresC k ce (if c then m₁ else m₂) := by
  split
  · exact h₁
  · exact h₂

theorem EvPresC_of {c : Nat} {ce : CtrlE} {m : M α} (h : EvPres m) : EvPresC c ce m :=
  fun s _ _ hs => h s hs

/-- after `getCtrl c` we know what block `c` is -/
theorem EvPres_getCtrl_bind {c : Nat} {f : CtrlE → M β} (hf : ∀ ce, EvPresC c ce (f ce)) :
    EvPres (getCtrl c >>= f) := by
  intro s hs
  simp only [bind_apply, getCtrl]
  cases hc : s.ctrls[c]? with
  | none => trivial
  | some e =>
    simp only
    cases hl : e.live with
    | false => simp
    | true => simp only [if_true]; exact hf e s hc hl hs

/-- a computation that does not touch the control blocks keeps the knowledge about block `c` -/
theorem EvPresC_bind_keep {c : Nat} {ce : CtrlE} {m : M α} {f : α → M β} (hm : EvPres m)
    (hk : KeepsC m) (hf : ∀ a, EvPresC c ce (f a)) :
    EvPresC c ce (m >>= f) := by
  intro s hc hl hs
  simp only [bind_apply]
  cases hms : m s with
  | ok a s' => exact hf a s' (by rw [hk s a s' hms]; exact hc) hl (hm.of_ok hs hms)
  | panic s' => exact hm.of_panic hs hms
  | ub w s' => trivial

theorem EvPresC_setCtrl_bind {c : Nat} {ce e' : CtrlE} {f : Unit → M β} (hl : e'.live = ce.live)
    (hk : ∀ o, e'.c = .owned o ↔ ce.c = .owned o) (hf : EvPresC c e' (f ())) :
    EvPresC c ce (setCtrl c e' >>= f) := by
  intro s hc hlive hs
  simp only [bind_apply, setCtrl_apply]
  exact hf _ (lookup_set_eq _ hc) (by rw [hl, hlive]) (hs.setCtrl e' hc hl hk)

theorem EvPresC_setCtrl {c : Nat} {ce e' : CtrlE} (hl : e'.live = ce.live)
    (hk : ∀ o, e'.c = .owned o ↔ ce.c = .owned o) : EvPresC c ce (setCtrl c e') := by
  intro s hc hlive hs
  simp only [setCtrl_apply, Post_ok]
  exact hs.setCtrl e' hc hl hk

theorem KeepsC_pure (a : α) : KeepsC (pure a : M α) := by
  intro s a' s' h; cases h; rfl
theorem KeepsC_panic : KeepsC (panic : M α) := by
  intro s a' s' h; cases h
theorem KeepsC_ub (w : String) : KeepsC (ub w : M α) := by
  intro s a' s' h; cases h
theorem KeepsC_bind {m : M α} {f : α → M β} (hm : KeepsC m) (hf : ∀ a, KeepsC (f a)) :
    KeepsC (m >>= f) := by
  intro s b s' h
  obtain ⟨a, s1, hms, h⟩ := ok_of_bind h
  rw [hf a s1 b s' h, hm s a s1 hms]

end rules

theorem EvPres_modify_hs (f : List (Option Handle) → List (Option Handle)) :
    EvPres (modify fun s => { s with hs := f s.hs }) := fun _ h => h.hs _

theorem EvPres_getRegion (r : Nat) : EvPres (getRegion r) := by
  intro s hs; unfold getRegion; split <;> simp [hs]

theorem EvPres_getCtrl (c : Nat) : EvPres (getCtrl c) := by
  intro s hs; unfold getCtrl; split
  · split <;> simp [hs]
  · simp

theorem EvPres_getHandle (i : Nat) : EvPres (getHandle i) := by
  intro s hs; unfold getHandle; split <;> simp [hs]

theorem EvPres_newHandle (h : Handle) : EvPres (newHandle h) := fun _ hs => hs.hs _
theorem EvPres_setHandle (i : Nat) (h : Handle) : EvPres (setHandle i h) :=
  EvPres_modify_hs fun hs => hs.set i (some h)
theorem EvPres_killHandle (i : Nat) : EvPres (killHandle i) := EvPres_modify_hs fun hs => hs.set i none

theorem EvPres_allocRegion (e : Env) (size : Nat) (data : List (Option Byte)) :
    EvPres (allocRegion e size data) := fun _ hs => hs.alloc size data _

theorem EvPres_freeRegion (r size : Nat) : EvPres (freeRegion r size) := by
  intro s hs
  simp only [freeRegion, bind_apply, getRegion]
  cases hr : s.regions[r]? with
  | none => trivial
  | some rg =>
    simp only
    cases hl : rg.live with
    | false => simp
    | true =>
      simp only [Bool.not_true, Bool.false_eq_true, if_false, ite_apply']
      split
      · simp
      · rename_i hsz
        simp only [ne_eq, Decidable.not_not] at hsz
        subst hsz
        cases hk : rg.kind with
        | heap b =>
          simp only [bind_apply, setRegion_apply, emit_apply, Post_ok]
          have := hs.free hr hl hk
          rw [hk] at this
          exact this
        | static | ownerMem => simp

theorem EvPres_writeRange (reg : Option Nat) (off : Nat) (bs : List Byte) :
    EvPres (writeRange reg off bs) := by
  intro s hs
  unfold writeRange
  split
  · exact hs
  · cases reg with
    | none => trivial
    | some r =>
      simp only [bind_apply, getRegion]
      cases hr : s.regions[r]? with
      | none => trivial
      | some rg =>
        simp only [ite_apply']
        split
        · trivial
        · split
          · trivial
          · cases hk : rg.kind with
            | heap b =>
              simp only [setRegion_apply, Post_ok]
              have := hs.setData hr (List.take off rg.data ++ List.map some bs ++ List.drop (off + bs.length) rg.data)
              rw [hk] at this
              exact this
            | static | ownerMem => trivial

theorem EvPres_newCtrl_sharedB (r cap rc : Nat) : EvPres (newCtrl (.sharedB r cap) rc) :=
  fun _ hs => hs.newCtrl _ rc nofun

theorem EvPres_newCtrl_sharedV (reg : Option Nat) (vlen vcap orig rc : Nat) :
    EvPres (newCtrl (.sharedV reg vlen vcap orig) rc) :=
  fun _ hs => hs.newCtrl _ rc nofun

theorem EvPres_incCtrl (c : Nat) : EvPres (incCtrl c) :=
  EvPres_getCtrl_bind fun _ => EvPresC_setCtrl rfl fun _ => Iff.rfl

theorem EvPres_uadd (c : Cfg) (a b : Nat) : EvPres (uadd c a b) :=
  EvPres_ite (EvPres_pure _) (EvPres_ite EvPres_panic (EvPres_pure _))

theorem EvPres_usub (c : Cfg) (a b : Nat) : EvPres (usub c a b) :=
  EvPres_ite (EvPres_pure _) (EvPres_ite EvPres_panic (EvPres_pure _))

theorem EvPres_dassert (c : Cfg) (b : Bool) : EvPres (dassert c b) :=
  EvPres_ite EvPres_panic (EvPres_pure _)

theorem KeepsC_ite {α : Type} {c : Prop} {_ : Decidable c} {m₁ m₂ : M α} (h₁ : KeepsC m₁) (h₂ : KeepsC m₂) :
    KeepsC (if c then m₁ else m₂) := by
  split
  · exact h₁
  · exact h₂

theorem KeepsC_getRegion (r : Nat) : KeepsC (getRegion r) := by
  intro s a s' h; unfold getRegion at h; split at h <;> cases h; rfl
theorem KeepsC_setRegion (r : Nat) (rg : Region) : KeepsC (setRegion r rg) := by
  intro s a s' h; cases h; rfl
theorem KeepsC_emit (ev : Ev) : KeepsC (emit ev) := by
  intro s a s' h; cases h; rfl
theorem KeepsC_allocRegion (e : Env) (size : Nat) (data : List (Option Byte)) :
    KeepsC (allocRegion e size data) := by
  intro s a s' h; cases h; rfl
theorem KeepsC_dassert (c : Cfg) (b : Bool) : KeepsC (dassert c b) :=
  KeepsC_ite KeepsC_panic (KeepsC_pure _)

theorem KeepsC_freeRegion (r size : Nat) : KeepsC (freeRegion r size) := by
  unfold freeRegion
  refine KeepsC_bind (KeepsC_getRegion r) fun rg => KeepsC_ite (KeepsC_ub _) (KeepsC_ite (KeepsC_ub _) ?_)
  split
  · exact KeepsC_bind (KeepsC_setRegion _ _) fun _ => KeepsC_emit _
  · exact KeepsC_ub _

theorem KeepsC_vecFree (reg : Option Nat) (cap : Nat) : KeepsC (vecFree reg cap) := by
  unfold vecFree
  split
  · exact KeepsC_ite (KeepsC_pure _) (KeepsC_ub _)
  · exact KeepsC_ite (KeepsC_ub _) (KeepsC_freeRegion _ _)

theorem KeepsC_vecReserve (e : Env) (reg : Option Nat) (len cap additional : Nat) :
    KeepsC (vecReserve e reg len cap additional) := by
  unfold vecReserve
  refine KeepsC_ite (KeepsC_pure _) (KeepsC_ite KeepsC_panic (KeepsC_ite KeepsC_panic
    (KeepsC_bind ?_ fun _ => KeepsC_bind (KeepsC_allocRegion _ _ _) fun _ =>
      KeepsC_bind (KeepsC_vecFree _ _) fun _ => KeepsC_pure _)))
  split
  · exact KeepsC_pure _
  · exact KeepsC_bind (KeepsC_getRegion _) fun _ => KeepsC_ite (KeepsC_ub _) (KeepsC_pure _)

/-- `evp [l₁, …]` proves an `EvPres` goal by recursion on the program: `>>=`, `if` and `match` are
decomposed by the closure rules, `pure`, `panic`, `ub`, `getHandle`, `setHandle`, `newHandle` are closed
by their lemmas, and every other call by the lemma about it among `l₁, …` (`EvPres` lemmas, and `KeepsC` lemmas
for what runs between a `getCtrl c` and a `setCtrl c`).  After `getCtrl c` the goals have the form
`EvPresC c ce _`, which lets a `setCtrl c` through if it keeps the sort of the block; what the lemmas
do not know about block `c` falls back to `EvPres`. -/
macro "evp" " [" ts:term,* "]" : tactic => `(tactic| repeat' first
    | with_reducible refine EvPres_getCtrl_bind (fun _ => ?_)
    | with_reducible refine EvPres_bind ?_ (fun _ => ?_)
    | with_reducible refine EvPres_ite ?_ ?_
    | with_reducible exact EvPres_pure _
    | with_reducible exact EvPres_getHandle _
    | with_reducible exact EvPres_setHandle _ _
    | with_reducible exact EvPres_newHandle _
    | with_reducible exact EvPres_panic
    | with_reducible exact EvPres_ub _
    $[| with_reducible apply $ts]*
    | with_reducible refine EvPresC_ite ?_ ?_
    | (with_reducible refine EvPresC_setCtrl_bind rfl ?k ?_; case k => first | exact fun _ => Iff.rfl | simp [*])
    | with_reducible refine EvPresC_bind_keep ?_ (by first $[| with_reducible apply $ts]*) (fun _ => ?_)
    | dsimp only
    | split
    | with_reducible apply EvPresC_of)

theorem EvPres_readRange (reg : Option Nat) (off len : Nat) : EvPres (readRange reg off len) := by
  unfold readRange; evp [EvPres_getRegion]

theorem EvPres_vecFree (reg : Option Nat) (cap : Nat) : EvPres (vecFree reg cap) := by
  unfold vecFree; evp [EvPres_freeRegion]

theorem EvPresC_freeCtrl {c : Nat} {ce : CtrlE} (hk : ∀ o, ce.c ≠ .owned o) :
    EvPresC c ce (freeCtrl c) := by
  intro s hc hl hs
  rw [freeCtrl_eq hc hl]
  exact hs.freeCtrl _ hc hk rfl

theorem EvPres_releaseCtrl (c : Nat) : EvPres (releaseCtrl c) := by
  unfold releaseCtrl
  refine EvPres_getCtrl_bind (fun ce => ?_)
  obtain ⟨ct, rc, live⟩ := ce
  dsimp only
  split
  · exact EvPresC_of (EvPres_ub _)
  · split
    · exact EvPresC_setCtrl rfl (fun o => Iff.rfl)
    · refine EvPresC_setCtrl_bind rfl (fun o => Iff.rfl) ?_
      cases ct with
      | sharedB reg cap =>
        dsimp only
        exact EvPresC_bind_keep (EvPres_freeRegion _ _) (KeepsC_freeRegion _ _)
          (fun _ => EvPresC_freeCtrl nofun)
      | sharedV reg vlen vcap orig =>
        dsimp only
        exact EvPresC_bind_keep (EvPres_vecFree _ _) (KeepsC_vecFree _ _)
          (fun _ => EvPresC_freeCtrl nofun)
      | owned o =>
        dsimp only
        intro s hc hl hs
        simp only at hl
        simp only [bind_apply, emit_apply, modify_apply]
        simp only [freeCtrl, bind_apply, getCtrl, hc, hl, if_true, setCtrl_apply, emit_apply, Post_ok]
        exact hs.dropOwner _ hc hl rfl rfl

theorem EvPres_takeSharedB (c : Nat) : EvPres (takeSharedB c) := by
  unfold takeSharedB
  refine EvPres_getCtrl_bind (fun ce => ?_)
  obtain ⟨ct, rc, live⟩ := ce
  cases ct with
  | sharedB reg cap =>
    dsimp only
    refine EvPresC_setCtrl_bind rfl (fun o => Iff.rfl) ?_
    intro s hc hl hs
    simp only [bind_apply]
    rw [freeCtrl_eq hc hl]
    simp only [pure_apply, Post_ok]
    exact hs.freeCtrl _ hc nofun rfl
  | sharedV | owned => exact EvPresC_of (EvPres_ub _)

theorem EvPres_vecNew (e : Env) (bs : List Byte) (cap : Nat) : EvPres (vecNew e bs cap) := by
  unfold vecNew; evp [EvPres_allocRegion]

theorem EvPres_vecReserve (e : Env) (reg : Option Nat) (len cap additional : Nat) :
    EvPres (vecReserve e reg len cap additional) := by
  unfold vecReserve; evp [EvPres_getRegion, EvPres_allocRegion, EvPres_vecFree]

theorem EvPres_copyWithin (r : Option Nat) (src dst len : Nat) : EvPres (copyWithin r src dst len) := by
  unfold copyWithin; evp [EvPres_readRange, EvPres_writeRange]

theorem EvPres_ctrlIsUnique (c : Nat) : EvPres (ctrlIsUnique c) :=
  EvPres_getCtrl_bind fun _ => EvPresC_of (EvPres_pure _)

theorem EvPres_regionOdd (r : Option Nat) : EvPres (regionOdd r) := by
  unfold regionOdd; evp [EvPres_getRegion]

theorem EvPres_promDecode (vt : Bool) (reg : Option Nat) : EvPres (promDecode vt reg) := by
  unfold promDecode; evp [EvPres_regionOdd]

theorem EvPres_bytesFromVec (reg : Option Nat) (len cap : Nat) : EvPres (bytesFromVec reg len cap) := by
  unfold bytesFromVec; evp [EvPres_regionOdd, EvPres_newCtrl_sharedB]

theorem EvPres_bytesClone (i : Nat) : EvPres (bytesClone i) := by
  unfold bytesClone; evp [EvPres_incCtrl, EvPres_promDecode, EvPres_newCtrl_sharedB]

theorem EvPres_bytesDrop (h : Handle) : EvPres (bytesDrop h) := by
  unfold bytesDrop; evp [EvPres_releaseCtrl, EvPres_promDecode, EvPres_freeRegion]

theorem EvPres_bytesIsUnique (h : Handle) : EvPres (bytesIsUnique h) := by
  unfold bytesIsUnique; evp [EvPres_ctrlIsUnique]

theorem EvPres_mutAdvanceUnchecked (cfg : Cfg) (h : Handle) (count : Nat) :
    EvPres (mutAdvanceUnchecked cfg h count) := by
  unfold mutAdvanceUnchecked; evp [EvPres_dassert, EvPres_usub, EvPres_newCtrl_sharedV]

theorem EvPres_toVecCopy (e : Env) (reg : Option Nat) (off len : Nat) : EvPres (toVecCopy e reg off len) := by
  unfold toVecCopy; evp [EvPres_readRange, EvPres_vecNew]

theorem EvPres_bytesIntoVec (e : Env) (h : Handle) : EvPres (bytesIntoVec e h) := by
  unfold bytesIntoVec
  evp [EvPres_toVecCopy, EvPres_releaseCtrl, EvPres_promDecode, EvPres_copyWithin, EvPres_ctrlIsUnique,
    EvPres_takeSharedB]

theorem EvPres_bytesIntoMut (cfg : Cfg) (e : Env) (h : Handle) : EvPres (bytesIntoMut cfg e h) := by
  unfold bytesIntoMut
  evp [EvPres_toVecCopy, EvPres_releaseCtrl, EvPres_promDecode, EvPres_mutAdvanceUnchecked,
    EvPres_ctrlIsUnique, EvPres_takeSharedB]

theorem EvPres_mutPromote (h : Handle) (rc : Nat) : EvPres (mutPromote h rc) := by
  unfold mutPromote; evp [EvPres_newCtrl_sharedV]

theorem EvPres_mutShallowClone (h : Handle) : EvPres (mutShallowClone h) := by
  unfold mutShallowClone; evp [EvPres_incCtrl, EvPres_mutPromote]

theorem EvPres_mutDrop (h : Handle) : EvPres (mutDrop h) := by
  unfold mutDrop; evp [EvPres_vecFree, EvPres_releaseCtrl]

theorem EvPres_mutReserveInner (cfg : Cfg) (e : Env) (h : Handle) (additional : Nat) (allocate : Bool) :
    EvPres (mutReserveInner cfg e h additional allocate) := by
  unfold mutReserveInner
  evp [EvPres_copyWithin, EvPres_uadd, EvPres_vecReserve, EvPres_dassert, KeepsC_dassert, KeepsC_vecReserve,
    EvPres_readRange, EvPres_vecNew, EvPres_releaseCtrl]

theorem EvPres_mutReserve (cfg : Cfg) (e : Env) (h : Handle) (additional : Nat) :
    EvPres (mutReserve cfg e h additional) := by
  unfold mutReserve; evp [EvPres_mutReserveInner]

theorem EvPres_mutExtend (cfg : Cfg) (e : Env) (h : Handle) (bs : List Byte) :
    EvPres (mutExtend cfg e h bs) := by
  unfold mutExtend; evp [EvPres_mutReserve, EvPres_dassert, EvPres_writeRange]

theorem EvPres_bytesSplitOffCore (i k : Nat) : EvPres (bytesSplitOffCore i k) := by
  unfold bytesSplitOffCore; evp [EvPres_bytesClone]

theorem EvPres_opSplitOff (cfg : Cfg) (i k : Nat) : EvPres (opSplitOff cfg i k) := by
  unfold opSplitOff; evp [EvPres_bytesSplitOffCore, EvPres_mutShallowClone, EvPres_mutAdvanceUnchecked]

theorem EvPres_opSplitTo (cfg : Cfg) (i k : Nat) : EvPres (opSplitTo cfg i k) := by
  unfold opSplitTo; evp [EvPres_bytesClone, EvPres_mutShallowClone, EvPres_mutAdvanceUnchecked]

theorem EvPres_opDrop (i : Nat) : EvPres (opDrop i) := by
  unfold opDrop; evp [EvPres_killHandle, EvPres_bytesDrop, EvPres_mutDrop, EvPres_vecFree]

theorem EvPres_opTruncate (i n : Nat) : EvPres (opTruncate i n) := by
  unfold opTruncate; evp [EvPres_bytesSplitOffCore, EvPres_bytesDrop]

theorem EvPres_pushOwnerMem (n : Nat) (d : List (Option Byte)) (o : Nat) :
    EvPres (modify fun s => { s with regions := s.regions ++ [⟨n, d, true, .ownerMem o⟩] }) :=
  fun _ hs => hs.pushNonHeap _ nofun

/-- what `from_owner` does once the owner, its control block and the `as_ref` call are recorded -/
theorem EvPres_fromOwner_rest (c o : Nat) (bs : List Byte) (asRefPanics : Bool) :
    EvPres (if asRefPanics then do
        releaseCtrl c
        panic
      else do
        let s ← get
        let r := s.regions.length
        if bs = [] then do
          let i ← newHandle (.bytes (.owned c) none 0 0)
          pure (Val.handle i)
        else do
          modify fun s => { s with regions := s.regions ++ [⟨bs.length, bs.map some, true, .ownerMem o⟩] }
          let i ← newHandle (.bytes (.owned c) (some r) 0 bs.length)
          pure (Val.handle i) : M Val) := by
  evp [EvPres_releaseCtrl, EvPres_get, EvPres_pushOwnerMem]

theorem EvPres_step (cfg : Cfg) (e : Env) (op : Op) : EvPres (step cfg e op) := by
  cases op with
  | fromStatic bs =>
    intro s hs
    simp only [step, bind_apply, newHandle_apply, pure_apply, Post_ok]
    by_cases hbs : bs = []
    · simp only [hbs, if_true]; exact hs.hs _
    · simp only [hbs, if_false]
      exact (hs.pushNonHeap _ (by intro b h; cases h)).hs _
  | fromOwner bs p =>
    intro s hs
    exact EvPres_fromOwner_rest s.ctrls.length s.owners bs p _ (hs.newOwner 1)
  | unsplit i j =>
    dsimp only [step]
    evp [EvPres_killHandle, EvPres_mutDrop, EvPres_readRange]
    -- `extend_from_slice` with its panic intercepted
    intro s hs
    dsimp only
    split
    · next s' heq =>
      refine (?_ : EvPres _) s' ((EvPres_mutExtend _ _ _ _).of_ok hs heq)
      evp [EvPres_mutDrop]
    · next s' heq =>
      refine (?_ : EvPres _) s' ((EvPres_mutExtend _ _ _ _).of_panic hs heq)
      evp [EvPres_mutDrop]
    · trivial
  | newVec | mutWithCapacity | mutFromSlice | mutZeroed => dsimp only [step]; evp [EvPres_vecNew]
  | fromVec | freeze => dsimp only [step]; evp [EvPres_bytesFromVec]
  | copyFromSlice => dsimp only [step]; evp [EvPres_vecNew, EvPres_bytesFromVec]
  | clone => dsimp only [step]; evp [EvPres_bytesClone, EvPres_readRange, EvPres_vecNew]
  | slice => dsimp only [step]; evp [EvPres_bytesClone]
  | splitOff i k => exact EvPres_opSplitOff cfg i k
  | splitTo i k => exact EvPres_opSplitTo cfg i k
  | split => dsimp only [step]; evp [EvPres_opSplitTo]
  | truncate i n => exact EvPres_opTruncate i n
  | clear i => exact EvPres_opTruncate i 0
  | advance => dsimp only [step]; evp [EvPres_mutAdvanceUnchecked]
  | isUnique => dsimp only [step]; evp [EvPres_bytesIsUnique]
  | tryIntoMut => dsimp only [step]; evp [EvPres_bytesIsUnique, EvPres_bytesIntoMut]
  | intoMut => dsimp only [step]; evp [EvPres_bytesIntoMut]
  | intoVec =>
    dsimp only [step]; evp [EvPres_bytesIntoVec, EvPres_copyWithin, EvPres_releaseCtrl, EvPres_toVecCopy]
  | reserve => dsimp only [step]; evp [EvPres_mutReserve]
  | resize => dsimp only [step]; evp [EvPres_mutReserve, EvPres_writeRange]
  | tryReclaim => dsimp only [step]; evp [EvPres_mutReserveInner]
  | extend => dsimp only [step]; evp [EvPres_mutExtend]
  | setByte | fillSpare => dsimp only [step]; evp [EvPres_writeRange]
  | drop i => exact EvPres_opDrop i

def ownerLive' (s : St) (o : Nat) : Bool := s.ctrls.any fun e => e.live && e.c == .owned o

theorem ownerLive'_iff (s : St) (o : Nat) : ownerLive' s o = true ↔ 0 < liveOwned s.ctrls o := by
  unfold ownerLive' liveOwned
  rw [List.any_eq_true, List.countP_pos_iff]

theorem ownerLive'_of_liveCtrl {s : St} {c o : Nat} (h : liveCtrl s c = some (.owned o)) :
    ownerLive' s o = true := by
  rw [liveCtrl_eq] at h
  obtain ⟨e, he, hl, hc⟩ := liveCtrlL_some_iff.mp h
  unfold ownerLive'
  rw [List.any_eq_true]
  exact ⟨e, List.mem_of_getElem? he, by simp [hl, hc]⟩

/-- the two ways of saying "dropped iff no live `owned o` block": `EvL.odrop` and the clause of `evOKB` -/
theorem odrop_iff (s : St) (o n : Nat) : n + liveOwned s.ctrls o = 1 ↔
    liveOwned s.ctrls o ≤ 1 ∧ n = if ownerLive' s o = true then 0 else 1 := by
  have := ownerLive'_iff s o
  by_cases hl : ownerLive' s o = true
  · rw [if_pos hl]
    have := this.mp hl
    omega
  · rw [if_neg hl]
    have : ¬ 0 < liveOwned s.ctrls o := fun hh => hl (this.mpr hh)
    omega

theorem countP_le_one_of_unique {α : Type} (p : α → Bool) (l : List α)
    (h : ∀ (i j : Nat) (x y : α), l[i]? = some x → p x = true → l[j]? = some y → p y = true → i = j) :
    l.countP p ≤ 1 := by
  induction l with
  | nil => simp
  | cons a l ih =>
    have ih' : l.countP p ≤ 1 := by
      apply ih
      intro i j x y hi hx hj hy
      have := h (i + 1) (j + 1) x y (by simpa using hi) hx (by simpa using hj) hy
      omega
    by_cases ha : p a = true
    · have : l.countP p = 0 := by
        rw [List.countP_eq_zero]
        intro y hy hpy
        obtain ⟨j, hj⟩ := List.mem_iff_getElem?.mp hy
        have := h 0 (j + 1) a y (by simp) ha (by simpa using hj) hpy
        omega
      simp [ha, this]
    · simp [ha]; exact ih'

/-- `EvL.odrop` from the clause of `evOKB`: an owner has at most one live control block (`Inv.odist`),
an unknown owner none (`Inv.cok`) -/
theorem odrop_of_WFx {s : St} (hw : WFx s) (hO : ∀ o, Ev.ownerDrop o ∈ s.events → o < s.owners)
    (h : ∀ o, o < s.owners → s.events.count (.ownerDrop o) = if ownerLive' s o = true then 0 else 1) (o : Nat) :
    s.events.count (.ownerDrop o) + liveOwned s.ctrls o = if o < s.owners then 1 else 0 := by
  have hI := hw.inv
  by_cases ho : o < s.owners
  · rw [if_pos ho]
    refine (odrop_iff s o _).mpr ⟨?_, h o ho⟩
    apply countP_le_one_of_unique
    intro c c' e e' hc he hc' he'
    simp only [Bool.and_eq_true, beq_iff_eq] at he he'
    apply hI.odist c c' o
    · rw [← he.2]; exact liveCtrlL_of hc he.1
    · rw [← he'.2]; exact liveCtrlL_of hc' he'.1
  · rw [if_neg ho]
    have h1 : s.events.count (.ownerDrop o) = 0 := by
      rw [List.count_eq_zero]; intro hm; exact ho (hO o hm)
    have h2 : liveOwned s.ctrls o = 0 := by
      unfold liveOwned
      rw [List.countP_eq_zero]
      intro e he hp
      simp only [Bool.and_eq_true, beq_iff_eq] at hp
      obtain ⟨c, hc⟩ := List.mem_iff_getElem?.mp he
      have := (hI.cok c e hc hp.1).2.2
      rw [hp.2] at this
      exact ho this
    omega

theorem EvL.odrop_live {s : St} (h : EvL s) {o : Nat} (ho : o < s.owners) :
    s.events.count (.ownerDrop o) = if ownerLive' s o = true then 0 else 1 :=
  ((odrop_iff s o _).mp (by have := h.odrop o; rwa [if_pos ho] at this)).2

theorem no_live_ctrl {s : St} (hw : WFx s) (hno : liveHandles s = []) (c : Nat) : liveCtrl s c = none := by
  have hI := hw.inv
  cases hc : liveCtrl s c with
  | none => rfl
  | some ct =>
    exfalso
    rw [liveCtrl_eq] at hc
    obtain ⟨e, _, _, _, hrc, hpos, _⟩ := hI.cok' hc
    have : refCountL s.hs c = 0 := by
      unfold refCountL; rw [← liveHandles_eq, hno]; rfl
    omega

theorem no_live_heap {s : St} (hw : WFx s) (hno : liveHandles s = []) (r : Nat) : isHeapLive s r = false := by
  have hI := hw.inv
  cases hl : isHeapLive s r with
  | false => rfl
  | true =>
    exfalso
    rw [isHeapLive_eq] at hl
    have hlt := isHeapLiveL_lt hl
    have hown := hI.own r hlt
    rw [if_pos hl] at hown
    have h1 : dirCountL s.hs r = 0 := by
      unfold dirCountL; rw [← liveHandles_eq, hno]; rfl
    have h2 : ctrlCountL s.ctrls r = 0 := by
      rw [ctrlCountL_eq_zero]
      intro c e hc hlive _
      have := no_live_ctrl hw hno c
      rw [liveCtrl_eq, liveCtrlL_of hc hlive] at this
      cases this
    omega

end BytesVerif.Core
