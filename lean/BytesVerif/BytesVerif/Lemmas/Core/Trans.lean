/-
Invariant-preserving *abstract transitions*.

Intermediate states of an operation are not well-formed (a reference count is bumped before the
new handle exists, a region is freed before its control block, …), so `Inv` cannot be threaded
through the primitives one by one.  Instead: execute the operation symbolically to its *final* state
(Prim.lean), show by `simp`/`rfl` that this final state is the result of one or two of the
transitions below applied to the initial state, and conclude with the transition lemmas.

Every lemma concludes `Inv ⟨R', C', hs', owners, ev⟩` for an arbitrary event list `ev` (events are
irrelevant to the invariant), so `exact Inv_xxx … _` unifies against whatever record the symbolic
execution produced; companion clauses say that the views of the untouched handles are unchanged,
which is what `absL_congr` needs.  Most transitions are instances of five general lemmas, one per
kind of change to memory: `Inv_retable` (none), `Inv_alloc`, `Inv_kill_gen`, `Inv_write_set` (inside the
span of a mutable handle), `Inv_sole_gen` (anywhere in regions only one handle is anchored in);
`Inv_promote`, `Inv_owners_mono` and `Inv_events` establish the fields of `Inv` one by one.
-/
import BytesVerif.Lemmas.Core.Prim
namespace BytesVerif.Core

theorem ctrlOf_some_direct_none {h : Handle} {c : Nat} (hc : ctrlOf h = some c) : directRegion h = none := by
  rcases h with ⟨_ | _ | ⟨_, _ | _⟩ | _ | _, _, _, _⟩ | ⟨_ | _, _, _, _, _, _⟩ | _ <;> first | rfl | cases hc

theorem direct_some_ctrlOf_none {h : Handle} {r : Nat} (hd : directRegion h = some r) : ctrlOf h = none := by
  cases hc : ctrlOf h with
  | none => rfl
  | some c => rw [ctrlOf_some_direct_none hc] at hd; cases hd

theorem handleOKL_of_lookup {R R' : List Region} {C C' : List CtrlE} {b : Handle}
    (hr : ∀ r, hreg b = some r → (usesMeta b = true ∨ hlen b ≠ 0) → R'[r]? = R[r]?)
    (hc : ∀ c, ctrlOf b = some c → liveCtrlL C' c = liveCtrlL C c) :
    handleOKL R' C' b = handleOKL R C b := by
  apply handleOKL_frame
  · intro r h1 h2; exact metaL_of_lookup (hr r h1 (.inl h2))
  · rw [rdL_congr]; intro r h1 h2; exact hr r h1 (.inr h2)
  · exact hc

theorem viewOfL_of_lookup {R R' : List Region} {b : Handle}
    (hr : ∀ r, hreg b = some r → hlen b ≠ 0 → R'[r]? = R[r]?) : viewOfL R' b = viewOfL R b :=
  rdL_congr hr

theorem forall_live_set {P : Handle → Prop} {hs : List (Option Handle)} {i : Nat} {h' : Handle}
    (h : ∀ (j : Nat) (b : Handle), j ≠ i → hs[j]? = some (some b) → P b) (hx : P h') :
    ∀ (j : Nat) (b : Handle), (hs.set i (some h'))[j]? = some (some b) → P b := by
  intro j b hj
  rcases hs_set_cases hj with ⟨_, h1, _⟩ | ⟨hji, hj'⟩
  · exact Option.some.inj h1 ▸ hx
  · exact h j b hji hj'

theorem forall_live_kill {P : Handle → Prop} {hs : List (Option Handle)} {i : Nat}
    (h : ∀ (j : Nat) (b : Handle), j ≠ i → hs[j]? = some (some b) → P b) :
    ∀ (j : Nat) (b : Handle), (hs.set i none)[j]? = some (some b) → P b := by
  intro j b hj
  rcases hs_set_cases hj with ⟨_, h1, _⟩ | ⟨hji, hj'⟩
  · cases h1
  · exact h j b hji hj'

theorem forall_live_push {P : Handle → Prop} {hs : List (Option Handle)} {h' : Handle}
    (h : ∀ (j : Nat) (b : Handle), hs[j]? = some (some b) → P b) (hx : P h') :
    ∀ (j : Nat) (b : Handle), (hs ++ [some h'])[j]? = some (some b) → P b := by
  intro j b hj
  rcases lookup_push_cases hj with ⟨_, h1⟩ | ⟨_, hj'⟩
  · exact Option.some.inj h1 ▸ hx
  · exact h j b hj'

/-- X1 for one handle -/
def statOK (R : List Region) : Handle → Prop
  | .bytes .static (some r) _ len => len ≠ 0 → kindL R r = some .static
  | _ => True

theorem Inv.statOK {s : St} (hI : Inv s) {i : Nat} {h : Handle} (hi : s.hs[i]? = some (some h)) :
    statOK s.regions h := by
  unfold Core.statOK
  split
  · exact hI.stat i _ _ _ hi
  · trivial

theorem statOK_of_ctrl {R : List Region} {h : Handle} {c : Nat} (hc : ctrlOf h = some c) : statOK R h := by
  unfold statOK
  split
  · cases hc
  · trivial

theorem statOK_of_direct {R : List Region} {h : Handle} {r : Nat} (hd : directRegion h = some r) :
    statOK R h := by
  unfold statOK
  split
  · cases hd
  · trivial

theorem statOK_of_mutable {R : List Region} {h : Handle} (hm : isMutable h = true) : statOK R h := by
  unfold statOK
  split
  · cases hm
  · trivial

theorem statOK_of_kindL {R R' : List Region} {h : Handle} (hk : ∀ r, kindL R r = some .static → kindL R' r = some .static)
    (h0 : statOK R h) : statOK R' h := by
  unfold statOK at h0 ⊢
  split
  · exact fun hl => hk _ (h0 hl)
  · trivial

theorem stat_of_statOK {R : List Region} {hs : List (Option Handle)}
    (h : ∀ (j : Nat) (b : Handle), hs[j]? = some (some b) → statOK R b) :
    ∀ (i r off len : Nat), hs[i]? = some (some (.bytes .static (some r) off len)) → len ≠ 0 →
      kindL R r = some .static :=
  fun i _ _ _ hi hl => h i _ hi hl

/-- what `Inv` asks of one live handle: W2 + W5 and X1 -/
theorem Inv.handle {s : St} (hI : Inv s) {i : Nat} {h : Handle} (hi : s.hs[i]? = some (some h)) :
    handleOKL s.regions s.ctrls h = true ∧ Core.statOK s.regions h := ⟨hI.hok i h hi, hI.statOK hi⟩

/-- How a handle that really uses region `r` is tied to it.  Static and owner memory have constructors of
their own: they are what X1 and X2 exclude when the last reference to a control block frees its buffer
(`Inv_kill_last`). -/
inductive Anchor (R : List Region) (C : List CtrlE) (b : Handle) (r : Nat) : Prop
  | stat (rg : Region) (hr : R[r]? = some rg) (hk : rg.kind = .static)
  | own (c o : Nat) (rg : Region) (hc : ctrlOf b = some c) (hl : liveCtrlL C c = some (.owned o))
      (hr : R[r]? = some rg) (hk : rg.kind = .ownerMem o)
  | direct (hd : directRegion b = some r) (hl : isHeapLiveL R r = true)
  | ctrl (c : Nat) (ct : Ctrl) (hc : ctrlOf b = some c) (hl : liveCtrlL C c = some ct)
      (hr : ctrlRegion ct = some r) (hh : isHeapLiveL R r = true)

theorem Anchor.lt {R : List Region} {C : List CtrlE} {b : Handle} {r : Nat} (ha : Anchor R C b r) :
    r < R.length := by
  cases ha with
  | stat rg hr _ => exact lookup_lt hr
  | own _ _ rg _ _ hr _ => exact lookup_lt hr
  | direct _ hl => exact isHeapLiveL_lt hl
  | ctrl _ _ _ _ _ hh => exact isHeapLiveL_lt hh

theorem Inv.anchor_ctrl {s : St} (hI : Inv s) {b : Handle} {c r : Nat} {ct : Ctrl}
    (hc : ctrlOf b = some c) (hl : liveCtrlL s.ctrls c = some ct) (hr : ctrlRegion ct = some r) :
    Anchor s.regions s.ctrls b r :=
  let ⟨_, _, _, _, _, _, hb⟩ := hI.cok' hl
  .ctrl c ct hc hl hr (ctrlBufOK_live hb hr)

/-- A live handle is anchored in its region if it looks at the region's meta data, has a non-empty
view, or may write. -/
theorem Inv.anchor_of {s : St} (hI : Inv s) {j : Nat} {b : Handle} {r : Nat}
    (hj : s.hs[j]? = some (some b)) (hr : hreg b = some r)
    (hu : usesMeta b = true ∨ hlen b ≠ 0 ∨ isMutable b = true) : Anchor s.regions s.ctrls b r := by
  have hok := hI.hok j b hj
  have kind : ∀ k, kindL s.regions r = some k → ∃ rg, s.regions[r]? = some rg ∧ rg.kind = k := by
    intro k hk
    unfold kindL at hk
    cases hrr : s.regions[r]? with
    | none => rw [hrr] at hk; cases hk
    | some rg => rw [hrr] at hk; exact ⟨rg, rfl, Option.some.inj hk⟩
  cases b with
  | bytes repr reg off len =>
    cases hr
    have hl : usesMeta (.bytes repr (some r) off 0) = false → len ≠ 0 := fun hm h0 => by
      subst h0
      rcases hu with hu | hu | hu
      · rw [hm] at hu; cases hu
      · exact hu rfl
      · cases hu
    cases repr with
    | «static» =>
      obtain ⟨rg, hrr, hk⟩ := kind _ (hI.stat j r off len hj (hl rfl))
      exact .stat rg hrr hk
    | owned c =>
      obtain ⟨⟨o, h1, h2⟩, _⟩ := handleOKL_owned.mp hok
      rcases h2 with h2 | ⟨r', h3, h4⟩
      · exact (hl rfl h2).elim
      · cases h3
        obtain ⟨rg, hrr, hk⟩ := kind _ h4
        exact .own c o rg rfl h1 hrr hk
    | prom vt oc =>
      cases oc with
      | none => exact .direct rfl (handleOKL_direct hok rfl)
      | some c =>
        obtain ⟨⟨r', cap, h1, h2, _⟩, _⟩ := handleOKL_promA.mp hok
        cases h2; exact hI.anchor_ctrl rfl h1 rfl
    | shared c =>
      obtain ⟨⟨r', cap, h1, h2, _⟩, _⟩ := handleOKL_shared.mp hok
      cases h2; exact hI.anchor_ctrl rfl h1 rfl
    | sharedV c =>
      obtain ⟨⟨vlen, vcap, vorig, h1, _⟩, _⟩ := handleOKL_sharedV.mp hok
      exact hI.anchor_ctrl rfl h1 rfl
  | «mut» arc reg off len cap orig =>
    cases hr
    cases arc with
    | none => exact .direct rfl (handleOKL_direct hok rfl)
    | some c =>
      obtain ⟨_, ⟨vlen, vcap, vorig, h1, _⟩, _⟩ := handleOKL_mutA.mp hok
      exact hI.anchor_ctrl rfl h1 rfl
  | vec reg len cap =>
    cases hr
    exact .direct rfl (handleOKL_direct hok rfl)

theorem Inv.anchor {s : St} (hI : Inv s) {j : Nat} {b : Handle} {r : Nat}
    (hj : s.hs[j]? = some (some b)) (hr : hreg b = some r)
    (hu : usesMeta b = true ∨ hlen b ≠ 0) : Anchor s.regions s.ctrls b r :=
  hI.anchor_of hj hr (hu.imp_right .inl)

theorem Inv.anchor_span {s : St} (hI : Inv s) {j : Nat} {b : Handle} {r o l : Nat}
    (hj : s.hs[j]? = some (some b)) (hs : span b = some (r, o, l)) (hl : l ≠ 0) :
    Anchor s.regions s.ctrls b r := by
  refine hI.anchor_of hj ?_ ?_ <;> cases b with
  | bytes repr reg off len => cases reg <;> cases hs; first | rfl | exact .inr (.inl hl)
  | «mut» arc reg off len cap orig => cases reg <;> cases hs; first | rfl | exact .inr (.inr rfl)
  | vec reg len cap => cases reg <;> cases hs; first | rfl | exact .inr (.inr rfl)

theorem Inv.span_lt {s : St} (hI : Inv s) {i : Nat} {h : Handle} {r o l : Nat}
    (hi : s.hs[i]? = some (some h)) (hs : span h = some (r, o, l)) (hl : l ≠ 0) :
    r < s.regions.length :=
  (hI.anchor_span hi hs hl).lt

/-- The handle table and the reference counts change; the regions, the live control blocks and what
each of them names stay. -/
theorem Inv_retable {s : St} (hI : Inv s) {C' : List CtrlE} {hs' : List (Option Handle)}
    (hlc : ∀ c, liveCtrlL C' c = liveCtrlL s.ctrls c)
    (hcc : ∀ r, ctrlCountL C' r = ctrlCountL s.ctrls r)
    (hrc : ∀ (c : Nat) (e' : CtrlE), C'[c]? = some e' → e'.live = true →
      e'.rc = refCountL hs' c ∧ 1 ≤ e'.rc)
    (hh : ∀ (j : Nat) (b : Handle), hs'[j]? = some (some b) →
      handleOKL s.regions s.ctrls b = true ∧ statOK s.regions b)
    (hdc : ∀ r, dirCountL hs' r = dirCountL s.hs r) (hex : Excl hs') (ev : List Ev) :
    Inv ⟨s.regions, C', hs', s.owners, ev⟩ := by
  refine ⟨hI.regs, fun j b hj => ?_, fun c e' he' hl' => ?_, fun r hr => ?_, hex,
    stat_of_statOK fun j b hj => (hh j b hj).2, fun c1 c2 o h1 h2 => ?_⟩
  · rw [handleOKL_of_lookup (fun _ _ _ => rfl) (fun c _ => hlc c)]; exact (hh j b hj).1
  · obtain ⟨e, he, hl, hce⟩ := liveCtrlL_some_iff.mp ((hlc c).symm.trans (liveCtrlL_of he' hl'))
    exact ⟨(hrc c e' he' hl').1, (hrc c e' he' hl').2, hce ▸ (hI.cok c e he hl).2.2⟩
  · show dirCountL hs' r + ctrlCountL C' r = _
    rw [hdc, hcc]; exact hI.own r hr
  · rw [hlc] at h1 h2; exact hI.odist c1 c2 o h1 h2

/-- Only the handle table changes, and no count with it. -/
theorem Inv_rehandle {s : St} (hI : Inv s) {hs' : List (Option Handle)}
    (hrc : ∀ c, refCountL hs' c = refCountL s.hs c)
    (hh : ∀ (j : Nat) (b : Handle), hs'[j]? = some (some b) →
      handleOKL s.regions s.ctrls b = true ∧ statOK s.regions b)
    (hdc : ∀ r, dirCountL hs' r = dirCountL s.hs r) (hex : Excl hs') (ev : List Ev) :
    Inv ⟨s.regions, s.ctrls, hs', s.owners, ev⟩ :=
  Inv_retable hI (fun _ => rfl) (fun _ => rfl)
    (fun c e he hl => by rw [hrc]; exact ⟨(hI.cok c e he hl).1, (hI.cok c e he hl).2.1⟩) hh hdc hex ev

/-- The handle table changes and with it the number `n` of references to control block `c`. -/
theorem Inv_recount {s : St} (hI : Inv s) {c n : Nat} {e : CtrlE} {hs' : List (Option Handle)}
    (he : s.ctrls[c]? = some e) (hn : e.live = true → n = refCountL hs' c ∧ 1 ≤ n)
    (hrc : ∀ c', c' ≠ c → refCountL hs' c' = refCountL s.hs c')
    (hh : ∀ (j : Nat) (b : Handle), hs'[j]? = some (some b) →
      handleOKL s.regions s.ctrls b = true ∧ statOK s.regions b)
    (hdc : ∀ r, dirCountL hs' r = dirCountL s.hs r) (hex : Excl hs') (ev : List Ev) :
    Inv ⟨s.regions, s.ctrls.set c { e with rc := n }, hs', s.owners, ev⟩ := by
  refine Inv_retable hI (fun c' => liveCtrlL_set_rc n c' he)
    (fun r => ctrlCountL_set_same { e with rc := n } r he rfl rfl) (fun c' e' he' hl' => ?_) hh hdc hex ev
  by_cases hcc : c' = c
  · subst hcc; rw [lookup_set_eq _ he] at he'; cases he'; exact hn hl'
  · rw [List.getElem?_set_ne (Ne.symm hcc)] at he'
    rw [hrc c' hcc]; exact ⟨(hI.cok c' e' he' hl').1, (hI.cok c' e' he' hl').2.1⟩

/-- forget a handle that holds no resource (STATIC bytes, empty Vec / KIND_VEC BytesMut) -/
theorem Inv_kill_plain {s : St} (hI : Inv s) {i : Nat} {h : Handle} (hi : s.hs[i]? = some (some h))
    (hc : ctrlOf h = none) (hd : directRegion h = none) (ev : List Ev) :
    Inv ⟨s.regions, s.ctrls, s.hs.set i none, s.owners, ev⟩ :=
  Inv_rehandle hI (keyCountL_set_eq ctrlOf (y := none) hi hc.symm)
    (forall_live_kill (fun _ _ _ hj => hI.handle hj))
    (keyCountL_set_eq directRegion (y := none) hi hd.symm) (Excl_kill i hI.excl) ev

/-- drop a handle whose control block stays alive (`rc ≥ 2`) -/
theorem Inv_kill_dec {s : St} (hI : Inv s) {i : Nat} {h : Handle} (hi : s.hs[i]? = some (some h))
    {c : Nat} {e : CtrlE} (hc : ctrlOf h = some c) (he : s.ctrls[c]? = some e) (hl : e.live = true)
    (h1 : e.rc ≠ 1) (ev : List Ev) :
    Inv ⟨s.regions, s.ctrls.set c { e with rc := e.rc - 1 }, s.hs.set i none, s.owners, ev⟩ := by
  refine Inv_recount hI he (fun _ => ?_) (fun c' hcc => ?_)
    (forall_live_kill (fun _ _ _ hj => hI.handle hj))
    (keyCountL_set_eq directRegion (y := none) hi (ctrlOf_some_direct_none hc).symm) (Excl_kill i hI.excl) ev
  · have := refCountL_kill c hi
    rw [hc, if_pos rfl] at this
    have := hI.cok c e he hl
    omega
  · have := refCountL_kill c' hi
    rwa [hc, if_neg fun h => hcc (Option.some.inj h).symm] at this

/-- `R'` is `R` with the regions in `K` deallocated (`live := false`), everything else untouched -/
def Killed (R R' : List Region) (K : Nat → Bool) : Prop :=
  ∀ r : Nat, R'[r]? = (R[r]?).map fun rg => if K r then rg.kill else rg

namespace Killed
variable {R R' : List Region} {K : Nat → Bool}

theorem miss (hk : Killed R R' K) {r : Nat} (hr : K r = false) : R'[r]? = R[r]? := by
  rw [hk r]; cases R[r]? <;> simp [hr]

theorem hit (hk : Killed R R' K) {r : Nat} {rg : Region} (hr : K r = true) (h : R[r]? = some rg) :
    R'[r]? = some rg.kill := by
  rw [hk r, h]; simp [hr]

theorem len (hk : Killed R R' K) : R'.length = R.length := by
  have h1 : ∀ r, R'.length ≤ r ↔ R.length ≤ r := by
    intro r
    rw [← List.getElem?_eq_none_iff, ← List.getElem?_eq_none_iff, hk r]
    cases R[r]? <;> simp
  have a := (h1 R'.length).mp (Nat.le_refl _)
  have b := (h1 R.length).mpr (Nat.le_refl _)
  omega

theorem lookup (hk : Killed R R' K) {r : Nat} {rg' : Region} (h : R'[r]? = some rg') :
    ∃ rg, R[r]? = some rg ∧ rg' = if K r then rg.kill else rg := by
  rw [hk r] at h
  cases hR : R[r]? with
  | none => simp [hR] at h
  | some rg => simp [hR] at h; exact ⟨rg, rfl, h.symm⟩

theorem regs (hk : Killed R R' K)
    (hR : ∀ (r : Nat) (rg : Region), R[r]? = some rg → regionOKB rg = true) :
    ∀ (r : Nat) (rg : Region), R'[r]? = some rg → regionOKB rg = true := by
  intro r rg' h
  obtain ⟨rg, h1, h2⟩ := hk.lookup h
  have := hR r rg h1
  subst h2
  -- killed or not: `regionOKB` does not read `live`
  split
  · exact this
  · exact this

theorem kindL_eq (hk : Killed R R' K) (r : Nat) : kindL R' r = kindL R r := by
  simp only [kindL, hk r]
  cases R[r]? with
  | none => rfl
  | some rg => simp only [Option.map_some]; split <;> rfl

theorem isHeapLiveL_eq (hk : Killed R R' K) (r : Nat) :
    isHeapLiveL R' r = (isHeapLiveL R r && !K r) := by
  simp only [isHeapLiveL_def, hk r]
  cases R[r]? with
  | none => rfl
  | some rg =>
    simp only [Option.map_some]
    cases K r <;> simp

theorem of_set {r : Nat} {rg : Region} (hr : R[r]? = some rg) :
    Killed R (R.set r rg.kill) (fun r' => r' == r) := by
  intro r'
  by_cases h : r' = r
  · subst h; simp [lookup_set_eq _ hr, hr]
  · have : (r' == r) = false := by simp [h]
    simp only [this]; rw [List.getElem?_set_ne (Ne.symm h)]; cases R[r']? <;> rfl

theorem of_id (R : List Region) : Killed R R (fun _ => false) := by
  intro r; cases R[r]? <;> rfl

end Killed

/-- the regions freed together with control block `ct` -/
def bufHit (R : List Region) : Ctrl → Nat → Bool
  | .sharedB r0 _, r => r == r0
  | .sharedV (some r0) _ _ _, r => r == r0
  | .sharedV none _ _ _, _ => false
  | .owned o, r => kindL R r == some (.ownerMem o)

theorem freeBuf_owned_aux (x : Option Region) (o : Nat) :
    Option.map (fun rg => if rg.kind = RKind.ownerMem o then rg.kill else rg) x =
    Option.map (fun rg => if (Option.map (fun y => y.kind) x == some (RKind.ownerMem o)) = true
      then rg.kill else rg) x := by
  cases x with
  | none => rfl
  | some rg => by_cases h : rg.kind = .ownerMem o <;> simp [h]

theorem Killed.of_kill (R : List Region) (r0 : Nat) :
    Killed R (match R[r0]? with | some rg => R.set r0 rg.kill | none => R) (· == r0) := by
  cases hr : R[r0]? with
  | some rg => exact Killed.of_set hr
  | none =>
    intro r
    by_cases h : r = r0
    · subst h; rw [hr]; rfl
    · show R[r]? = (R[r]?).map fun rg => if (r == r0) = true then rg.kill else rg
      rw [beq_false_of_ne h]; cases R[r]? <;> rfl

theorem Killed.of_freeBuf (R : List Region) (ct : Ctrl) : Killed R (freeBuf R ct) (bufHit R ct) := by
  cases ct with
  | sharedB r0 cap => exact Killed.of_kill R r0
  | sharedV reg vlen vcap orig =>
    cases reg with
    | none => exact Killed.of_id R
    | some r0 => exact Killed.of_kill R r0
  | owned o =>
    intro r
    simp only [freeBuf, bufHit, kindL, List.getElem?_map]
    exact freeBuf_owned_aux _ _

/-- a handle not anchored in a deallocated region is unaffected -/
theorem survivor {s : St} (hI : Inv s) {R' : List Region} {C' : List CtrlE} {K : Nat → Bool}
    (hk : Killed s.regions R' K) {j : Nat} {b : Handle} (hj : s.hs[j]? = some (some b))
    (hA : ∀ r, Anchor s.regions s.ctrls b r → K r = false)
    (hC : ∀ c, ctrlOf b = some c → liveCtrlL C' c = liveCtrlL s.ctrls c) :
    handleOKL R' C' b = true ∧ viewOfL R' b = viewOfL s.regions b :=
  ⟨(handleOKL_of_lookup (fun r h1 h2 => hk.miss (hA r (hI.anchor hj h1 h2))) hC).trans (hI.hok j b hj),
    viewOfL_of_lookup fun r h1 h2 => hk.miss (hA r (hI.anchor hj h1 (.inr h2)))⟩

/-- `ctrlBufOK` reads liveness and size of the block's buffer, and a bound on the owner ids -/
theorem ctrlBufOK_congr {R R' : List Region} {ow ow' : Nat} {ct : Ctrl} (h : ctrlBufOK R ow ct)
    (hle : ow ≤ ow') (hr : ∀ r, ctrlRegion ct = some r → isHeapLiveL R r = true →
      isHeapLiveL R' r = true ∧ regionSizeL R' r = regionSizeL R r) : ctrlBufOK R' ow' ct := by
  cases ct with
  | sharedB r cap => exact ⟨(hr r rfl h.1).1, (hr r rfl h.1).2.trans h.2⟩
  | sharedV reg vlen vcap orig =>
    cases reg with
    | none => exact h
    | some r => exact ⟨(hr r rfl h.1).1, (hr r rfl h.1).2.trans h.2⟩
  | owned o => exact Nat.lt_of_lt_of_le h hle

theorem ctrlBufOK_append {R : List Region} {ow ow' : Nat} {ct : Ctrl} (X : List Region)
    (h : ctrlBufOK R ow ct) (hle : ow ≤ ow') : ctrlBufOK (R ++ X) ow' ct :=
  ctrlBufOK_congr h hle fun _ _ hl =>
    ⟨(isHeapLiveL_append X (isHeapLiveL_lt hl)).trans hl, regionSizeL_append X (isHeapLiveL_lt hl)⟩

theorem ctrlBufOK_owners {R : List Region} {ow ow' : Nat} {ct : Ctrl}
    (h : ctrlBufOK R ow ct) (hle : ow ≤ ow') : ctrlBufOK R ow' ct :=
  ctrlBufOK_congr h hle fun _ _ hl => ⟨hl, rfl⟩

theorem ctrlBufOK_of_meta {R R' : List Region} {ow : Nat} {ct : Ctrl}
    (hm : ∀ r, metaL R' r = metaL R r) (h : ctrlBufOK R ow ct) : ctrlBufOK R' ow ct :=
  ctrlBufOK_congr h (Nat.le_refl _) fun r _ hl =>
    ⟨(isHeapLiveL_of_meta (hm r)).trans hl, regionSizeL_of_meta (hm r)⟩

/-- Kill slot `i` and deallocate the regions in `K`: the surviving handles are anchored elsewhere and
see their control blocks as before; the surviving blocks are old ones that slot `i` did not name and
whose buffers are not in `K`.  The owner count `hown` is the caller's: it is the one field whose argument
differs between freeing a directly owned region and freeing the buffer of a control block. -/
theorem Inv_kill_gen {s : St} (hI : Inv s) {i : Nat} {h : Handle} (hi : s.hs[i]? = some (some h))
    {R' : List Region} {C' : List CtrlE} {K : Nat → Bool} (hk : Killed s.regions R' K)
    (hsurv : ∀ (j : Nat) (b : Handle), j ≠ i → s.hs[j]? = some (some b) →
      (∀ r, Anchor s.regions s.ctrls b r → K r = false) ∧
      (∀ c, ctrlOf b = some c → liveCtrlL C' c = liveCtrlL s.ctrls c))
    (hC : ∀ (c : Nat) (e : CtrlE), C'[c]? = some e → e.live = true →
      s.ctrls[c]? = some e ∧ ctrlOf h ≠ some c ∧ ∀ r, ctrlRegion e.c = some r → K r = false)
    (hown : ∀ r, r < s.regions.length →
      dirCountL (s.hs.set i none) r + ctrlCountL C' r = if isHeapLiveL R' r = true then 1 else 0)
    (ev : List Ev) :
    Inv ⟨R', C', s.hs.set i none, s.owners, ev⟩ ∧
    ∀ (j : Nat) (b : Handle), j ≠ i → s.hs[j]? = some (some b) → viewOfL R' b = viewOfL s.regions b := by
  have hs := fun j b hji hj => survivor hI hk hj (hsurv j b hji hj).1 (hsurv j b hji hj).2
  have hod : ∀ (c : Nat) (ct : Ctrl), liveCtrlL C' c = some ct → liveCtrlL s.ctrls c = some ct := by
    intro c ct hc
    obtain ⟨e, he, hl, hct⟩ := liveCtrlL_some_iff.mp hc
    exact liveCtrlL_some_iff.mpr ⟨e, (hC c e he hl).1, hl, hct⟩
  refine ⟨⟨hk.regs hI.regs,
    forall_live_kill (fun j b hji hj => (hs j b hji hj).1),
    fun c e he hl => ?_, fun r hr => hown r (hk.len ▸ hr), Excl_kill i hI.excl,
    stat_of_statOK (forall_live_kill
      fun _ _ _ hj => statOK_of_kindL (fun r hr => (hk.kindL_eq r).trans hr) (hI.statOK hj)),
    fun c1 c2 o h1 h2 => hI.odist c1 c2 o (hod _ _ h1) (hod _ _ h2)⟩,
    fun j b hji hj => (hs j b hji hj).2⟩
  obtain ⟨he', hne, hK⟩ := hC c e he hl
  obtain ⟨h1, h2, h3⟩ := hI.cok c e he' hl
  have hkk := refCountL_kill c hi
  rw [if_neg hne] at hkk
  exact ⟨h1.trans hkk.symm, h2, ctrlBufOK_congr h3 (Nat.le_refl _) fun r hr hl =>
    have hm := metaL_of_lookup (hk.miss (hK r hr))
    ⟨(isHeapLiveL_of_meta hm).trans hl, regionSizeL_of_meta hm⟩⟩

theorem Anchor.heap_cases {R : List Region} {C : List CtrlE} {b : Handle} {r : Nat}
    (ha : Anchor R C b r) (hl : isHeapLiveL R r = true) :
    directRegion b = some r ∨
    ∃ c e, ctrlOf b = some c ∧ C[c]? = some e ∧ e.live = true ∧ ctrlRegion e.c = some r := by
  obtain ⟨rg, o, hr, _, hk⟩ := isHeapLiveL_iff.mp hl
  cases ha with
  | stat rg' hr' hk' => rw [hr] at hr'; cases hr'; rw [hk] at hk'; cases hk'
  | own c o' rg' hc hl' hr' hk' => rw [hr] at hr'; cases hr'; rw [hk] at hk'; cases hk'
  | direct hd _ => exact .inl hd
  | ctrl c ct hc hl' hr' _ =>
    obtain ⟨e, h1, h2, h3⟩ := liveCtrlL_some_iff.mp hl'
    subst h3; exact .inr ⟨c, e, hc, h1, h2, hr'⟩

theorem Anchor.owner_cases {R : List Region} {C : List CtrlE} {b : Handle} {r o : Nat}
    (ha : Anchor R C b r) (hk : kindL R r = some (.ownerMem o)) :
    ∃ c, ctrlOf b = some c ∧ liveCtrlL C c = some (.owned o) := by
  have hkind : ∀ rg, R[r]? = some rg → rg.kind = .ownerMem o := fun rg hr => by
    rw [kindL, hr] at hk; exact Option.some.inj hk
  have hheap : isHeapLiveL R r = true → False := fun hl => by
    obtain ⟨rg, k, hr, _, hk'⟩ := isHeapLiveL_iff.mp hl
    rw [hkind rg hr] at hk'; cases hk'
  cases ha with
  | stat rg hr hk' => rw [hkind rg hr] at hk'; cases hk'
  | own c o' rg hc hl hr hk' => rw [hkind rg hr] at hk'; cases hk'; exact ⟨c, hc, hl⟩
  | direct _ hl => exact (hheap hl).elim
  | ctrl _ _ _ _ _ hl => exact (hheap hl).elim

theorem Inv.buffer_owner {s : St} (hI : Inv s) {c r : Nat} {e : CtrlE} (he : s.ctrls[c]? = some e)
    (hl : e.live = true) (hr : ctrlRegion e.c = some r) :
    isHeapLiveL s.regions r = true ∧ dirCountL s.hs r = 0 ∧
    ∀ (c' : Nat) (e' : CtrlE), s.ctrls[c']? = some e' → e'.live = true → ctrlRegion e'.c = some r →
      c' = c := by
  have hlive := ctrlBufOK_live (hI.cok c e he hl).2.2 hr
  have ho := hI.own r (isHeapLiveL_lt hlive)
  rw [if_pos hlive] at ho
  have := ctrlCountL_pos_of he hl hr
  exact ⟨hlive, by omega, fun c' e' h1 h2 h3 => ctrlCountL_unique (by omega) he hl hr h1 h2 h3⟩

/-! ### sole ownership

A handle that is the only owner of region `r` (directly, or through a control block with count 1)
may do what it likes with the whole region: nobody else has a non-empty view or span in it.  Use
these for `into_vec` / `into_mut` / `reserve`'s in-place paths, where the written range is *not*
inside the span of the handle and exclusivity does not apply. -/

theorem Inv.direct_owner {s : St} (hI : Inv s) {i : Nat} {h : Handle} {r : Nat}
    (hi : s.hs[i]? = some (some h)) (hd : directRegion h = some r) :
    isHeapLiveL s.regions r = true ∧ dirCountL s.hs r ≤ 1 ∧
    ∀ (c : Nat) (e : CtrlE), s.ctrls[c]? = some e → e.live = true → ctrlRegion e.c ≠ some r := by
  have hlive := handleOKL_direct (hI.hok i h hi) hd
  have hown := hI.own r (isHeapLiveL_lt hlive)
  rw [if_pos hlive] at hown
  have : 1 ≤ dirCountL s.hs r := keyCountL_pos_of directRegion hi hd
  exact ⟨hlive, by omega, ctrlCountL_eq_zero.mp (by omega)⟩

theorem Inv.alone_direct {s : St} (hI : Inv s) {i j : Nat} {h b : Handle} {r : Nat}
    (hi : s.hs[i]? = some (some h)) (hd : directRegion h = some r)
    (hji : j ≠ i) (hj : s.hs[j]? = some (some b)) : ¬ Anchor s.regions s.ctrls b r := by
  intro ha
  obtain ⟨hlive, h1, hno⟩ := hI.direct_owner hi hd
  rcases ha.heap_cases hlive with h2 | ⟨c, e, _, h2, h3, h4⟩
  · exact hji (keyCountL_unique directRegion h1 hi hd hj h2)
  · exact hno c e h2 h3 h4

theorem Inv.alone_ctrl {s : St} (hI : Inv s) {i j : Nat} {h b : Handle} {c r : Nat} {e : CtrlE}
    (hi : s.hs[i]? = some (some h)) (hc : ctrlOf h = some c) (he : s.ctrls[c]? = some e)
    (hl : e.live = true) (h1 : e.rc = 1) (hr : ctrlRegion e.c = some r)
    (hji : j ≠ i) (hj : s.hs[j]? = some (some b)) : ¬ Anchor s.regions s.ctrls b r := by
  intro ha
  obtain ⟨hlive, hd0, hu⟩ := hI.buffer_owner he hl hr
  rcases ha.heap_cases hlive with h2 | ⟨c2, e2, hc2, h3, h4, h5⟩
  · exact dirCountL_eq_zero.mp hd0 j b hj h2
  · cases hu c2 e2 h3 h4 h5
    exact hji (refCountL_unique ((hI.cok c e he hl).1.symm.trans h1) hi hc hj hc2)

/-- `R'` agrees with `R` outside the regions in `P`, and everywhere in size / liveness / kind -/
structure MetaEq (R R' : List Region) (P : Nat → Prop) : Prop where
  len : R'.length = R.length
  out : ∀ r, ¬ P r → R'[r]? = R[r]?
  mt : ∀ r, metaL R' r = metaL R r
  regs : ∀ (r : Nat) (rg : Region), R'[r]? = some rg → regionOKB rg = true

theorem MetaEq.refl {R : List Region} (hR : ∀ (r : Nat) (rg : Region), R[r]? = some rg → regionOKB rg = true)
    (P : Nat → Prop) : MetaEq R R P :=
  ⟨rfl, fun _ _ => rfl, fun _ => rfl, hR⟩

theorem MetaEq.write {R : List Region}
    (hR : ∀ (r : Nat) (rg : Region), R[r]? = some rg → regionOKB rg = true)
    {r : Nat} {rg : Region} (hr : R[r]? = some rg) {off : Nat} {bs : List Byte}
    (hb : off + bs.length ≤ rg.size) : MetaEq R (R.set r (rg.write off bs)) (fun r' => r' = r) := by
  refine ⟨List.length_set, fun r' h => List.getElem?_set_ne (Ne.symm h), fun r' => metaL_set_data _ r' hr, ?_⟩
  intro r' rg' hr'
  by_cases hrr : r = r'
  · subst hrr; rw [lookup_set_eq _ hr] at hr'; cases hr'
    exact regionOKB_write (hR r rg hr) ((region_size_le hR hr).2 ▸ hb)
  · rw [List.getElem?_set_ne hrr] at hr'; exact hR r' rg' hr'

/-- Generic "replace slot `i`, possibly rewriting the contents of regions in which no other handle is
anchored, possibly changing control blocks no other handle names".  The counting obligations
(`hcok`, `hown`, `hod`) are left to the instances.  `hsp` asks only a non-empty span of `h'` to lie in `P`:
an empty span overlaps nothing. -/
theorem Inv_sole_gen {s : St} (hI : Inv s) {i : Nat} {h' : Handle}
    {R' : List Region} {C' : List CtrlE} {P : Nat → Prop}
    (hR : MetaEq s.regions R' P)
    (hsole : ∀ r, P r → ∀ (j : Nat) (b : Handle), j ≠ i → s.hs[j]? = some (some b) →
      ¬ Anchor s.regions s.ctrls b r)
    (hCo : ∀ (j : Nat) (b : Handle), j ≠ i → s.hs[j]? = some (some b) →
      ∀ c, ctrlOf b = some c → liveCtrlL C' c = liveCtrlL s.ctrls c)
    (hcok : ∀ (c : Nat) (e' : CtrlE), C'[c]? = some e' → e'.live = true →
      e'.rc = refCountL (s.hs.set i (some h')) c ∧ 1 ≤ e'.rc ∧ ctrlBufOK R' s.owners e'.c)
    (hown : ∀ r, r < s.regions.length →
      dirCountL (s.hs.set i (some h')) r + ctrlCountL C' r = if isHeapLiveL R' r = true then 1 else 0)
    (hod : ∀ (c : Nat) (ct : Ctrl), liveCtrlL C' c = some ct → liveCtrlL s.ctrls c = some ct)
    (ok : handleOKL R' C' h' = true) (st : statOK R' h')
    (hsp : ∀ r o l, span h' = some (r, o, l) → l ≠ 0 → P r)
    (ev : List Ev) :
    Inv ⟨R', C', s.hs.set i (some h'), s.owners, ev⟩ ∧
    ∀ (j : Nat) (b : Handle), j ≠ i → s.hs[j]? = some (some b) → viewOfL R' b = viewOfL s.regions b := by
  have hlk : ∀ (j : Nat) (b : Handle), j ≠ i → s.hs[j]? = some (some b) →
      ∀ r, hreg b = some r → (usesMeta b = true ∨ hlen b ≠ 0) → R'[r]? = s.regions[r]? :=
    fun j b hji hj r h1 h2 => hR.out r (fun hp => hsole r hp j b hji hj (hI.anchor hj h1 h2))
  have hview : ∀ (j : Nat) (b : Handle), j ≠ i → s.hs[j]? = some (some b) →
      viewOfL R' b = viewOfL s.regions b :=
    fun j b hji hj => viewOfL_of_lookup (fun r h1 h2 => hlk j b hji hj r h1 (.inr h2))
  refine ⟨?_, hview⟩
  constructor
  · exact hR.regs
  · exact forall_live_set (fun j b hji hj =>
      (handleOKL_of_lookup (hlk j b hji hj) (hCo j b hji hj)).trans (hI.hok j b hj))
      ok
  · exact hcok
  · intro r hr; exact hown r (hR.len ▸ hr)
  · apply Excl_set hI.excl
    intro j b hji hj
    have key : disjointB b h' = true := by
      rw [disjointB_iff]
      intro r o l r' o' l' h1 h2
      by_cases hl0 : l = 0
      · exact .inr (.inl hl0)
      by_cases hl0' : l' = 0
      · exact .inr (.inr (.inl hl0'))
      left
      rintro rfl
      exact hsole r (hsp r o' l' h2 hl0') j b hji hj (hI.anchor_span hj h1 hl0)
    exact ⟨fun _ => key, fun _ => by rw [disjointB_symm]; exact key⟩
  · exact stat_of_statOK (forall_live_set (fun j b _ hj =>
      statOK_of_kindL (fun r hk => (kindL_of_meta (hR.mt r)).trans hk) (hI.statOK hj))
      st)
  · intro c1 c2 o h1 h2; exact hI.odist c1 c2 o (hod _ _ h1) (hod _ _ h2)

/-- the handle in slot `i` is the only one anchored in the regions `P`; it is replaced by a handle with
the same resources whose span lies in `P`; the contents of the regions in `P` may change. -/
theorem Inv_sole_set {s : St} (hI : Inv s) {i : Nat} {h h' : Handle} (hi : s.hs[i]? = some (some h))
    {R' : List Region} {P : Nat → Prop} (hR : MetaEq s.regions R' P)
    (hsole : ∀ r, P r → ∀ (j : Nat) (b : Handle), j ≠ i → s.hs[j]? = some (some b) →
      ¬ Anchor s.regions s.ctrls b r)
    (hc : ctrlOf h' = ctrlOf h) (hd : directRegion h' = directRegion h)
    (ok : handleOKL R' s.ctrls h' = true) (st : statOK R' h')
    (hsp : ∀ r o l, span h' = some (r, o, l) → l ≠ 0 → P r) (ev : List Ev) :
    Inv ⟨R', s.ctrls, s.hs.set i (some h'), s.owners, ev⟩ ∧
    ∀ (j : Nat) (b : Handle), j ≠ i → s.hs[j]? = some (some b) → viewOfL R' b = viewOfL s.regions b := by
  apply Inv_sole_gen hI hR hsole (fun _ _ _ _ _ _ => rfl) ?_ ?_ (fun _ _ h => h) ok st hsp
  · intro c e he hl
    obtain ⟨h1, h2, h3⟩ := hI.cok c e he hl
    exact ⟨by rw [refCountL_set_same hi hc]; exact h1, h2, ctrlBufOK_of_meta hR.mt h3⟩
  · intro r hr
    rw [dirCountL_set_same hi hd, isHeapLiveL_of_meta (hR.mt r)]; exact hI.own r hr

/-- drop a handle that owns its region directly -/
theorem Inv_kill_direct {s : St} (hI : Inv s) {i : Nat} {h : Handle} (hi : s.hs[i]? = some (some h))
    {r0 : Nat} {rg : Region} (hd : directRegion h = some r0) (hr : s.regions[r0]? = some rg)
    (ev : List Ev) :
    Inv ⟨s.regions.set r0 rg.kill, s.ctrls, s.hs.set i none, s.owners, ev⟩ ∧
    ∀ (j : Nat) (b : Handle), j ≠ i → s.hs[j]? = some (some b) →
      viewOfL (s.regions.set r0 rg.kill) b = viewOfL s.regions b := by
  obtain ⟨hlive, hd1, hnoctrl⟩ := hI.direct_owner hi hd
  have hmiss : ∀ r, r ≠ r0 → (r == r0) = false := fun r => beq_false_of_ne
  refine Inv_kill_gen hI hi (Killed.of_set hr)
    (fun j b hji hj =>
      ⟨fun r ha => hmiss r fun hrr => hI.alone_direct hi hd hji hj (hrr ▸ ha), fun _ _ => rfl⟩)
    (fun c e he hl => ⟨he, direct_some_ctrlOf_none hd ▸ nofun,
      fun r hrr => hmiss r fun h => hnoctrl c e he hl (h ▸ hrr)⟩)
    (fun r hrlt => ?_) ev
  have hk : dirCountL (s.hs.set i none) r + _ = dirCountL s.hs r := keyCountL_kill directRegion r hi
  have ho := hI.own r hrlt
  have hc0 := ctrlCountL_eq_zero.mpr hnoctrl
  rw [(Killed.of_set hr).isHeapLiveL_eq, hd] at *
  by_cases hrr : r = r0
  · subst hrr
    rw [if_pos rfl] at hk
    rw [hlive, beq_self_eq_true]; show _ = 0; omega
  · rw [if_neg fun h => hrr (Option.some.inj h).symm] at hk
    rw [hmiss r hrr, Bool.not_false, Bool.and_true]; omega

/-- an owner count `n` (0, or 1 on live heap regions) after one owner `P` of a live region left with it -/
theorem count_after_kill {n n' : Nat} {L P : Bool} (h : n = if L = true then 1 else 0)
    (h' : n' + (if P = true then 1 else 0) = n) (hPL : P = true → L = true) :
    n' = if (L && !P) = true then 1 else 0 := by
  cases P with
  | false => rw [Bool.not_false, Bool.and_true]; exact (h' : n' = n).trans h
  | true =>
    rw [hPL rfl] at h ⊢
    exact Nat.succ.inj (h'.trans h)

theorem bufHit_heap {R : List Region} {ct : Ctrl} {r : Nat} (hl : isHeapLiveL R r = true) :
    bufHit R ct r = (ctrlRegion ct == some r) := by
  obtain ⟨rg, o, hr, _, hk⟩ := isHeapLiveL_iff.mp hl
  cases ct with
  | sharedB r0 cap => simp [bufHit, ctrlRegion, Bool.beq_comm]
  | sharedV reg vlen vcap orig => cases reg <;> simp [bufHit, ctrlRegion, Bool.beq_comm]
  | owned o' => simp [bufHit, ctrlRegion, kindL, hr, hk]

/-- what a release deallocates: the heap buffer of the block, or the memory of its owner -/
theorem bufHit_cases {R : List Region} {ow : Nat} {ct : Ctrl} {r : Nat} (hb : ctrlBufOK R ow ct)
    (h : bufHit R ct r = true) :
    (isHeapLiveL R r = true ∧ ctrlRegion ct = some r) ∨
    ∃ o, ct = .owned o ∧ kindL R r = some (.ownerMem o) := by
  cases ct with
  | sharedB r0 cap => cases beq_iff_eq.mp h; exact .inl ⟨hb.1, rfl⟩
  | sharedV reg vlen vcap orig =>
    cases reg with
    | none => cases h
    | some r0 => cases beq_iff_eq.mp h; exact .inl ⟨hb.1, rfl⟩
  | owned o => exact .inr ⟨o, rfl, beq_iff_eq.mp h⟩

theorem isHeapLiveL_freeBuf (R : List Region) (ct : Ctrl) (r : Nat) :
    isHeapLiveL (freeBuf R ct) r = (isHeapLiveL R r && !(ctrlRegion ct == some r)) := by
  rw [(Killed.of_freeBuf R ct).isHeapLiveL_eq]
  cases hl : isHeapLiveL R r with
  | false => rfl
  | true => rw [bufHit_heap hl]

/-- drop the last handle of a control block: the block and its buffer are freed -/
theorem Inv_kill_last {s : St} (hI : Inv s) {i : Nat} {h : Handle} (hi : s.hs[i]? = some (some h))
    {c : Nat} {e : CtrlE} (hc : ctrlOf h = some c) (he : s.ctrls[c]? = some e) (hl : e.live = true)
    (h1 : e.rc = 1) (ev : List Ev) :
    Inv ⟨freeBuf s.regions e.c, s.ctrls.set c ⟨e.c, 0, false⟩, s.hs.set i none, s.owners, ev⟩ ∧
    ∀ (j : Nat) (b : Handle), j ≠ i → s.hs[j]? = some (some b) →
      viewOfL (freeBuf s.regions e.c) b = viewOfL s.regions b := by
  obtain ⟨hrc, _, hbuf⟩ := hI.cok c e he hl
  have hother : ∀ (j : Nat) (b : Handle), j ≠ i → s.hs[j]? = some (some b) → ctrlOf b ≠ some c :=
    fun j b hji hj hcb => hji (refCountL_unique (hrc.symm.trans h1) hi hc hj hcb)
  refine Inv_kill_gen hI hi (Killed.of_freeBuf s.regions e.c)
    (fun j b hji hj => ⟨fun r ha => ?_, fun c' hc' =>
      liveCtrlL_set_ne _ fun h : c = c' => hother j b hji hj (h.symm ▸ hc')⟩)
    (fun c' e' he' hl' => ?_) (fun r hrlt => ?_) ev
  · -- a surviving handle is not anchored in a freed region
    cases hb : bufHit s.regions e.c r with
    | false => rfl
    | true =>
      exfalso
      rcases bufHit_cases hbuf hb with ⟨hlv, hreg⟩ | ⟨o, hct, hkind⟩
      · exact hI.alone_ctrl hi hc he hl h1 hreg hji hj ha
      · obtain ⟨c2, hc2, hl2⟩ := ha.owner_cases hkind
        exact hother j b hji hj (hI.odist c2 c o hl2 (hct ▸ liveCtrlL_of he hl) ▸ hc2)
  · -- a surviving control block is another one, and its buffer is not freed
    have hcc : c' ≠ c := fun h => by
      subst h; rw [lookup_set_eq _ he] at he'; cases he'; cases hl'
    rw [List.getElem?_set_ne (Ne.symm hcc)] at he'
    refine ⟨he', fun h => hcc (Option.some.inj (h.symm.trans hc)), fun r hrr => ?_⟩
    have hlv := ctrlBufOK_live (hI.cok c' e' he' hl').2.2 hrr
    rw [bufHit_heap hlv]
    exact beq_false_of_ne fun hreg => hcc ((hI.buffer_owner he hl hreg).2.2 c' e' he' hl' hrr)
  · have hkk : dirCountL (s.hs.set i none) r = dirCountL s.hs r :=
      keyCountL_set_eq directRegion (y := none) hi (ctrlOf_some_direct_none hc).symm r
    have hcs := ctrlCountL_set ⟨e.c, 0, false⟩ r he
    rw [hl, Bool.true_and, Bool.false_and, if_neg Bool.false_ne_true, Nat.add_zero] at hcs
    rw [isHeapLiveL_freeBuf, hkk]
    exact count_after_kill (hI.own r hrlt) (by rw [Nat.add_assoc, hcs])
      fun hB => ctrlBufOK_live hbuf (beq_iff_eq.mp hB)

/-- replace slot `i` by `h1` and append `h2`, where `{h1, h2}` hold together exactly the
resources of the old handle `h` (no reference count changes).  Covers: clone / split of STATIC
handles, the `k = 0` and `k = len` cases of `split_off`/`split_to` (one of the two is an empty STATIC
handle), and with `h1 = h` (`set_self`) a plain push. -/
theorem Inv_set_push_plain {s : St} (hI : Inv s) {i : Nat} {h h1 h2 : Handle}
    (hi : s.hs[i]? = some (some h))
    (hc : ∀ c, (if ctrlOf h1 = some c then 1 else 0) + (if ctrlOf h2 = some c then 1 else 0) =
      (if ctrlOf h = some c then 1 else 0))
    (hd : ∀ r, (if directRegion h1 = some r then 1 else 0) + (if directRegion h2 = some r then 1 else 0) =
      (if directRegion h = some r then 1 else 0))
    (ok1 : handleOKL s.regions s.ctrls h1 = true) (ok2 : handleOKL s.regions s.ctrls h2 = true)
    (st1 : statOK s.regions h1) (st2 : statOK s.regions h2)
    (s1 : spanSub h1 h) (s2 : spanSub h2 h)
    (m1 : isMutable h1 = true → isMutable h = true) (m2 : isMutable h2 = true → isMutable h = true)
    (d12 : isMutable h1 = true → disjointB h1 h2 = true)
    (d21 : isMutable h2 = true → disjointB h2 h1 = true) (ev : List Ev) :
    Inv ⟨s.regions, s.ctrls, s.hs.set i (some h1) ++ [some h2], s.owners, ev⟩ :=
  Inv_rehandle hI
    (fun c => by have := refCountL_set_some h1 c hi; have := hc c; rw [refCountL_push]; omega)
    (forall_live_push
      (forall_live_set (fun _ _ _ hj => hI.handle hj) ⟨ok1, st1⟩)
      ⟨ok2, st2⟩)
    (fun r => by have := dirCountL_set_some h1 r hi; have := hd r; rw [dirCountL_push]; omega)
    (Excl_split hI.excl hi s1 s2 m1 m2 d12 d21) ev

/-- replace slot `i` by `h1` and append `h2`; all three name control block `c`, whose count
goes up by one.  Covers `clone`/`slice`/`split_off`/`split_to` of shared Bytes and of KIND_ARC
BytesMut (take `h1 = h` and `set_self` for a plain clone). -/
theorem Inv_set_push_share {s : St} (hI : Inv s) {i : Nat} {h h1 h2 : Handle} {c : Nat} {e : CtrlE}
    (hi : s.hs[i]? = some (some h)) (he : s.ctrls[c]? = some e)
    (hc : ctrlOf h = some c) (hc1 : ctrlOf h1 = some c) (hc2 : ctrlOf h2 = some c)
    (ok1 : handleOKL s.regions s.ctrls h1 = true) (ok2 : handleOKL s.regions s.ctrls h2 = true)
    (s1 : spanSub h1 h) (s2 : spanSub h2 h)
    (m1 : isMutable h1 = true → isMutable h = true) (m2 : isMutable h2 = true → isMutable h = true)
    (d12 : isMutable h1 = true → disjointB h1 h2 = true)
    (d21 : isMutable h2 = true → disjointB h2 h1 = true) (ev : List Ev) :
    Inv ⟨s.regions, s.ctrls.set c { e with rc := e.rc + 1 }, s.hs.set i (some h1) ++ [some h2],
      s.owners, ev⟩ := by
  refine Inv_recount hI he (fun hl => ?_) (fun c' hcc => ?_)
    (forall_live_push
      (forall_live_set (fun _ _ _ hj => hI.handle hj)
        ⟨ok1, statOK_of_ctrl hc1⟩)
      ⟨ok2, statOK_of_ctrl hc2⟩)
    (fun r => ?_) (Excl_split hI.excl hi s1 s2 m1 m2 d12 d21) ev
  · have := refCountL_set_same hi (hc1.trans hc.symm) c
    have := hI.cok c e he hl
    rw [refCountL_push, hc2, if_pos rfl]; omega
  · rw [refCountL_push, hc2, if_neg fun h => hcc (Option.some.inj h).symm]
    exact refCountL_set_same hi (hc1.trans hc.symm) c'
  · exact (keyCountL_push_none directRegion _ (ctrlOf_some_direct_none hc2) r).trans
      (dirCountL_set_same hi
        ((ctrlOf_some_direct_none hc1).trans (ctrlOf_some_direct_none hc).symm) r)

theorem ctrlCountL_append_nil (C : List CtrlE) (r : Nat) : ctrlCountL (C ++ []) r = ctrlCountL C r := by
  rw [List.append_nil]

theorem kindL_lt {R : List Region} {r : Nat} {k : RKind} (h : kindL R r = some k) : r < R.length := by
  unfold kindL at h
  cases hr : R[r]? with
  | none => rw [hr] at h; cases h
  | some rg => exact lookup_lt hr

theorem Inv.handle_append {s : St} (hI : Inv s) (X : List Region) {j : Nat} {b : Handle}
    (hj : s.hs[j]? = some (some b)) :
    handleOKL (s.regions ++ X) s.ctrls b = true ∧ Core.statOK (s.regions ++ X) b :=
  ⟨List.append_nil s.ctrls ▸ handleOKL_append X [] (hI.hok j b hj),
    statOK_of_kindL (fun _ hk => (kindL_append X (kindL_lt hk)).trans hk) (hI.statOK hj)⟩

theorem Inv.view_append {s : St} (hI : Inv s) (X : List Region) {j : Nat} {b : Handle}
    (hj : s.hs[j]? = some (some b)) : viewOfL (s.regions ++ X) b = viewOfL s.regions b := by
  obtain ⟨v, hv, _⟩ := hI.view hj
  rw [hv]; exact rdL_append _ hv

/-- the handle in slot `i` owns its buffer directly (`directRegion h = ctrlRegion ct`) and hands
it to a fresh control block `ct` with count 1 (`promote_to_shared`, `shallow_clone_vec`,
`Bytes::from(Vec)` with spare capacity, `freeze`); `h'` is the replacement handle naming the new
block `s.ctrls.length`; its span lies inside the old one. -/
theorem Inv_promote {s : St} (hI : Inv s) {i : Nat} {h h' : Handle} {ct : Ctrl}
    (hi : s.hs[i]? = some (some h))
    (hc : ctrlOf h = none) (hd : directRegion h = ctrlRegion ct)
    (hc' : ctrlOf h' = some s.ctrls.length)
    (hsub : spanSub h' h) (hm : isMutable h' = true → isMutable h = true)
    (ok : handleOKL s.regions (s.ctrls ++ [⟨ct, 1, true⟩]) h' = true)
    (hb : ctrlBufOK s.regions s.owners ct) (hno : ∀ o, ct ≠ .owned o) (ev : List Ev) :
    Inv ⟨s.regions, s.ctrls ++ [⟨ct, 1, true⟩], s.hs.set i (some h'), s.owners, ev⟩ := by
  have hd' := ctrlOf_some_direct_none hc'
  have hn : ∀ k : Nat, ¬ (none : Option Nat) = some k := fun _ => nofun
  refine ⟨hI.regs,
    forall_live_set
      (fun j b _ hj => List.append_nil s.regions ▸ handleOKL_append [] [⟨ct, 1, true⟩] (hI.hok j b hj))
      ok,
    fun c e he hl => ?_, fun r hr => ?_, Excl_set_sub hI.excl hi hsub hm,
    stat_of_statOK (forall_live_set (fun _ _ _ hj => hI.statOK hj)
      (statOK_of_ctrl hc')),
    fun c1 c2 o h1 h2 => ?_⟩
  · have hk := refCountL_set_some h' c hi
    rw [hc, if_neg (hn c), Nat.add_zero, hc'] at hk
    dsimp only at he ⊢
    rcases lookup_push_cases he with ⟨rfl, rfl⟩ | ⟨hcl, he⟩
    · rw [if_pos rfl, hI.ref_fresh (Nat.le_refl _)] at hk
      exact ⟨hk.symm, Nat.le_refl _, hb⟩
    · rw [if_neg fun h => Nat.ne_of_gt hcl (Option.some.inj h), Nat.add_zero] at hk
      rw [hk]; exact hI.cok c e he hl
  · have hk := dirCountL_set_some h' r hi
    rw [hd', if_neg (hn r), Nat.add_zero, hd] at hk
    have ho := hI.own r hr
    dsimp only
    rw [ctrlCountL_push]
    simp only [Bool.true_and, beq_iff_eq]
    omega
  · have old : ∀ c, liveCtrlL (s.ctrls ++ [⟨ct, 1, true⟩]) c = some (.owned o) →
        liveCtrlL s.ctrls c = some (.owned o) := by
      intro c hcc
      obtain ⟨e, he, hl, hce⟩ := liveCtrlL_some_iff.mp hcc
      rcases lookup_push_cases he with ⟨_, rfl⟩ | ⟨_, he⟩
      · exact (hno o hce).elim
      · exact liveCtrlL_some_iff.mpr ⟨e, he, hl, hce⟩
    exact hI.odist c1 c2 o (old c1 h1) (old c2 h2)

theorem list_set_append_length {α} (l : List α) (x y : α) : (l ++ [x]).set l.length y = l ++ [y] := by
  rw [List.set_append_right _ _ (Nat.le_refl _), Nat.sub_self]; rfl

/-- the handle `h` in slot `i` hands its buffer to a fresh control block `ct` created with
count 2, one reference for `h1`, which replaces it, and one for the appended `h2` (`shallow_clone_vec`,
`promote_to_shared(2)`).  `h'` is `h` as it would be promoted alone; `ok`, `ok1`, `ok2` speak of the block
with count 1 because `handleOKL` does not read the count and the proof promotes first, then shares. -/
theorem Inv_promote_share {s : St} (hI : Inv s) {i : Nat} {h h' h1 h2 : Handle} {ct : Ctrl}
    (hi : s.hs[i]? = some (some h))
    (hc : ctrlOf h = none) (hd : directRegion h = ctrlRegion ct)
    (hc' : ctrlOf h' = some s.ctrls.length)
    (hsub : spanSub h' h) (hm : isMutable h' = true → isMutable h = true)
    (ok : handleOKL s.regions (s.ctrls ++ [⟨ct, 1, true⟩]) h' = true)
    (hb : ctrlBufOK s.regions s.owners ct) (hno : ∀ o, ct ≠ .owned o)
    (hc1 : ctrlOf h1 = some s.ctrls.length) (hc2 : ctrlOf h2 = some s.ctrls.length)
    (ok1 : handleOKL s.regions (s.ctrls ++ [⟨ct, 1, true⟩]) h1 = true)
    (ok2 : handleOKL s.regions (s.ctrls ++ [⟨ct, 1, true⟩]) h2 = true)
    (s1 : spanSub h1 h') (s2 : spanSub h2 h')
    (m1 : isMutable h1 = true → isMutable h' = true) (m2 : isMutable h2 = true → isMutable h' = true)
    (d12 : isMutable h1 = true → disjointB h1 h2 = true)
    (d21 : isMutable h2 = true → disjointB h2 h1 = true) (ev : List Ev) :
    Inv ⟨s.regions, s.ctrls ++ [⟨ct, 2, true⟩], s.hs.set i (some h1) ++ [some h2], s.owners, ev⟩ := by
  have := Inv_set_push_share (Inv_promote hI hi hc hd hc' hsub hm ok hb hno ev)
    (lookup_set_eq _ hi) (List.getElem?_concat_length) hc' hc1 hc2 ok1 ok2 s1 s2 m1 m2 d12 d21 ev
  rwa [List.set_set, list_set_append_length] at this

/-- A region is appended and the handle table gains its owner. -/
theorem Inv_alloc {s : St} (hI : Inv s) {rg : Region} {n : Nat} {hs' : List (Option Handle)}
    (hrg : regionOKB rg = true)
    (hn : (if isHeapLiveL (s.regions ++ [rg]) s.regions.length = true then 1 else 0) = n)
    (hrc : ∀ c, refCountL hs' c = refCountL s.hs c)
    (hh : ∀ (j : Nat) (b : Handle), hs'[j]? = some (some b) →
      handleOKL (s.regions ++ [rg]) s.ctrls b = true ∧ statOK (s.regions ++ [rg]) b)
    (hdc : ∀ r, dirCountL hs' r = dirCountL s.hs r + if some s.regions.length = some r then n else 0)
    (hex : Excl hs') (ev : List Ev) :
    Inv ⟨s.regions ++ [rg], s.ctrls, hs', s.owners, ev⟩ := by
  refine ⟨fun r rg' hr => ?_, fun j b hj => (hh j b hj).1, fun c e he hl => ?_, fun r hr => ?_, hex,
    stat_of_statOK fun j b hj => (hh j b hj).2, hI.odist⟩
  · rcases lookup_push_cases hr with ⟨_, rfl⟩ | ⟨_, hr⟩
    · exact hrg
    · exact hI.regs r rg' hr
  · obtain ⟨h1, h2, h3⟩ := hI.cok c e he hl
    exact ⟨h1.trans (hrc c).symm, h2, ctrlBufOK_append _ h3 (Nat.le_refl _)⟩
  · show dirCountL hs' r + ctrlCountL s.ctrls r = _
    rw [hdc]
    by_cases hrl : r < s.regions.length
    · rw [if_neg fun h => Nat.ne_of_gt hrl (Option.some.inj h), isHeapLiveL_append _ hrl]
      exact hI.own r hrl
    · have : r = s.regions.length := by
        rw [List.length_append, List.length_singleton] at hr; omega
      subst this
      rw [if_pos rfl, hI.dir_fresh (Nat.le_refl _), hI.ctrl_fresh (Nat.le_refl _), Nat.zero_add, Nat.add_zero]
      exact hn.symm

theorem Inv.excl_fresh {s : St} (hI : Inv s) {j : Nat} {b h' : Handle} (hj : s.hs[j]? = some (some b))
    (hsp : ∀ r o l, span h' = some (r, o, l) → r = s.regions.length) :
    (isMutable b = true → disjointB b h' = true) ∧ (isMutable h' = true → disjointB h' b = true) := by
  have key : disjointB b h' = true := disjointB_iff.mpr fun r o l r' o' l' h1 h2 => by
    by_cases hl0 : l = 0
    · exact .inr (.inl hl0)
    · have := hI.span_lt hj h1 hl0
      have := hsp r' o' l' h2
      left; omega
  exact ⟨fun _ => key, fun _ => (disjointB_symm h' b).trans key⟩

theorem excl_nospan {b h' : Handle} (hsp : ∀ r o l, span h' = some (r, o, l) → l = 0) :
    (isMutable b = true → disjointB b h' = true) ∧ (isMutable h' = true → disjointB h' b = true) := by
  have key : disjointB b h' = true :=
    disjointB_iff.mpr fun r o l r' o' l' _ h2 => .inr (.inr (.inl (hsp r' o' l' h2)))
  exact ⟨fun _ => key, fun _ => (disjointB_symm h' b).trans key⟩

/-- allocate a region and append a handle that owns it directly (`Vec`, KIND_VEC BytesMut, or a
promotable Bytes whose view is the whole region). -/
theorem Inv_push_fresh {s : St} (hI : Inv s) {rg : Region} {o : Bool} {h' : Handle}
    (hrg : regionOKB rg = true) (hlive : rg.live = true) (hkind : rg.kind = .heap o)
    (hc : ctrlOf h' = none) (hd : directRegion h' = some s.regions.length)
    (hsp : ∀ r o l, span h' = some (r, o, l) → r = s.regions.length)
    (ok : handleOKL (s.regions ++ [rg]) s.ctrls h' = true) (ev : List Ev) :
    Inv ⟨s.regions ++ [rg], s.ctrls, s.hs ++ [some h'], s.owners, ev⟩ ∧
    ∀ (j : Nat) (b : Handle), s.hs[j]? = some (some b) →
      viewOfL (s.regions ++ [rg]) b = viewOfL s.regions b := by
  refine ⟨Inv_alloc hI hrg (n := 1) (by rw [isHeapLiveL_new, hlive, hkind]; rfl) (keyCountL_push_none ctrlOf _ hc)
    (forall_live_push (fun _ _ hj => hI.handle_append _ hj)
      ⟨ok, statOK_of_direct hd⟩)
    (fun r => ?_) (Excl_push hI.excl fun _ _ hj => hI.excl_fresh hj hsp) ev,
    fun _ _ hj => hI.view_append _ hj⟩
  rw [dirCountL_push, hd]

/-- append a handle that holds no resource (empty STATIC `Bytes`, empty `Vec`, empty KIND_VEC
`BytesMut`, a STATIC handle into static memory); it must be exclusive against the existing slots,
which is automatic when its span is empty (`Inv_push_plain_nospan`). -/
theorem Inv_push_plain {s : St} (hI : Inv s) {h' : Handle}
    (hc : ctrlOf h' = none) (hd : directRegion h' = none)
    (ok : handleOKL s.regions s.ctrls h' = true) (st : statOK s.regions h')
    (hex : ∀ (j : Nat) (b : Handle), s.hs[j]? = some (some b) →
      (isMutable b = true → disjointB b h' = true) ∧ (isMutable h' = true → disjointB h' b = true))
    (ev : List Ev) :
    Inv ⟨s.regions, s.ctrls, s.hs ++ [some h'], s.owners, ev⟩ :=
  Inv_rehandle hI (keyCountL_push_none ctrlOf _ hc)
    (forall_live_push (fun _ _ hj => hI.handle hj) ⟨ok, st⟩)
    (keyCountL_push_none directRegion _ hd) (Excl_push hI.excl hex) ev

theorem Inv_push_plain_nospan {s : St} (hI : Inv s) {h' : Handle}
    (hc : ctrlOf h' = none) (hd : directRegion h' = none)
    (ok : handleOKL s.regions s.ctrls h' = true) (st : statOK s.regions h')
    (hsp : ∀ r o l, span h' = some (r, o, l) → l = 0) (ev : List Ev) :
    Inv ⟨s.regions, s.ctrls, s.hs ++ [some h'], s.owners, ev⟩ :=
  Inv_push_plain hI hc hd ok st (fun _ _ _ => excl_nospan hsp) ev

theorem view_in_span {R : List Region} {C : List CtrlE} {b : Handle} {r : Nat}
    (hok : handleOKL R C b = true) (hr : hreg b = some r) :
    ∃ ob lb, span b = some (r, ob, lb) ∧ ob ≤ hoff b ∧ hoff b + hlen b ≤ ob + lb := by
  cases b with
  | bytes repr reg off len =>
    simp only [hreg] at hr; subst hr
    exact ⟨off, len, rfl, Nat.le_refl _, Nat.le_refl _⟩
  | «mut» arc reg off len cap orig =>
    simp only [hreg] at hr; subst hr
    exact ⟨off, cap, rfl, Nat.le_refl _, Nat.add_le_add_left (mut_len_le_cap hok) off⟩
  | vec reg len cap =>
    simp only [hreg] at hr; subst hr
    have : len ≤ cap := (handleOKL_vec.mp hok).1
    exact ⟨0, cap, rfl, Nat.le_refl _, Nat.add_le_add_left this 0⟩

theorem Inv.span_le_size {s : St} (hI : Inv s) {i : Nat} {h : Handle} {r o c : Nat}
    (hi : s.hs[i]? = some (some h)) (hm : isMutable h = true) (hs : span h = some (r, o, c)) :
    ∃ rg k, s.regions[r]? = some rg ∧ rg.live = true ∧ rg.kind = .heap k ∧ o + c ≤ rg.size := by
  have key : ∀ n, isHeapLiveL s.regions r = true → n ≤ regionSizeL s.regions r →
      ∃ rg k, s.regions[r]? = some rg ∧ rg.live = true ∧ rg.kind = .heap k ∧ n ≤ rg.size := by
    intro n hl hn
    obtain ⟨rg, k, hr, hlv, hk⟩ := isHeapLiveL_iff.mp hl
    rw [regionSizeL_def, hr] at hn
    exact ⟨rg, k, hr, hlv, hk, hn⟩
  have hok := hI.hok i h hi
  cases h with
  | bytes repr reg off len => cases hm
  | «mut» arc reg off len cap orig =>
    cases reg with
    | none => cases hs
    | some r' =>
      cases hs
      cases arc with
      | none =>
        obtain ⟨_, _, ⟨h1, h2⟩, _⟩ := handleOKL_mutV.mp hok
        exact key _ h1 (Nat.le_of_eq h2)
      | some c =>
        obtain ⟨_, ⟨vlen, vcap, vorig, h1, h2⟩, _⟩ := handleOKL_mutA.mp hok
        obtain ⟨_, _, _, _, _, _, hb⟩ := hI.cok' h1
        exact key _ hb.1 (hb.2 ▸ h2)
  | vec reg len cap =>
    cases reg with
    | none => cases hs
    | some r' =>
      cases hs
      obtain ⟨_, ⟨h1, h2⟩, _⟩ := handleOKL_vec.mp hok
      exact key _ h1 (by rw [Nat.zero_add]; exact Nat.le_of_eq h2)

theorem mut_none_cap {s : St} (hI : Inv s) {i : Nat} {arc : Option Nat} {off len cap orig : Nat}
    (hi : s.hs[i]? = some (some (.mut arc none off len cap orig))) : cap = 0 := by
  have hok := hI.hok i _ hi
  cases arc with
  | none =>
    obtain ⟨_, _, h, _⟩ := handleOKL_mutV.mp hok
    exact Nat.eq_zero_of_add_eq_zero_left h
  | some c =>
    obtain ⟨_, ⟨vlen, vcap, vorig, h1, h2⟩, _⟩ := handleOKL_mutA.mp hok
    obtain ⟨_, _, _, _, _, _, hb⟩ := hI.cok' h1
    simp only [ctrlBufOK] at hb
    exact Nat.eq_zero_of_add_eq_zero_left (Nat.le_zero.mp (hb ▸ h2))

/-- write `bs` at `[off, off+|bs|)` of region `r` through the mutable handle in slot `i` (the
range lies inside its span), and replace the handle by `h'` (same resources, sub-span, mutable —
e.g. a longer `len`).  Exclusivity guarantees that no other handle sees the write.  `ok` (the new
handle is fine in the new memory) is the caller's obligation: use `rdL_set_data` for the old part of
the view and `write_slice` for the written part. -/
theorem Inv_write_set {s : St} (hI : Inv s) {i : Nat} {h h' : Handle} {r o0 c0 off : Nat}
    {rg : Region} {bs : List Byte}
    (hi : s.hs[i]? = some (some h)) (hm : isMutable h = true) (hsp : span h = some (r, o0, c0))
    (hr : s.regions[r]? = some rg) (hin : o0 ≤ off ∧ off + bs.length ≤ o0 + c0)
    (hc : ctrlOf h' = ctrlOf h) (hd : directRegion h' = directRegion h)
    (hsub : spanSub h' h) (hm' : isMutable h' = true)
    (ok : handleOKL (s.regions.set r (rg.write off bs)) s.ctrls h' = true) (ev : List Ev) :
    Inv ⟨s.regions.set r (rg.write off bs), s.ctrls, s.hs.set i (some h'), s.owners, ev⟩ ∧
    ∀ (j : Nat) (b : Handle), j ≠ i → s.hs[j]? = some (some b) →
      viewOfL (s.regions.set r (rg.write off bs)) b = viewOfL s.regions b := by
  obtain ⟨rg', kk, hr', hlive, hkind, hsz⟩ := hI.span_le_size hi hm hsp
  rw [hr] at hr'; cases hr'
  have hb : off + bs.length ≤ rg.data.length :=
    (region_size_le hI.regs hr).2 ▸ Nat.le_trans hin.2 hsz
  have hmeta : ∀ r', metaL (s.regions.set r (rg.write off bs)) r' = metaL s.regions r' :=
    fun r' => metaL_set_data _ r' hr
  -- exclusivity: the view of another handle lies in its span, which is disjoint from that of `h`
  have hview : ∀ (j : Nat) (b : Handle), j ≠ i → s.hs[j]? = some (some b) →
      viewOfL (s.regions.set r (rg.write off bs)) b = viewOfL s.regions b := by
    intro j b hji hj
    refine rdL_write_apart hr hb fun hrb k _ _ _ _ => ?_
    obtain ⟨ob, lb, hsb, _, _⟩ := view_in_span (hI.hok j b hj) hrb
    have := disjointB_iff.mp (hI.excl i j h b hi hj (Ne.symm hji) hm) r o0 c0 r ob lb hsp hsb
    omega
  refine ⟨⟨fun r' rg' hr' => ?_,
    forall_live_set (fun j b hji hj => ?_) ok,
    fun c e he hl => ?_, fun r' hr' => ?_, Excl_set_sub hI.excl hi hsub (fun _ => hm),
    stat_of_statOK (forall_live_set
      (fun _ _ _ hj => statOK_of_kindL (fun r' hk => (kindL_of_meta (hmeta r')).trans hk) (hI.statOK hj))
      (statOK_of_mutable hm')),
    hI.odist⟩, hview⟩
  · by_cases hrr : r = r'
    · subst hrr; rw [lookup_set_eq _ hr] at hr'; cases hr'
      exact regionOKB_write (hI.regs r rg hr) hb
    · rw [List.getElem?_set_ne hrr] at hr'; exact hI.regs r' rg' hr'
  · rw [handleOKL_frame (R := s.regions) (C := s.ctrls) (fun r' _ _ => hmeta r')
      (congrArg Option.isSome (hview j b hji hj)) (fun _ _ => rfl)]
    exact hI.hok j b hj
  · obtain ⟨h1, h2, h3⟩ := hI.cok c e he hl
    exact ⟨h1.trans (refCountL_set_same hi hc c).symm, h2, ctrlBufOK_of_meta hmeta h3⟩
  · show dirCountL _ r' + _ = _
    rw [dirCountL_set_same hi hd, isHeapLiveL_of_meta (hmeta r')]
    exact hI.own r' (List.length_set ▸ hr')

/-- replace slot `i` by a handle with the same resources whose span lies inside the old one
and which is mutable only if the old one was (`truncate`, `clear`, `advance`, `resize` shrinking,
`freeze` of a KIND_ARC BytesMut, `Bytes::from(Vec)` with `len == cap`, …). -/
theorem Inv_set_sub {s : St} (hI : Inv s) {i : Nat} {h h' : Handle} (hi : s.hs[i]? = some (some h))
    (hc : ctrlOf h' = ctrlOf h) (hd : directRegion h' = directRegion h)
    (ok : handleOKL s.regions s.ctrls h' = true) (st : statOK s.regions h')
    (hsub : spanSub h' h) (hm : isMutable h' = true → isMutable h = true) (ev : List Ev) :
    Inv ⟨s.regions, s.ctrls, s.hs.set i (some h'), s.owners, ev⟩ :=
  Inv_rehandle hI (refCountL_set_same hi hc)
    (forall_live_set (fun _ _ _ hj => hI.handle hj) ⟨ok, st⟩)
    (dirCountL_set_same hi hd) (Excl_set_sub hI.excl hi hsub hm) ev

/-- `owners` only bounds the owner ids in use: it may grow -/
theorem Inv_owners_mono {s : St} (hI : Inv s) {ow : Nat} (h : s.owners ≤ ow) (ev : List Ev) :
    Inv ⟨s.regions, s.ctrls, s.hs, ow, ev⟩ :=
  ⟨hI.regs, hI.hok, fun c e he hl =>
      ⟨(hI.cok c e he hl).1, (hI.cok c e he hl).2.1,
        ctrlBufOK_owners (hI.cok c e he hl).2.2 h⟩,
    hI.own, hI.excl, hI.stat, hI.odist⟩

theorem Inv_events {s : St} (hI : Inv s) (ev : List Ev) :
    Inv ⟨s.regions, s.ctrls, s.hs, s.owners, ev⟩ :=
  ⟨hI.regs, hI.hok, hI.cok, hI.own, hI.excl, hI.stat, hI.odist⟩

/-! ### filling an empty slot

`into_vec`, `into_mut`, `reserve` … consume the handle in slot `i` and put a new one there.  Model
this as a kill transition (T1–T4, slot becomes `none`) followed by a fill. -/

theorem Excl_fill {hs : List (Option Handle)} {i : Nat} {h' : Handle} (he : Excl hs)
    (hn : ∀ (j : Nat) (b : Handle), j ≠ i → hs[j]? = some (some b) →
      (isMutable b = true → disjointB b h' = true) ∧ (isMutable h' = true → disjointB h' b = true)) :
    Excl (hs.set i (some h')) := Excl_set he hn

theorem Inv_fill_plain {s : St} (hI : Inv s) {i : Nat} {h' : Handle} (hi : s.hs[i]? = some none)
    (hc : ctrlOf h' = none) (hd : directRegion h' = none)
    (ok : handleOKL s.regions s.ctrls h' = true) (st : statOK s.regions h')
    (hsp : ∀ r o l, span h' = some (r, o, l) → l = 0) (ev : List Ev) :
    Inv ⟨s.regions, s.ctrls, s.hs.set i (some h'), s.owners, ev⟩ :=
  Inv_rehandle hI (keyCountL_set_eq ctrlOf (y := some h') hi hc)
    (forall_live_set (fun _ _ _ hj => hI.handle hj) ⟨ok, st⟩)
    (keyCountL_set_eq directRegion (y := some h') hi hd)
    (Excl_set hI.excl fun _ _ _ _ => excl_nospan hsp) ev

theorem Inv_fill_fresh {s : St} (hI : Inv s) {i : Nat} {rg : Region} {o : Bool} {h' : Handle}
    (hi : s.hs[i]? = some none)
    (hrg : regionOKB rg = true) (hlive : rg.live = true) (hkind : rg.kind = .heap o)
    (hc : ctrlOf h' = none) (hd : directRegion h' = some s.regions.length)
    (hsp : ∀ r o l, span h' = some (r, o, l) → r = s.regions.length)
    (ok : handleOKL (s.regions ++ [rg]) s.ctrls h' = true) (ev : List Ev) :
    Inv ⟨s.regions ++ [rg], s.ctrls, s.hs.set i (some h'), s.owners, ev⟩ ∧
    ∀ (j : Nat) (b : Handle), s.hs[j]? = some (some b) →
      viewOfL (s.regions ++ [rg]) b = viewOfL s.regions b := by
  refine ⟨Inv_alloc hI hrg (n := 1) (by rw [isHeapLiveL_new, hlive, hkind]; rfl) (keyCountL_set_eq ctrlOf (y := some h') hi hc)
    (forall_live_set (fun _ _ _ hj => hI.handle_append _ hj)
      ⟨ok, statOK_of_direct hd⟩)
    (fun r => ?_) (Excl_set hI.excl fun _ _ _ hj => hI.excl_fresh hj hsp) ev,
    fun _ _ hj => hI.view_append _ hj⟩
  exact hd ▸ keyCountL_fill directRegion h' r hi

theorem freeBuf_append {R : List Region} {ct : Ctrl} {rg : Region} {o : Bool}
    (hk : rg.kind = .heap o) (hlt : ∀ r, ctrlRegion ct = some r → r < R.length) :
    freeBuf (R ++ [rg]) ct = freeBuf R ct ++ [rg] := by
  cases ct with
  | sharedB r0 cap =>
    have := hlt r0 rfl
    simp only [freeBuf, List.getElem?_append_left this]
    cases hr : R[r0]? with
    | none => rfl
    | some x => simp [this]
  | sharedV reg vlen vcap orig =>
    cases reg with
    | none => rfl
    | some r0 =>
      have := hlt r0 rfl
      simp only [freeBuf, List.getElem?_append_left this]
      cases hr : R[r0]? with
      | none => rfl
      | some x => simp [this]
  | owned ow => simp [freeBuf, hk]

end BytesVerif.Core
