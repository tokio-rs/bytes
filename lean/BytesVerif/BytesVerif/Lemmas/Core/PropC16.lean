/-
The address parity the allocator hands out (`Env.odd`) cannot be observed: running and then forgetting
parity (`erase`) is running the erased state under the all-even allocator (`step_simAt`), and `erase`
preserves the invariant and what a caller observes (`Inv_erase`, `abs_erase'`).
-/
import BytesVerif.Lemmas.Core.PropC16Cfg
namespace BytesVerif.Core.P16
open BytesVerif.Core

/-- forget address parity: all heap regions even, all promotable handles on the EVEN vtable
(copies of the definitions of Props/C16.lean, which imports this file) -/
def eraseRegion (rg : Region) : Region :=
  match rg.kind with
  | .heap _ => { rg with kind := .heap false }
  | _ => rg

def eraseHandle : Handle → Handle
  | .bytes (.prom _ c) reg off len => .bytes (.prom false c) reg off len
  | h => h

def erase (s : St) : St :=
  { s with regions := s.regions.map eraseRegion, hs := s.hs.map (Option.map eraseHandle) }

def evenEnv : Env := ⟨fun _ => false⟩

/-- how a returned value is related in the two runs: `er` is `eraseHandle` on every `Handle` component of a return
type (`eraseRegion`, `erase` on regions and states) and the identity elsewhere, so that `SimAt` has one statement
for all return types -/
class Er (α : Type) where
  er : α → α
export Er (er)

/-- identity, as a plain (non-reducible) definition: keeps `er x` from being unfolded by `simp`'s
indexing and by reducible unification -/
def erId {α : Type} (a : α) : α := a
instance : Er Handle := ⟨eraseHandle⟩
instance : Er Nat := ⟨erId⟩
instance : Er Bool := ⟨erId⟩
instance : Er Unit := ⟨erId⟩
instance : Er Val := ⟨erId⟩
instance : Er CtrlE := ⟨erId⟩
instance : Er (Option Nat) := ⟨erId⟩
instance : Er (List Nat) := ⟨erId⟩
instance : Er (List (Option Nat)) := ⟨erId⟩
def erHH (p : Handle × Handle) : Handle × Handle := (eraseHandle p.1, eraseHandle p.2)
def erHB (p : Handle × Bool) : Handle × Bool := (eraseHandle p.1, p.2)
instance : Er (Handle × Handle) := ⟨erHH⟩
instance : Er (Handle × Bool) := ⟨erHB⟩
instance : Er (Option Nat × Nat) := ⟨erId⟩
instance : Er (Nat × Nat) := ⟨erId⟩
instance : Er Region := ⟨eraseRegion⟩
instance : Er St := ⟨erase⟩

@[simp] theorem er_nat (n : Nat) : er n = n := rfl
@[simp] theorem er_bool (b : Bool) : er b = b := rfl
@[simp] theorem er_unit (u : Unit) : er u = u := rfl
@[simp] theorem er_val (v : Val) : er v = v := rfl
@[simp] theorem er_ctrlE (e : CtrlE) : er e = e := rfl
@[simp] theorem er_optNat (o : Option Nat) : er o = o := rfl
@[simp] theorem er_listNat (l : List Nat) : er l = l := rfl
@[simp] theorem er_listOptNat (l : List (Option Nat)) : er l = l := rfl
@[simp] theorem er_pairHH (a b : Handle) : er (a, b) = (er a, er b) := rfl
@[simp] theorem er_pairHB (a : Handle) (b : Bool) : er (a, b) = (er a, b) := rfl
@[simp] theorem er_pairON (p : Option Nat × Nat) : er p = p := rfl
@[simp] theorem er_pairNN (p : Nat × Nat) : er p = p := rfl
@[simp] theorem er_region (rg : Region) : er rg = eraseRegion rg := rfl
@[simp] theorem er_st (s : St) : er s = erase s := rfl

class ErId (α : Type) [Er α] : Prop where
  er_id : ∀ a : α, er a = a
instance : ErId Nat := ⟨fun _ => rfl⟩
instance : ErId Bool := ⟨fun _ => rfl⟩
instance : ErId Unit := ⟨fun _ => rfl⟩
instance : ErId Val := ⟨fun _ => rfl⟩
instance : ErId CtrlE := ⟨fun _ => rfl⟩
instance : ErId (Option Nat) := ⟨fun _ => rfl⟩
instance : ErId (List Nat) := ⟨fun _ => rfl⟩
instance : ErId (List (Option Nat)) := ⟨fun _ => rfl⟩
instance : ErId (Option Nat × Nat) := ⟨fun _ => rfl⟩
instance : ErId (Nat × Nat) := ⟨fun _ => rfl⟩

@[simp] theorem er_handle_mut (arc reg off len cap orig) :
    er (Handle.mut arc reg off len cap orig) = Handle.mut arc reg off len cap orig := rfl
@[simp] theorem er_handle_vec (reg len cap) : er (Handle.vec reg len cap) = Handle.vec reg len cap := rfl

def eraseRepr : BRepr → BRepr
  | .prom _ c => .prom false c
  | r => r
@[simp] theorem eraseRepr_static : eraseRepr .static = .static := rfl
@[simp] theorem eraseRepr_owned (c) : eraseRepr (.owned c) = .owned c := rfl
@[simp] theorem eraseRepr_shared (c) : eraseRepr (.shared c) = .shared c := rfl
@[simp] theorem eraseRepr_sharedV (c) : eraseRepr (.sharedV c) = .sharedV c := rfl
@[simp] theorem eraseRepr_prom (vt c) : eraseRepr (.prom vt c) = .prom false c := rfl
theorem er_handle_bytes (repr reg off len) :
    er (Handle.bytes repr reg off len) = Handle.bytes (eraseRepr repr) reg off len := by
  cases repr <;> rfl

def eraseR {α : Type} [Er α] : R α → R α
  | .ok a s => .ok (er a) (erase s)
  | .panic s => .panic (erase s)
  | .ub w s => .ub w (erase s)

@[simp] theorem eraseR_ok {α : Type} [Er α] (a : α) (s : St) : eraseR (.ok a s) = .ok (er a) (erase s) := rfl
@[simp] theorem eraseR_panic {α : Type} [Er α] (s : St) : eraseR (.panic s : R α) = .panic (erase s) := rfl
@[simp] theorem eraseR_ub {α : Type} [Er α] (w : String) (s : St) :
    eraseR (.ub w s : R α) = .ub w (erase s) := rfl

@[simp] theorem erase_regions (s : St) : (erase s).regions = s.regions.map eraseRegion := rfl
@[simp] theorem erase_ctrls (s : St) : (erase s).ctrls = s.ctrls := rfl
@[simp] theorem erase_hs (s : St) : (erase s).hs = s.hs.map (Option.map eraseHandle) := rfl
@[simp] theorem erase_owners (s : St) : (erase s).owners = s.owners := rfl
@[simp] theorem erase_events (s : St) : (erase s).events = s.events := rfl

@[simp] theorem eraseRegion_size (rg : Region) : (eraseRegion rg).size = rg.size := by
  unfold eraseRegion; split <;> rfl
@[simp] theorem eraseRegion_data (rg : Region) : (eraseRegion rg).data = rg.data := by
  unfold eraseRegion; split <;> rfl
@[simp] theorem eraseRegion_live (rg : Region) : (eraseRegion rg).live = rg.live := by
  unfold eraseRegion; split <;> rfl
theorem eraseRegion_heap (sz : Nat) (d : List (Option Byte)) (l b : Bool) :
    eraseRegion ⟨sz, d, l, .heap b⟩ = ⟨sz, d, l, .heap false⟩ := rfl
theorem eraseRegion_static (sz : Nat) (d : List (Option Byte)) (l : Bool) :
    eraseRegion ⟨sz, d, l, .static⟩ = ⟨sz, d, l, .static⟩ := rfl
theorem eraseRegion_ownerMem (sz : Nat) (d : List (Option Byte)) (l : Bool) (o : Nat) :
    eraseRegion ⟨sz, d, l, .ownerMem o⟩ = ⟨sz, d, l, .ownerMem o⟩ := rfl

section
variable {α β : Type} [Er α] [Er β]

/-- the two runs are in simulation at state `s` -/
def SimAt (m m' : M α) (s : St) : Prop := eraseR (m s) = m' (erase s)
def Sim (m m' : M α) : Prop := ∀ s, SimAt m m' s

/-! The rules below mirror the constructs the model is written with; a proof that two programs are
in simulation is the program read once more, one rule per node. -/

theorem simAt_bind {m m' : M α} {k k' : α → M β} {s : St}
    (hm : SimAt m m' s) (hk : ∀ a s', m s = .ok a s' → SimAt (k a) (k' (er a)) s') :
    SimAt (m >>= k) (m' >>= k') s := by
  unfold SimAt at *
  simp only [bind_apply, ← hm]
  cases hms : m s with
  | ok a s' => simpa using hk a s' hms
  | _ => rfl

/-- once the step that needs the state is done, the rest is in simulation everywhere -/
theorem simAt_bind_sim {m m' : M α} {k k' : α → M β} {s : St}
    (hm : SimAt m m' s) (hk : ∀ a, Sim (k a) (k' (er a))) : SimAt (m >>= k) (m' >>= k') s :=
  simAt_bind hm fun a s' _ => hk a s'

theorem sim_bind {m m' : M α} {k k' : α → M β}
    (hm : Sim m m') (hk : ∀ a, Sim (k a) (k' (er a))) : Sim (m >>= k) (m' >>= k') :=
  fun s => simAt_bind_sim (hm s) hk

theorem sim_bind_id [ErId α] {m m' : M α} {k k' : α → M β}
    (hm : Sim m m') (hk : ∀ a, Sim (k a) (k' a)) : Sim (m >>= k) (m' >>= k') :=
  sim_bind hm fun a => by rw [ErId.er_id a]; exact hk a

theorem sim_bind_pairHH {m m' : M (Handle × Handle)} {k k' : Handle × Handle → M β}
    (hm : Sim m m') (hk : ∀ a b, Sim (k (a, b)) (k' (er a, er b))) : Sim (m >>= k) (m' >>= k') :=
  sim_bind hm fun p => hk p.1 p.2

/-- `e` is `rfl` unless `a` is a `Bytes` handle whose representation is a variable (`er_handle_bytes`) -/
theorem sim_pure {a a' : α} (e : er a = a') : Sim (pure a) (pure a') := by
  subst e; exact fun _ => rfl
/-- for values `er` leaves alone; `sim_pure rfl` would have `er a = a` checked by evaluating `a` (say `… % W`) -/
theorem sim_pure_id [ErId α] (a : α) : Sim (pure a) (pure a) :=
  sim_pure (ErId.er_id a)
theorem sim_panic : Sim (panic : M α) panic := fun _ => rfl
theorem sim_ub (w : String) : Sim (ub w : M α) (ub w) := fun _ => rfl
theorem simAt_ite {c : Prop} [Decidable c] {m₁ m₂ m₁' m₂' : M α} {s : St}
    (h₁ : SimAt m₁ m₁' s) (h₂ : SimAt m₂ m₂' s) :
    SimAt (if c then m₁ else m₂) (if c then m₁' else m₂') s := by
  split
  · exact h₁
  · exact h₂
theorem sim_ite {c : Prop} [Decidable c] {m₁ m₂ m₁' m₂' : M α}
    (h₁ : Sim m₁ m₁') (h₂ : Sim m₂ m₂') : Sim (if c then m₁ else m₂) (if c then m₁' else m₂') :=
  fun s => simAt_ite (h₁ s) (h₂ s)
theorem sim_modify {f f' : St → St} (h : ∀ s, erase (f s) = f' (erase s)) :
    Sim (modify f) (modify f') := by
  intro s; simp [SimAt, modify, h]

theorem get_sim : Sim get get := fun _ => rfl
theorem emit_sim (ev : Ev) : Sim (emit ev) (emit ev) := sim_modify fun _ => rfl

theorem setRegion_sim (r : Nat) (rg : Region) : Sim (setRegion r rg) (setRegion r (eraseRegion rg)) :=
  sim_modify fun s => by simp [erase, List.map_set]

theorem allocRegion_sim (e : Env) (size : Nat) (data : List (Option Byte)) :
    Sim (allocRegion e size data) (allocRegion evenEnv size data) := by
  intro s
  simp [SimAt, allocRegion, erase, eraseRegion_heap, evenEnv]

theorem setCtrl_sim (c : Nat) (e : CtrlE) : Sim (setCtrl c e) (setCtrl c e) := sim_modify fun _ => rfl
theorem getCtrl_sim (c : Nat) : Sim (getCtrl c) (getCtrl c) := by
  intro s
  simp only [SimAt, getCtrl, erase_ctrls]
  split
  · split <;> rfl
  · rfl
theorem newCtrl_sim (ct : Ctrl) (rc : Nat) : Sim (newCtrl ct rc) (newCtrl ct rc) := fun _ => rfl
theorem newHandle_sim {h h' : Handle} (e : er h = h') : Sim (newHandle h) (newHandle h') := by
  subst e; intro s; simp [SimAt, newHandle, erase]; rfl
theorem setHandle_sim (i : Nat) {h h' : Handle} (e : er h = h') : Sim (setHandle i h) (setHandle i h') := by
  subst e; exact sim_modify fun s => by simp [erase, List.map_set]; rfl
theorem newHandle_ret {h h' : Handle} (e : er h = h') :
    Sim (do let j ← newHandle h; pure (Val.handle j)) (do let j ← newHandle h'; pure (Val.handle j)) :=
  sim_bind_id (newHandle_sim e) fun _ => sim_pure_id _
theorem setHandle_ret (i : Nat) {h h' : Handle} (e : er h = h') (v : Val) :
    Sim (do setHandle i h; pure v) (do setHandle i h'; pure v) :=
  sim_bind_id (setHandle_sim i e) fun _ => sim_pure_id _
theorem killHandle_sim (i : Nat) : Sim (killHandle i) (killHandle i) :=
  sim_modify fun s => by simp [erase, List.map_set]
theorem getHandle_sim (i : Nat) : Sim (getHandle i) (getHandle i) := by
  intro s
  simp only [SimAt, getHandle, erase_hs, List.getElem?_map]
  cases s.hs[i]? with
  | none => rfl
  | some oh => cases oh <;> rfl

theorem getRegion_sim (r : Nat) : Sim (getRegion r) (getRegion r) := by
  intro s
  simp only [SimAt, getRegion, erase_regions, List.getElem?_map]
  cases s.regions[r]? <;> rfl

theorem freeRegion_sim (r size : Nat) : Sim (freeRegion r size) (freeRegion r size) := by
  unfold freeRegion
  refine sim_bind (getRegion_sim r) fun reg => ?_
  obtain ⟨sz, d, l, k⟩ := reg
  cases k with
  | heap b =>
    exact sim_ite (sim_ub _) (sim_ite (sim_ub _) (sim_bind_id (setRegion_sim _ _) fun _ => emit_sim _))
  | _ => exact sim_ite (sim_ub _) (sim_ite (sim_ub _) (sim_ub _))

theorem readRange_sim (reg : Option Nat) (off len : Nat) :
    Sim (readRange reg off len) (readRange reg off len) := by
  unfold readRange
  refine sim_ite (sim_pure_id _) ?_
  cases reg with
  | none => exact sim_ub _
  | some r =>
    refine sim_bind (getRegion_sim r) fun rg => ?_
    simp only [er_region, eraseRegion_live, eraseRegion_size, eraseRegion_data]
    refine sim_ite (sim_ub _) (sim_ite (sim_ub _) ?_)
    split
    · exact sim_pure_id _
    · exact sim_ub _

theorem writeRange_sim (reg : Option Nat) (off : Nat) (bs : List Byte) :
    Sim (writeRange reg off bs) (writeRange reg off bs) := by
  unfold writeRange
  refine sim_ite (sim_pure_id _) ?_
  cases reg with
  | none => exact sim_ub _
  | some r =>
    refine sim_bind (getRegion_sim r) fun rg => ?_
    obtain ⟨sz, d, l, k⟩ := rg
    cases k with
    | heap b => exact sim_ite (sim_ub _) (sim_ite (sim_ub _) (setRegion_sim _ _))
    | _ => exact sim_ite (sim_ub _) (sim_ite (sim_ub _) (sim_ub _))

theorem copyWithin_sim (reg : Option Nat) (src dst len : Nat) :
    Sim (copyWithin reg src dst len) (copyWithin reg src dst len) :=
  sim_ite (sim_pure_id _) (sim_bind_id (readRange_sim _ _ _) fun _ => writeRange_sim _ _ _)

theorem freeCtrl_sim (c : Nat) : Sim (freeCtrl c) (freeCtrl c) :=
  sim_bind_id (getCtrl_sim c) fun _ => sim_bind_id (setCtrl_sim _ _) fun _ => emit_sim _

theorem vecNew_sim (e : Env) (bs : List Byte) (cap : Nat) : Sim (vecNew e bs cap) (vecNew evenEnv bs cap) :=
  sim_ite (sim_pure_id _) (sim_ite sim_panic (sim_bind_id (allocRegion_sim e _ _) fun _ => sim_pure_id _))

theorem vecFree_sim (reg : Option Nat) (cap : Nat) : Sim (vecFree reg cap) (vecFree reg cap) := by
  cases reg with
  | none => exact sim_ite (sim_pure_id _) (sim_ub _)
  | some r => exact sim_ite (sim_ub _) (freeRegion_sim r cap)

theorem vecReserve_sim (e : Env) (reg : Option Nat) (len cap add : Nat) :
    Sim (vecReserve e reg len cap add) (vecReserve evenEnv reg len cap add) := by
  unfold vecReserve
  refine sim_ite (sim_pure_id _) (sim_ite sim_panic (sim_ite sim_panic (sim_bind_id ?_ fun _ =>
    sim_bind_id (allocRegion_sim e _ _) fun _ => sim_bind_id (vecFree_sim _ _) fun _ => sim_pure_id _)))
  cases reg with
  | none => exact sim_pure_id _
  | some r =>
    refine sim_bind (getRegion_sim r) fun rg => ?_
    simp only [er_region, eraseRegion_live, eraseRegion_data]
    exact sim_ite (sim_ub _) (sim_pure_id _)

theorem ownerKill_erase (o : Nat) (rg : Region) :
    eraseRegion (if rg.kind = .ownerMem o then { rg with live := false } else rg) =
      if (eraseRegion rg).kind = .ownerMem o then { eraseRegion rg with live := false }
      else eraseRegion rg := by
  obtain ⟨sz, d, l, k⟩ := rg
  cases k with
  | heap b => simp [eraseRegion_heap]
  | static => simp [eraseRegion_static]
  | ownerMem o' =>
    simp only [eraseRegion_ownerMem]
    by_cases ho : o' = o
    · subst ho; simp [eraseRegion_ownerMem]
    · simp [eraseRegion_ownerMem, ho]

theorem releaseCtrl_sim (c : Nat) : Sim (releaseCtrl c) (releaseCtrl c) := by
  unfold releaseCtrl
  refine sim_bind_id (getCtrl_sim c) fun e => sim_ite (sim_ub _) (sim_ite (setCtrl_sim _ _)
    (sim_bind_id (setCtrl_sim _ _) fun _ => ?_))
  obtain ⟨ct, rc, live⟩ := e
  cases ct with
  | sharedB reg cap => exact sim_bind_id (freeRegion_sim _ _) fun _ => freeCtrl_sim c
  | sharedV reg vlen vcap orig => exact sim_bind_id (vecFree_sim _ _) fun _ => freeCtrl_sim c
  | owned o =>
    refine sim_bind_id (emit_sim _) fun _ => sim_bind_id (sim_modify fun s => ?_) fun _ => freeCtrl_sim c
    simp only [erase, List.map_map]
    congr 1
    apply List.map_congr_left
    intro rg _
    exact ownerKill_erase o rg

theorem incCtrl_sim (c : Nat) : Sim (incCtrl c) (incCtrl c) :=
  sim_bind_id (getCtrl_sim c) fun _ => setCtrl_sim _ _

theorem ctrlIsUnique_sim (c : Nat) : Sim (ctrlIsUnique c) (ctrlIsUnique c) :=
  sim_bind_id (getCtrl_sim c) fun _ => sim_pure_id _

theorem takeSharedB_sim (c : Nat) : Sim (takeSharedB c) (takeSharedB c) := by
  unfold takeSharedB
  refine sim_bind_id (getCtrl_sim c) fun e => ?_
  obtain ⟨ct, rc, live⟩ := e
  cases ct with
  | sharedB reg cap =>
    exact sim_bind_id (setCtrl_sim _ _) fun _ => sim_bind_id (freeCtrl_sim c) fun _ => sim_pure_id _
  | _ => exact sim_ub _

theorem toVecCopy_sim (e : Env) (reg : Option Nat) (off len : Nat) :
    Sim (toVecCopy e reg off len) (toVecCopy evenEnv reg off len) :=
  sim_bind_id (readRange_sim _ _ _) fun _ => sim_bind_id (vecNew_sim e _ _) fun _ => sim_pure rfl

/-- Case analysis on a handle and on what `er` makes of it.  Most programs accept one kind of handle
and panic on the others: a case that is not given is closed by `sim_panic`. -/
theorem sim_handle {f f' : Handle → M β}
    (hb : ∀ repr reg off len,
      Sim (f (.bytes repr reg off len)) (f' (.bytes (eraseRepr repr) reg off len)) := by
        exact fun _ _ _ _ => sim_panic)
    (hm : ∀ arc reg off len cap orig,
      Sim (f (.mut arc reg off len cap orig)) (f' (.mut arc reg off len cap orig)) := by
        exact fun _ _ _ _ _ _ => sim_panic)
    (hv : ∀ reg len cap, Sim (f (.vec reg len cap)) (f' (.vec reg len cap)) := by
        exact fun _ _ _ => sim_panic) (h : Handle) :
    Sim (f h) (f' (er h)) := by
  cases h with
  | bytes repr reg off len => rw [er_handle_bytes]; exact hb repr reg off len
  | «mut» arc reg off len cap orig => exact hm arc reg off len cap orig
  | vec reg len cap => exact hv reg len cap

theorem sim_bind_handle {m m' : M Handle} {k k' : Handle → M β} (h : Sim m m')
    (hb : ∀ repr reg off len,
      Sim (k (.bytes repr reg off len)) (k' (.bytes (eraseRepr repr) reg off len)) := by
        exact fun _ _ _ _ => sim_panic)
    (hm : ∀ arc reg off len cap orig,
      Sim (k (.mut arc reg off len cap orig)) (k' (.mut arc reg off len cap orig)) := by
        exact fun _ _ _ _ _ _ => sim_panic)
    (hv : ∀ reg len cap, Sim (k (.vec reg len cap)) (k' (.vec reg len cap)) := by
        exact fun _ _ _ => sim_panic) :
    Sim (m >>= k) (m' >>= k') :=
  sim_bind h (sim_handle hb hm hv)

theorem bytesFromVec_sim (reg : Option Nat) (len cap : Nat) :
    Sim (bytesFromVec reg len cap) (bytesFromVec reg len cap) := by
  unfold bytesFromVec
  refine sim_ite (sim_ite (sim_pure rfl) ?_) ?_
  · -- the parity found differs in the two runs, and `er` forgets it
    intro s
    cases reg with
    | none => rfl
    | some r =>
      simp only [SimAt, regionOdd, bind_apply, getRegion, erase_regions, List.getElem?_map]
      rcases s.regions[r]? with _ | ⟨sz, d, l, _ | _ | _⟩ <;> rfl
  · cases reg with
    | none => exact sim_ub _
    | some r => exact sim_bind_id (newCtrl_sim _ _) fun _ => sim_pure rfl

theorem dassert_sim (cfg : Cfg) (b : Bool) : Sim (dassert cfg b) (dassert cfg b) :=
  sim_ite sim_panic (sim_pure_id _)
/-- `uadd` and `usub` have this shape -/
theorem uarith_sim {c₁ c₂ : Prop} [Decidable c₁] [Decidable c₂] {a b : Nat} :
    Sim (if c₁ then pure a else if c₂ then panic else pure b)
      (if c₁ then pure a else if c₂ then panic else pure b) :=
  sim_ite (sim_pure_id _) (sim_ite sim_panic (sim_pure_id _))

theorem bytesIsUnique_sim : ∀ h, Sim (bytesIsUnique h) (bytesIsUnique (er h)) :=
  sim_handle
    (fun repr _ _ _ => by
      cases repr with
      | static | owned c => exact sim_pure_id _
      | prom vt oc =>
        cases oc with
        | none => exact sim_pure_id _
        | some c => exact ctrlIsUnique_sim c
      | _ => exact ctrlIsUnique_sim _)

theorem mutAdvanceUnchecked_sim (cfg : Cfg) (count : Nat) :
    ∀ h, Sim (mutAdvanceUnchecked cfg h count) (mutAdvanceUnchecked cfg (er h) count) :=
  sim_handle (f := (mutAdvanceUnchecked cfg · count)) (f' := (mutAdvanceUnchecked cfg · count))
    (hm := fun arc _ _ _ _ _ => by
      refine sim_ite (sim_pure rfl) (sim_bind_id (dassert_sim _ _) fun _ =>
        sim_bind_id uarith_sim fun _ => ?_)
      cases arc with
      | none => exact sim_ite (sim_pure rfl) (sim_bind_id (newCtrl_sim _ _) fun _ => sim_pure rfl)
      | some c => exact sim_pure rfl)

theorem mutShallowClone_sim : ∀ h, Sim (mutShallowClone h) (mutShallowClone (er h)) :=
  sim_handle
    (hm := fun arc _ _ _ _ _ => by
      cases arc with
      | none => exact sim_bind (sim_bind_id (newCtrl_sim _ _) fun _ => sim_pure rfl) fun _ => sim_pure rfl
      | some c => exact sim_bind_id (incCtrl_sim c) fun _ => sim_pure rfl)

theorem mutDrop_sim : ∀ h, Sim (mutDrop h) (mutDrop (er h)) :=
  sim_handle
    (hm := fun arc _ _ _ _ _ => by
      cases arc with
      | none => exact vecFree_sim _ _
      | some c => exact releaseCtrl_sim c)

theorem mutReserveInner_sim (cfg : Cfg) (e : Env) (add : Nat) (al : Bool) :
    ∀ h, Sim (mutReserveInner cfg e h add al) (mutReserveInner cfg evenEnv (er h) add al) :=
  sim_handle (f := (mutReserveInner cfg e · add al)) (f' := (mutReserveInner cfg evenEnv · add al))
    (hm := fun arc reg off len cap orig => by
      cases arc with
      | none =>
        exact sim_ite
          (sim_bind_id (copyWithin_sim _ _ _ _) fun _ => sim_bind_id uarith_sim fun _ => sim_pure rfl)
          (sim_ite (sim_pure rfl) (sim_bind_id (vecReserve_sim e _ _ _ _) fun _ => sim_pure rfl))
      | some c =>
        refine sim_ite (sim_ite sim_panic (sim_pure rfl)) (sim_bind_id (getCtrl_sim c) fun ce => ?_)
        obtain ⟨ct, rc, live⟩ := ce
        cases ct with
        | sharedV vreg vlen vcap vorig =>
          exact sim_ite
            (sim_ite (sim_pure rfl) (sim_ite
              (sim_bind_id (copyWithin_sim _ _ _ _) fun _ => sim_pure rfl)
              (sim_ite (sim_pure rfl) (sim_ite sim_panic
                (sim_bind_id (dassert_sim _ _) fun _ => sim_bind_id (vecReserve_sim e _ _ _ _) fun _ =>
                  sim_bind_id (setCtrl_sim _ _) fun _ => sim_pure rfl)))))
            (sim_ite (sim_pure rfl) (sim_bind_id (readRange_sim _ _ _) fun _ =>
              sim_bind_id (vecNew_sim e _ _) fun _ => sim_bind_id (releaseCtrl_sim c) fun _ => sim_pure rfl))
        | _ => exact sim_ub _)

theorem mutReserve_sim (cfg : Cfg) (e : Env) (add : Nat) :
    ∀ h, Sim (mutReserve cfg e h add) (mutReserve cfg evenEnv (er h) add) :=
  sim_handle (f := (mutReserve cfg e · add)) (f' := (mutReserve cfg evenEnv · add))
    (hm := fun _ _ _ _ _ _ =>
      sim_ite (sim_pure rfl) (sim_bind (mutReserveInner_sim cfg e add true _) fun _ => sim_pure rfl))

theorem mutExtend_sim (cfg : Cfg) (e : Env) (h : Handle) (bs : List Byte) :
    Sim (mutExtend cfg e h bs) (mutExtend cfg evenEnv (er h) bs) :=
  sim_bind_handle (mutReserve_sim cfg e _ h)
    (hm := fun _ _ _ _ _ _ => sim_ite sim_panic (sim_bind_id (dassert_sim _ _) fun _ =>
      sim_bind_id (writeRange_sim _ _ _) fun _ => sim_pure rfl))

/-! ### the places where the vtable flag is checked against the address parity -/

/-- By the invariant a KIND_VEC promotable handle points into a heap region of the parity its vtable
says, so decoding succeeds in both runs. -/
theorem promDecode_simAt {s : St} {vt : Bool} {reg : Option Nat} {off len : Nat}
    (hok : handleOKL s.regions s.ctrls (.bytes (.prom vt none) reg off len) = true) :
    ∃ r, reg = some r ∧ SimAt (promDecode vt reg) (promDecode false reg) s := by
  obtain ⟨⟨r, rfl, hl, -, hv⟩, -⟩ := handleOKL_promV.mp hok
  obtain ⟨⟨sz, d, l, k⟩, o, hr, -, hk⟩ := isHeapLiveL_iff.mp hl
  simp only at hk; subst hk
  obtain rfl : vt = o := by rw [hv]; simp [regionOddL_def, hr]
  exact ⟨r, rfl, by simp [SimAt, promDecode, regionOdd, getRegion, hr, eraseRegion_heap]⟩

theorem bytesDrop_simAt (h : Handle) (s : St) (hok : handleOKL s.regions s.ctrls h = true) :
    SimAt (bytesDrop h) (bytesDrop (er h)) s := by
  cases h with
  | bytes repr reg off len =>
    cases repr with
    | static => exact sim_pure_id _ s
    | prom vt oc =>
      cases oc with
      | none =>
        obtain ⟨r, rfl, hd⟩ := promDecode_simAt hok
        exact simAt_bind_sim hd fun _ => freeRegion_sim _ _
      | some c => exact releaseCtrl_sim c s
    | _ => exact releaseCtrl_sim _ s
  | _ => exact sim_panic s

/-- `getHandle i >>= k`: case analysis on the handle found; a `Bytes` handle comes with the fact that
it is in the table, hence `handleOKL` by the invariant (the other kinds never need the state); a case that
is not given is closed by `sim_panic` -/
theorem simAt_getHandle {i : Nat} {s : St} {k k' : Handle → M β}
    (hb : ∀ repr reg off len, s.hs[i]? = some (some (.bytes repr reg off len)) →
      SimAt (k (.bytes repr reg off len)) (k' (.bytes (eraseRepr repr) reg off len)) s := by
        exact fun _ _ _ _ _ => sim_panic s)
    (hm : ∀ arc reg off len cap orig,
      Sim (k (.mut arc reg off len cap orig)) (k' (.mut arc reg off len cap orig)) := by
        exact fun _ _ _ _ _ _ => sim_panic)
    (hv : ∀ reg len cap, Sim (k (.vec reg len cap)) (k' (.vec reg len cap)) := by
        exact fun _ _ _ => sim_panic) :
    SimAt (getHandle i >>= k) (getHandle i >>= k') s := by
  refine simAt_bind (getHandle_sim i s) fun h s' hg => ?_
  obtain ⟨rfl, hi⟩ := getHandle_ok hg
  cases h with
  | bytes repr reg off len => rw [er_handle_bytes]; exact hb repr reg off len hi
  | «mut» arc reg off len cap orig => exact hm arc reg off len cap orig _
  | vec reg len cap => exact hv reg len cap _

theorem bytesClone_simAt (i : Nat) (s : St)
    (hok : ∀ h, s.hs[i]? = some (some h) → handleOKL s.regions s.ctrls h = true) :
    SimAt (bytesClone i) (bytesClone i) s := by
  refine simAt_getHandle (fun repr reg off len hi => ?_)
  cases repr with
  | static => exact sim_pure rfl s
  | prom vt oc =>
    cases oc with
    | none =>
      obtain ⟨r, rfl, hd⟩ := promDecode_simAt (hok _ hi)
      exact simAt_bind_sim hd fun _ =>
        sim_bind_id (newCtrl_sim _ _) fun _ => sim_bind_id (setHandle_sim i rfl) fun _ => sim_pure rfl
    | some c => exact sim_bind_id (incCtrl_sim c) (fun _ => sim_pure rfl) s
  | _ => exact sim_bind_id (incCtrl_sim _) (fun _ => sim_pure rfl) s

theorem bytesIntoVec_simAt (e : Env) (h : Handle) (s : St) (hok : handleOKL s.regions s.ctrls h = true) :
    SimAt (bytesIntoVec e h) (bytesIntoVec evenEnv (er h)) s := by
  rcases h with ⟨repr, reg, off, len⟩ | _ | _
  · -- the `owned` alternative is also the copying branch of the shared ones;
    -- `prom _ (some c)` and `shared c` share an alternative
    have copy : ∀ c, Sim (bytesIntoVec e (.bytes (.owned c) reg off len))
        (bytesIntoVec evenEnv (.bytes (.owned c) reg off len)) := fun c =>
      sim_bind (toVecCopy_sim e _ _ _) fun _ => sim_bind_id (releaseCtrl_sim c) fun _ => sim_pure rfl
    have shared : ∀ c, Sim (bytesIntoVec e (.bytes (.shared c) reg off len))
        (bytesIntoVec evenEnv (.bytes (.shared c) reg off len)) := fun c =>
      sim_bind_id (ctrlIsUnique_sim c) fun _ => sim_ite
        (sim_bind_id (takeSharedB_sim c) fun _ => sim_bind_id (copyWithin_sim _ _ _ _) fun _ => sim_pure rfl)
        (copy c)
    rcases repr with _ | c | ⟨vt, _ | c⟩ | c | c
    · exact toVecCopy_sim e _ _ _ s
    · exact copy c s
    · obtain ⟨r, rfl, hd⟩ := promDecode_simAt hok
      exact simAt_bind_sim hd fun _ => sim_bind_id (copyWithin_sim _ _ _ _) fun _ => sim_pure rfl
    · exact shared c s
    · exact shared c s
    · refine sim_bind_id (ctrlIsUnique_sim c) (fun _ => sim_ite
        (sim_bind_id (getCtrl_sim c) fun ce => ?_) (copy c)) s
      obtain ⟨ct, rc, live⟩ := ce
      cases ct with
      | sharedV vreg vlen vcap orig =>
        exact sim_bind_id (setCtrl_sim _ _) fun _ => sim_bind_id (releaseCtrl_sim c) fun _ =>
          sim_bind_id (copyWithin_sim _ _ _ _) fun _ => sim_pure rfl
      | _ => exact sim_ub _
  · exact sim_panic s
  · exact sim_panic s

theorem bytesIntoMut_simAt (cfg : Cfg) (e : Env) (h : Handle) (s : St)
    (hok : handleOKL s.regions s.ctrls h = true) :
    SimAt (bytesIntoMut cfg e h) (bytesIntoMut cfg evenEnv (er h)) s := by
  rcases h with ⟨repr, reg, off, len⟩ | _ | _
  · have copy : ∀ c, Sim (bytesIntoMut cfg e (.bytes (.owned c) reg off len))
        (bytesIntoMut cfg evenEnv (.bytes (.owned c) reg off len)) := fun c =>
      sim_bind_handle (toVecCopy_sim e _ _ _)
        (fun _ _ _ _ => sim_bind_id (releaseCtrl_sim c) fun _ => sim_panic)
        (fun _ _ _ _ _ _ => sim_bind_id (releaseCtrl_sim c) fun _ => sim_panic)
        (fun _ _ _ => sim_bind_id (releaseCtrl_sim c) fun _ => sim_pure rfl)
    have shared : ∀ c, Sim (bytesIntoMut cfg e (.bytes (.shared c) reg off len))
        (bytesIntoMut cfg evenEnv (.bytes (.shared c) reg off len)) := fun c =>
      sim_bind_id (ctrlIsUnique_sim c) fun _ => sim_ite
        (sim_bind_id (takeSharedB_sim c) fun _ => mutAdvanceUnchecked_sim cfg _ _) (copy c)
    rcases repr with _ | c | ⟨vt, _ | c⟩ | c | c
    · refine (?_ : Sim _ _) s
      exact sim_bind_handle (toVecCopy_sim e _ _ _) (hv := fun _ _ _ => sim_pure rfl)
    · exact copy c s
    · obtain ⟨r, rfl, hd⟩ := promDecode_simAt hok
      exact simAt_bind_sim hd fun _ => mutAdvanceUnchecked_sim cfg _ _
    · exact shared c s
    · exact shared c s
    · refine sim_bind_id (ctrlIsUnique_sim c) (fun _ => sim_ite
        (sim_bind_id (getCtrl_sim c) fun ce => ?_) (copy c)) s
      obtain ⟨ct, rc, live⟩ := ce
      cases ct with
      | sharedV vreg vlen vcap orig => exact sim_pure rfl
      | _ => exact sim_ub _
  · exact sim_panic s
  · exact sim_panic s

theorem bytesSplitOffCore_simAt (i k : Nat) (s : St)
    (hok : ∀ h, s.hs[i]? = some (some h) → handleOKL s.regions s.ctrls h = true) :
    SimAt (bytesSplitOffCore i k) (bytesSplitOffCore i k) s := by
  refine simAt_getHandle (fun repr reg off len _ => ?_)
  refine simAt_ite (sim_pure rfl s) (simAt_ite
    (sim_bind_id (setHandle_sim i rfl) (fun _ => sim_pure (er_handle_bytes ..)) s)
    (simAt_ite (sim_panic s) (simAt_bind_sim (bytesClone_simAt i s hok) fun c => ?_)))
  rcases c with _ | _ | _
  · rw [er_handle_bytes]
    exact sim_bind_handle (getHandle_sim i) fun _ _ _ _ =>
      sim_bind_id (setHandle_sim i (er_handle_bytes ..)) fun _ => sim_pure (er_handle_bytes ..)
  · exact sim_bind_handle (getHandle_sim i)
  · exact sim_bind_handle (getHandle_sim i)

theorem opSplitTo_simAt (cfg : Cfg) (i k : Nat) (s : St) (hI : Inv s) :
    SimAt (opSplitTo cfg i k) (opSplitTo cfg i k) s := by
  refine simAt_getHandle (fun repr reg off len _ => ?_)
    (hm := fun _ _ _ _ _ _ => sim_ite sim_panic (sim_bind_pairHH (mutShallowClone_sim _) fun a b =>
      sim_bind (mutAdvanceUnchecked_sim cfg k a) fun _ => sim_bind_id (setHandle_sim i rfl) fun _ => ?_))
  · refine simAt_ite
      (sim_bind_id (setHandle_sim i rfl) (fun _ => newHandle_ret (er_handle_bytes ..)) s)
      (simAt_ite (newHandle_ret rfl s)
      (simAt_ite (sim_panic s) (simAt_bind_sim (bytesClone_simAt i s (hI.hok i)) fun c => ?_)))
    rcases c with _ | _ | _
    · rw [er_handle_bytes]
      exact sim_bind_handle (getHandle_sim i) fun _ _ _ _ =>
        sim_bind_id (setHandle_sim i (er_handle_bytes ..)) fun _ => newHandle_ret (er_handle_bytes ..)
    · exact sim_bind_handle (getHandle_sim i)
    · exact sim_bind_handle (getHandle_sim i)
  · rcases b with _ | _ | _
    · rw [er_handle_bytes]; exact sim_panic
    · exact newHandle_ret rfl
    · exact sim_panic

theorem opTruncate_simAt (i n : Nat) (s : St) (hI : Inv s) :
    SimAt (opTruncate i n) (opTruncate i n) s := by
  refine simAt_getHandle (fun repr reg off len hi => ?_)
    (hm := fun _ _ _ _ _ _ => sim_ite (setHandle_ret i rfl _) (sim_pure_id _))
    (hv := fun _ _ _ => sim_ite (setHandle_ret i rfl _) (sim_pure_id _))
  refine simAt_ite ?_ (sim_pure_id _ s)
  cases repr with
  | prom vt oc =>
    refine simAt_bind (bytesSplitOffCore_simAt i n s (hI.hok i)) fun o s1 ho => ?_
    -- the tail is dropped without being registered; in the state with it registered the invariant holds
    have : handleOKL s1.regions s1.ctrls o = true := by
      rcases OpsB.bytesSplitOffCore_spec hI hi n with ⟨_, hpan⟩ | ⟨_, repr', orepr, C', ev, heq, hInv⟩
      · rw [hpan] at ho; cases ho
      · rw [heq] at ho; cases ho
        exact (hInv ev).hok _ _ List.getElem?_concat_length
    exact simAt_bind_sim (bytesDrop_simAt o s1 this) fun _ => sim_pure_id _
  | _ => exact setHandle_ret i rfl _ s

theorem erase_push_region (s : St) (rg : Region) (h : eraseRegion rg = rg) :
    erase { s with regions := s.regions ++ [rg] } =
      { erase s with regions := (erase s).regions ++ [rg] } := by
  simp [erase, h]

theorem step_simAt (cfg : Cfg) (e : Env) (op : Op) (s : St) (hI : Inv s) :
    SimAt (step cfg e op) (step cfg evenEnv op) s := by
  cases op with
  | fromStatic bs =>
    simp only [step]
    by_cases hb : bs = []
    · simp only [hb, if_true]
      exact newHandle_ret rfl s
    · simp only [hb, if_false, SimAt, erase_regions, List.length_map]
      have := sim_bind_id (newHandle_sim (h := .bytes .static (some s.regions.length) 0 bs.length) rfl)
        (fun i => sim_pure_id (Val.handle i))
        { s with regions := s.regions ++ [⟨bs.length, bs.map some, true, .static⟩] }
      simpa [SimAt, erase, eraseRegion_static, er_handle_bytes] using this
  | newVec bs cap =>
    exact sim_ite sim_panic (sim_bind_id (vecNew_sim e _ _) fun _ => newHandle_ret rfl) s
  | fromVec v =>
    exact simAt_getHandle (hv := fun _ _ _ =>
      sim_bind (bytesFromVec_sim _ _ _) fun _ => setHandle_ret v rfl _)
  | copyFromSlice bs =>
    exact sim_bind_id (vecNew_sim e _ _) (fun _ => sim_bind (bytesFromVec_sim _ _ _) fun _ =>
      newHandle_ret rfl) s
  | fromOwner bs p =>
    refine sim_bind get_sim (fun s0 => ?_) s
    simp only [er_st, erase_owners]
    refine sim_bind_id (sim_modify fun _ => rfl) fun _ => sim_bind_id (newCtrl_sim _ _) fun c =>
      sim_bind_id (emit_sim _) fun _ => sim_ite (sim_bind_id (releaseCtrl_sim c) fun _ => sim_panic)
        (sim_bind get_sim fun s1 => ?_)
    simp only [er_st, erase_regions, List.length_map]
    exact sim_ite (newHandle_ret rfl)
      (sim_bind_id (sim_modify fun s2 => erase_push_region s2 _ (eraseRegion_ownerMem _ _ _ _)) fun _ =>
        newHandle_ret rfl)
  | mutWithCapacity cap | mutFromSlice bs | mutZeroed n =>
    exact sim_bind_id (vecNew_sim e _ _) (fun _ => newHandle_ret rfl) s
  | clone i =>
    exact simAt_getHandle
      (fun _ _ _ _ _ => simAt_bind_sim (bytesClone_simAt i s (hI.hok i)) fun _ => newHandle_ret rfl)
      (hm := fun _ _ _ _ _ _ => sim_bind_id (readRange_sim _ _ _) fun _ =>
        sim_bind_id (vecNew_sim e _ _) fun _ => newHandle_ret rfl)
      (hv := fun _ _ _ => sim_bind_id (readRange_sim _ _ _) fun _ =>
        sim_bind_id (vecNew_sim e _ _) fun _ => newHandle_ret rfl)
  | slice i lo hi =>
    refine simAt_getHandle fun _ _ _ _ _ => simAt_ite (sim_panic s) (simAt_ite (sim_panic s)
      (simAt_ite (newHandle_ret rfl s) (simAt_bind_sim (bytesClone_simAt i s (hI.hok i)) fun c => ?_)))
    rcases c with _ | _ | _
    · rw [er_handle_bytes]; exact newHandle_ret (er_handle_bytes ..)
    · exact sim_panic
    · exact sim_panic
  | splitOff i k =>
    refine simAt_getHandle
      (fun _ _ _ _ _ => simAt_bind_sim (bytesSplitOffCore_simAt i k s (hI.hok i)) fun _ => newHandle_ret rfl)
      (hm := fun _ _ _ _ _ _ => sim_ite sim_panic (sim_bind_pairHH (mutShallowClone_sim _) fun a b =>
        sim_bind (mutAdvanceUnchecked_sim cfg k b) fun _ => ?_))
    rcases a with _ | _ | _
    · rw [er_handle_bytes]; exact sim_panic
    · exact sim_bind_id (setHandle_sim i rfl) fun _ => newHandle_ret rfl
    · exact sim_panic
  | splitTo i k => exact opSplitTo_simAt cfg i k s hI
  | split i =>
    refine simAt_bind (getHandle_sim i s) fun h s' hg => ?_
    obtain ⟨rfl, -⟩ := getHandle_ok hg
    rcases h with _ | _ | _
    · rw [er_handle_bytes]; exact sim_panic _
    · exact opSplitTo_simAt cfg i _ _ hI
    · exact sim_panic _
  | truncate i n => exact opTruncate_simAt i n s hI
  | clear i => exact opTruncate_simAt i 0 s hI
  | advance i n =>
    exact simAt_getHandle
      (fun _ _ _ _ _ => sim_ite sim_panic (setHandle_ret i (er_handle_bytes ..) _) s)
      (hm := fun _ _ _ _ _ _ => sim_ite sim_panic (sim_bind (mutAdvanceUnchecked_sim cfg n _) fun _ =>
        setHandle_ret i rfl _))
  | isUnique i =>
    exact sim_bind (getHandle_sim i) (fun h => sim_bind_id (bytesIsUnique_sim h) fun _ => sim_pure_id _) s
  | tryIntoMut i =>
    refine simAt_bind (getHandle_sim i s) fun h s' hg => ?_
    obtain ⟨rfl, hi⟩ := getHandle_ok hg
    refine simAt_bind (bytesIsUnique_sim h _) fun u s1 hu => ?_
    obtain rfl := bytesIsUnique_ok hu
    exact simAt_ite
      (simAt_bind_sim (bytesIntoMut_simAt cfg e h s1 (hI.hok i h hi)) fun _ => setHandle_ret i rfl _)
      (sim_pure_id _ s1)
  | intoMut i =>
    refine simAt_getHandle (fun _ _ _ _ hi => ?_)
    exact simAt_bind_sim (by rw [← er_handle_bytes]; exact bytesIntoMut_simAt cfg e _ s (hI.hok i _ hi))
      fun _ => setHandle_ret i rfl _
  | intoVec i =>
    refine simAt_getHandle (fun _ _ _ _ hi => ?_) (hm := fun arc _ _ _ _ _ => ?_)
    · exact simAt_bind_sim (by rw [← er_handle_bytes]; exact bytesIntoVec_simAt e _ s (hI.hok i _ hi))
        fun _ => setHandle_ret i rfl _
    · cases arc with
      | none =>
        exact sim_bind_id (copyWithin_sim _ _ _ _) fun _ => setHandle_ret i rfl _
      | some c =>
        refine sim_bind_id (getCtrl_sim c) (fun ce => sim_ite ?_ (sim_bind (toVecCopy_sim e _ _ _) fun _ =>
          sim_bind_id (releaseCtrl_sim c) fun _ => setHandle_ret i rfl _))
        obtain ⟨ct, rc, live⟩ := ce
        cases ct with
        | sharedV vreg vlen vcap orig =>
          exact sim_bind_id (setCtrl_sim _ _) fun _ => sim_bind_id (releaseCtrl_sim c) fun _ =>
            sim_bind_id (copyWithin_sim _ _ _ _) fun _ => setHandle_ret i rfl _
        | _ => exact sim_ub _
  | freeze i =>
    refine simAt_getHandle (hm := fun arc _ _ _ _ _ => ?_)
    cases arc with
    | none =>
      exact sim_bind_handle (bytesFromVec_sim _ _ _) fun _ _ _ _ =>
        sim_ite sim_panic (setHandle_ret i (er_handle_bytes ..) _)
    | some c => exact setHandle_ret i rfl _
  | reserve i n =>
    exact sim_bind (getHandle_sim i) (fun h => sim_bind (mutReserve_sim cfg e n h) fun _ =>
      setHandle_ret i rfl _) s
  | tryReclaim i n =>
    exact simAt_getHandle
      (hm := fun _ _ _ _ _ _ => sim_ite (sim_pure_id _) (sim_bind (mutReserveInner_sim cfg e n false _)
        fun ⟨_, _⟩ => setHandle_ret i rfl _))
  | extend i bs =>
    exact sim_bind (getHandle_sim i) (fun h => sim_bind (mutExtend_sim cfg e h bs) fun _ =>
      setHandle_ret i rfl _) s
  | resize i n b =>
    exact simAt_getHandle
      (hm := fun _ _ _ _ _ _ => sim_ite (setHandle_ret i rfl _) (sim_bind_handle (mutReserve_sim cfg e _ _)
        (hm := fun _ _ _ _ _ _ => sim_bind_id (writeRange_sim _ _ _) fun _ => setHandle_ret i rfl _)))
  | unsplit i j =>
    have other : Sim (getHandle j >>= fun _ => (panic : M Val)) (getHandle j >>= fun _ => panic) :=
      sim_bind (getHandle_sim j) fun _ => sim_panic
    refine simAt_ite (sim_panic s) (simAt_getHandle (fun _ _ _ _ _ => other s)
      (hm := fun arc reg off len cap orig => sim_bind_handle (getHandle_sim j)
        (hm := fun oarc oreg ooff olen ocap oorig => ?_))
      (hv := fun _ _ _ => other))
    refine sim_ite
      (sim_bind_id (killHandle_sim j) fun _ => sim_bind_id (mutDrop_sim _) fun _ => setHandle_ret i rfl _)
      (sim_ite (sim_bind_id (killHandle_sim j) fun _ => sim_bind_id (mutDrop_sim _) fun _ => sim_pure_id _)
      (sim_ite
        (sim_bind_id (killHandle_sim j) fun _ => sim_bind_id (mutDrop_sim _) fun _ => setHandle_ret i rfl _)
      (sim_bind_id (readRange_sim _ _ _) fun bs => sim_bind_id (killHandle_sim j) fun _ => ?_)))
    intro s1
    have hx := mutExtend_sim cfg e (.mut arc reg off len cap orig) bs s1
    simp only [er_handle_mut, SimAt] at hx
    simp only [SimAt]
    rw [← hx]
    cases mutExtend cfg e (.mut arc reg off len cap orig) bs s1 with
    | ok h' s' =>
      exact sim_bind_id (setHandle_sim i rfl) (fun _ => sim_bind_id (mutDrop_sim _) fun _ => sim_pure_id _) s'
    | panic s' => exact sim_bind_id (mutDrop_sim _) (fun _ => sim_panic) s'
    | ub w s' => rfl
  | setByte i k b =>
    exact simAt_getHandle
      (hm := fun _ _ _ _ _ _ => sim_ite sim_panic (sim_bind_id (writeRange_sim _ _ _) fun _ => sim_pure_id _))
  | fillSpare i b =>
    exact simAt_getHandle
      (hm := fun _ _ _ _ _ _ => sim_bind_id (writeRange_sim _ _ _) (fun _ => sim_pure_id _))
  | drop i =>
    refine simAt_getHandle
      (fun _ _ _ _ hi => simAt_bind (killHandle_sim i s) fun _ s1 hk => ?_)
      (hm := fun _ _ _ _ _ _ => sim_bind_id (killHandle_sim i) (fun _ => sim_bind_id (mutDrop_sim _) fun _ =>
        sim_pure_id _))
      (hv := fun _ _ _ => sim_bind_id (killHandle_sim i) (fun _ => sim_bind_id (vecFree_sim _ _) fun _ =>
        sim_pure_id _))
    cases hk
    exact simAt_bind_sim (by rw [← er_handle_bytes]; exact bytesDrop_simAt _ _ (hI.hok i _ hi)) fun _ =>
      sim_pure_id _

end

@[simp] theorem eraseRegion_kind_heap (rg : Region) :
    (match (eraseRegion rg).kind with | .heap _ => true | _ => false) =
      (match rg.kind with | .heap _ => true | _ => false) := by
  obtain ⟨sz, d, l, k⟩ := rg; cases k <;> rfl

theorem isHeapLiveL_erase (R : List Region) (r : Nat) :
    isHeapLiveL (R.map eraseRegion) r = isHeapLiveL R r := by
  simp only [isHeapLiveL_def, List.getElem?_map]
  rcases R[r]? with _ | ⟨sz, d, l, _ | _ | _⟩ <;> rfl

theorem regionSizeL_erase (R : List Region) (r : Nat) :
    regionSizeL (R.map eraseRegion) r = regionSizeL R r := by
  simp only [regionSizeL_def, List.getElem?_map]
  cases R[r]? with
  | none => rfl
  | some rg => simp

theorem regionOddL_erase (R : List Region) (r : Nat) :
    regionOddL (R.map eraseRegion) r = false := by
  simp only [regionOddL_def, List.getElem?_map]
  rcases R[r]? with _ | ⟨sz, d, l, _ | _ | _⟩ <;> rfl

theorem rdL_erase (R : List Region) (reg : Option Nat) (off len : Nat) :
    rdL (R.map eraseRegion) reg off len = rdL R reg off len := by
  unfold rdL
  split
  · rfl
  · cases reg with
    | none => rfl
    | some r =>
      simp only [List.getElem?_map]
      cases R[r]? with
      | none => rfl
      | some rg => simp

theorem kindL_erase {R : List Region} {r : Nat} {k : RKind} (hk : ∀ b, k ≠ .heap b) :
    kindL (R.map eraseRegion) r = some k ↔ kindL R r = some k := by
  simp only [kindL, List.getElem?_map]
  cases R[r]? with
  | none => exact Iff.rfl
  | some rg =>
    obtain ⟨sz, d, l, _ | _ | _⟩ := rg
    · exact ⟨fun h => absurd (Option.some.inj h).symm (hk _), fun h => absurd (Option.some.inj h).symm (hk _)⟩
    · exact Iff.rfl
    · exact Iff.rfl

theorem handleOKL_erase {R : List Region} {C : List CtrlE} {h : Handle}
    (hok : handleOKL R C h = true) : handleOKL (R.map eraseRegion) C (eraseHandle h) = true := by
  rcases h with ⟨_ | c | ⟨vt, _ | c⟩ | c | c, reg, off, len⟩ | ⟨_ | c, reg, off, len, cap, orig⟩ |
    ⟨reg, len, cap⟩ <;> simp only [eraseHandle]
  · rw [handleOKL_static] at hok ⊢; rwa [rdL_erase]
  · obtain ⟨⟨o, hc, hk⟩, hr⟩ := handleOKL_owned.mp hok
    refine handleOKL_owned.mpr ⟨⟨o, hc, ?_⟩, by rwa [rdL_erase]⟩
    rcases hk with hk | ⟨r, rfl, hk⟩
    · exact .inl hk
    · exact .inr ⟨r, rfl, (kindL_erase (by nofun)).mpr hk⟩
  · obtain ⟨⟨r, rfl, hl, hs, -⟩, hr⟩ := handleOKL_promV.mp hok
    exact handleOKL_promV.mpr ⟨⟨r, rfl, by rwa [isHeapLiveL_erase], by rwa [regionSizeL_erase],
      (regionOddL_erase R r).symm⟩, by rwa [rdL_erase]⟩
  · rw [handleOKL_promA] at hok ⊢; rwa [rdL_erase]
  · rw [handleOKL_shared] at hok ⊢; rwa [rdL_erase]
  · rw [handleOKL_sharedV] at hok ⊢; rwa [rdL_erase]
  · rw [handleOKL_mutV] at hok ⊢
    cases reg <;> simpa only [rdL_erase, isHeapLiveL_erase, regionSizeL_erase] using hok
  · rw [handleOKL_mutA] at hok ⊢; rwa [rdL_erase]
  · rw [handleOKL_vec] at hok ⊢
    cases reg <;> simpa only [rdL_erase, isHeapLiveL_erase, regionSizeL_erase] using hok

theorem eraseHandle_blind {β : Type} (f : Handle → β)
    (hf : ∀ vt c reg off len, f (.bytes (.prom false c) reg off len) = f (.bytes (.prom vt c) reg off len))
    (h : Handle) : f (eraseHandle h) = f h := by
  rcases h with ⟨_ | _ | _ | _ | _, reg, off, len⟩ | _ | _ <;> first | rfl | exact hf ..

theorem ctrlOf_erase : ∀ h, ctrlOf (eraseHandle h) = ctrlOf h :=
  eraseHandle_blind ctrlOf fun _ c _ _ _ => by cases c <;> rfl
theorem directRegion_erase : ∀ h, directRegion (eraseHandle h) = directRegion h :=
  eraseHandle_blind directRegion fun _ c _ _ _ => by cases c <;> rfl
theorem span_erase : ∀ h, span (eraseHandle h) = span h :=
  eraseHandle_blind span fun _ _ reg _ _ => by cases reg <;> rfl
theorem isMutable_erase : ∀ h, isMutable (eraseHandle h) = isMutable h :=
  eraseHandle_blind isMutable fun _ _ _ _ _ => rfl
theorem kindOf_erase : ∀ h, kindOf (eraseHandle h) = kindOf h :=
  eraseHandle_blind kindOf fun _ _ _ _ _ => rfl
theorem viewOfL_erase (R : List Region) (h : Handle) :
    viewOfL (R.map eraseRegion) (eraseHandle h) = viewOfL R h := by
  simp only [viewOfL, rdL_erase, eraseHandle_blind hreg (fun _ _ _ _ _ => rfl),
    eraseHandle_blind hoff (fun _ _ _ _ _ => rfl), eraseHandle_blind hlen (fun _ _ _ _ _ => rfl)]

theorem liveHs_erase (hs : List (Option Handle)) :
    liveHs (hs.map (Option.map eraseHandle)) = (liveHs hs).map eraseHandle := by
  unfold liveHs
  induction hs with
  | nil => rfl
  | cons x xs ih => cases x <;> simp [ih]

theorem refCountL_erase (hs : List (Option Handle)) (c : Nat) :
    refCountL (hs.map (Option.map eraseHandle)) c = refCountL hs c := by
  simp only [refCountL, liveHs_erase, List.countP_map]
  congr 1; funext h; simp [ctrlOf_erase]

theorem dirCountL_erase (hs : List (Option Handle)) (r : Nat) :
    dirCountL (hs.map (Option.map eraseHandle)) r = dirCountL hs r := by
  simp only [dirCountL, liveHs_erase, List.countP_map]
  congr 1; funext h; simp [directRegion_erase]

theorem lookup_erase_hs {hs : List (Option Handle)} {i : Nat} {h' : Handle}
    (h : (hs.map (Option.map eraseHandle))[i]? = some (some h')) :
    ∃ h, hs[i]? = some (some h) ∧ h' = eraseHandle h := by
  simp only [List.getElem?_map, Option.map_eq_some_iff] at h
  obtain ⟨_, hi, a, rfl, rfl⟩ := h
  exact ⟨a, hi, rfl⟩

theorem ctrlBufOK_erase {R : List Region} {ow : Nat} {ct : Ctrl} (h : ctrlBufOK R ow ct) :
    ctrlBufOK (R.map eraseRegion) ow ct := by
  rcases ct with ⟨r, cap⟩ | ⟨_ | r, vlen, vcap, orig⟩ | o <;>
    simp only [ctrlBufOK, isHeapLiveL_erase, regionSizeL_erase] at h ⊢ <;> exact h

theorem regionOKB_erase {rg : Region} (h : regionOKB rg = true) : regionOKB (eraseRegion rg) = true := by
  obtain ⟨sz, d, l, k⟩ := rg; cases k <;> exact h

theorem Inv_erase {s : St} (hI : Inv s) : Inv (erase s) := by
  refine ⟨?_, ?_, ?_, ?_, ?_, ?_, ?_⟩
  · intro r rg hr
    simp only [erase_regions, List.getElem?_map, Option.map_eq_some_iff] at hr
    obtain ⟨rg0, h0, rfl⟩ := hr
    exact regionOKB_erase (hI.regs r rg0 h0)
  · intro i h' hi
    obtain ⟨h, hi0, rfl⟩ := lookup_erase_hs hi
    exact handleOKL_erase (hI.hok i h hi0)
  · intro c e he hl
    obtain ⟨h1, h2, h3⟩ := hI.cok c e he hl
    refine ⟨?_, h2, ctrlBufOK_erase h3⟩
    simp only [erase_hs, refCountL_erase]; exact h1
  · intro r hr
    simp only [erase_regions, List.length_map] at hr
    simp only [erase_hs, erase_ctrls, erase_regions, dirCountL_erase, isHeapLiveL_erase]
    exact hI.own r hr
  · intro i j a' b' hi hj hij hm
    obtain ⟨a, hi0, rfl⟩ := lookup_erase_hs hi
    obtain ⟨b, hj0, rfl⟩ := lookup_erase_hs hj
    simp only [disjointB, span_erase]
    rw [isMutable_erase] at hm
    exact hI.excl i j a b hi0 hj0 hij hm
  · intro i r off len hi hl
    obtain ⟨h, hi0, he⟩ := lookup_erase_hs hi
    rcases h with ⟨_ | _ | _ | _ | _, _, _, _⟩ | _ | _ <;> cases he
    exact (kindL_erase (by nofun)).mpr (hI.stat i r off len hi0 hl)
  · exact hI.odist

theorem abs_erase' (s : St) : abs (erase s) = abs s := by
  simp only [abs_eq, absL, erase_regions, erase_hs, List.map_map]
  apply List.map_congr_left
  intro oh _
  cases oh with
  | none => rfl
  | some h => simp [viewOfL_erase, kindOf_erase]

end BytesVerif.Core.P16

