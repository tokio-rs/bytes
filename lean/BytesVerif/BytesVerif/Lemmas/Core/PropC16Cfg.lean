/-
The build profile (`Cfg`: overflow checks, debug assertions) cannot be observed from a well-formed
state (`step_cfg`).  Only `uadd`, `usub` and `dassert` look at the configuration, and each ignores it
when its condition holds.  The two runs are walked side by side (`bind_congr_at`, `ite_congr_at`) down
to the calls of these three, where the condition follows from the invariant at the state reached.
-/
import BytesVerif.Lemmas.Core.PropC07
namespace BytesVerif.Core.P16
open BytesVerif.Core

section
variable (c₁ c₂ : Cfg)

theorem dassert_cfg {b : Bool} (h : b = true) (s : St) : dassert c₁ b s = dassert c₂ b s :=
  (dassert_eq c₁ h s).trans (dassert_eq c₂ h s).symm

theorem mutAdvanceUnchecked_cfg {arc reg : Option Nat} {off len cap orig count : Nat}
    (h : count ≤ cap) (s : St) :
    mutAdvanceUnchecked c₁ (.mut arc reg off len cap orig) count s =
      mutAdvanceUnchecked c₂ (.mut arc reg off len cap orig) count s :=
  ite_congr_at (fun _ => rfl) fun _ =>
    bind_congr_at (dassert_cfg c₁ c₂ (decide_eq_true h) s) fun _ s1 _ =>
      bind_congr_head ((usub_eq c₁ h s1).trans (usub_eq c₂ h s1).symm)

theorem opSplitTo_cfg (i k : Nat) (s : St) (hI : Inv s) :
    opSplitTo c₁ i k s = opSplitTo c₂ i k s := by
  refine getHandle_congr_at fun h hi => ?_
  cases h with
  | «mut» arc reg off len cap orig =>
    refine ite_congr_at (fun _ => rfl) fun hk => bind_congr_at rfl fun ab s' hm => ?_
    obtain ⟨a, b⟩ := ab
    obtain ⟨_, c', rfl, rfl⟩ := mutShallowClone_ok hm
    exact bind_congr_head (mutAdvanceUnchecked_cfg c₁ c₂
      (Nat.le_trans (Nat.le_of_not_gt hk) (mut_len_le_cap (hI.hok i _ hi))) s')
  | _ => rfl

theorem bytesIsUnique_ok {h : Handle} {s s' : St} {u : Bool} (hu : bytesIsUnique h s = .ok u s') :
    s' = s := by
  rcases h with ⟨_ | c | ⟨vt, _ | c⟩ | c | c, reg, off, len⟩ | _ | _
  · cases hu; rfl
  · cases hu; rfl
  · cases hu; rfl
  · exact (ctrlIsUnique_ok hu).1
  · exact (ctrlIsUnique_ok hu).1
  · exact (ctrlIsUnique_ok hu).1
  · cases hu
  · cases hu

theorem bytesIntoMut_cfg (e : Env) (h : Handle) (s : St)
    (hok : handleOKL s.regions s.ctrls h = true) :
    bytesIntoMut c₁ e h s = bytesIntoMut c₂ e h s := by
  rcases h with ⟨repr, reg, off, len⟩ | _ | _
  · -- `prom _ (some c)` and `shared c` share an alternative of `bytesIntoMut`
    have shared : ∀ c, (∃ r cap, liveCtrlL s.ctrls c = some (.sharedB r cap) ∧ reg = some r ∧
        off + len ≤ cap) →
        bytesIntoMut c₁ e (.bytes (.shared c) reg off len) s =
          bytesIntoMut c₂ e (.bytes (.shared c) reg off len) s := by
      rintro c ⟨r, cap, hc, -, hle⟩
      refine bind_congr_at rfl fun u s' hu => ?_
      obtain ⟨rfl, -⟩ := ctrlIsUnique_ok hu
      refine ite_congr_at (fun _ => bind_congr_at rfl fun rc s'' ht => ?_) fun _ => rfl
      obtain ⟨r', cap'⟩ := rc
      obtain ⟨_, e1, he1, hl1, hc1⟩ := takeSharedB_ok ht
      have := liveCtrlL_of he1 hl1
      rw [hc, hc1] at this; cases this
      exact mutAdvanceUnchecked_cfg c₁ c₂ (by omega) s''
    cases repr with
    | prom vt oc =>
      cases oc with
      | none =>
        exact bind_congr_at rfl fun _ s' _ => mutAdvanceUnchecked_cfg c₁ c₂ (Nat.le_add_right _ _) s'
      | some c => exact shared c (handleOKL_promA.mp hok).1
    | shared c => exact shared c (handleOKL_shared.mp hok).1
    | _ => rfl
  · rfl
  · rfl

theorem regionSizeL_lt_W {R : List Region}
    (hR : ∀ (r : Nat) (rg : Region), R[r]? = some rg → regionOKB rg = true) (r : Nat) :
    regionSizeL R r < W := by
  rw [regionSizeL_def]
  cases hr : R[r]? with
  | none => decide
  | some rg => exact lt_W_of_le_isizeMax (region_size_le hR hr).1

theorem mutReserveInner_cfg (e : Env) (h : Handle) (add : Nat) (al : Bool) (s : St)
    (hI : ∀ (r : Nat) (rg : Region), s.regions[r]? = some rg → regionOKB rg = true)
    (hok : handleOKL s.regions s.ctrls h = true) :
    mutReserveInner c₁ e h add al s = mutReserveInner c₂ e h add al s := by
  rcases h with _ | ⟨_ | c, reg, off, len, cap, orig⟩ | _
  · rfl
  · obtain ⟨-, -, hreg, -⟩ := handleOKL_mutV.mp hok
    -- a KIND_VEC handle ends where its region ends, and a region is at most `isizeMax` long (`regionOKB`)
    have hlt : cap + off < W := by
      rw [Nat.add_comm]
      cases reg with
      | none => rw [show off + cap = 0 from hreg]; decide
      | some r => rw [show off + cap = _ from hreg.2]; exact regionSizeL_lt_W hI r
    exact ite_congr_at (fun _ => bind_congr_at rfl fun _ s1 _ =>
      bind_congr_head ((uadd_eq c₁ hlt s1).trans (uadd_eq c₂ hlt s1).symm)) fun _ => rfl
  · obtain ⟨hlc, ⟨vlen, vcap, vorig, hc, hle⟩, -⟩ := handleOKL_mutA.mp hok
    refine ite_congr_at (fun _ => rfl) fun _ => bind_congr_at rfl fun ce s' hg => ?_
    obtain ⟨rfl, hce, hl⟩ := getCtrl_ok hg
    obtain ⟨ct, rc, live⟩ := ce
    obtain rfl : ct = .sharedV reg vlen vcap vorig := by
      have := liveCtrlL_of hce hl
      rw [hc] at this; cases this; rfl
    exact ite_congr_at (fun _ => ite_congr_at (fun _ => rfl) fun _ => ite_congr_at (fun _ => rfl) fun _ =>
      ite_congr_at (fun _ => rfl) fun _ => ite_congr_at (fun _ => rfl) fun _ =>
        bind_congr_head (dassert_cfg c₁ c₂ (decide_eq_true (by omega)) s')) fun _ => rfl
  · rfl

theorem mutReserve_cfg (e : Env) (h : Handle) (add : Nat) (s : St)
    (hI : ∀ (r : Nat) (rg : Region), s.regions[r]? = some rg → regionOKB rg = true)
    (hok : handleOKL s.regions s.ctrls h = true) :
    mutReserve c₁ e h add s = mutReserve c₂ e h add s := by
  cases h with
  | «mut» arc reg off len cap orig =>
    exact ite_congr_at (fun _ => rfl) fun _ =>
      bind_congr_head (mutReserveInner_cfg c₁ c₂ e _ add true s hI hok)
  | _ => rfl

theorem mutExtend_cfg (e : Env) (h : Handle) (bs : List Byte) (s : St)
    (hI : ∀ (r : Nat) (rg : Region), s.regions[r]? = some rg → regionOKB rg = true)
    (hok : handleOKL s.regions s.ctrls h = true) :
    mutExtend c₁ e h bs s = mutExtend c₂ e h bs s := by
  refine bind_congr_at (mutReserve_cfg c₁ c₂ e h bs.length s hI hok) fun h' s' _ => ?_
  cases h' with
  | «mut» arc reg off len cap orig =>
    exact ite_congr_at (fun _ => rfl) fun hlt =>
      bind_congr_head (dassert_cfg c₁ c₂ (decide_eq_true (Nat.le_of_not_lt hlt)) s')
  | _ => rfl

/-- the build profile cannot be observed from a well-formed state -/
theorem step_cfg (e : Env) (op : Op) (s : St) (hI : Inv s) :
    step c₁ e op s = step c₂ e op s := by
  cases op
  case splitOff i k =>
    refine getHandle_congr_at fun h _ => ?_
    cases h with
    | «mut» arc reg off len cap orig =>
      refine ite_congr_at (fun _ => rfl) fun hk => bind_congr_at rfl fun ab s' hm => ?_
      obtain ⟨a, b⟩ := ab
      obtain ⟨_, c', rfl, rfl⟩ := mutShallowClone_ok hm
      exact bind_congr_head (mutAdvanceUnchecked_cfg c₁ c₂ (Nat.le_of_not_gt hk) s')
    | _ => rfl
  case splitTo i k => exact opSplitTo_cfg c₁ c₂ i k s hI
  case split i =>
    refine getHandle_congr_at fun h _ => ?_
    cases h with
    | «mut» arc reg off len cap orig => exact opSplitTo_cfg c₁ c₂ i len s hI
    | _ => rfl
  case advance i n =>
    refine getHandle_congr_at fun h hi => ?_
    cases h with
    | «mut» arc reg off len cap orig =>
      exact ite_congr_at (fun _ => rfl) fun hn => bind_congr_head (mutAdvanceUnchecked_cfg c₁ c₂
        (Nat.le_trans (Nat.le_of_not_gt hn) (mut_len_le_cap (hI.hok i _ hi))) s)
    | _ => rfl
  case tryIntoMut i =>
    refine getHandle_congr_at fun h hi => bind_congr_at rfl fun u s' hu => ?_
    obtain rfl := bytesIsUnique_ok hu
    exact ite_congr_at (fun _ => bind_congr_head (bytesIntoMut_cfg c₁ c₂ e h s' (hI.hok i h hi))) fun _ => rfl
  case intoMut i =>
    refine getHandle_congr_at fun h hi => ?_
    cases h with
    | bytes repr reg off len =>
      exact bind_congr_head (bytesIntoMut_cfg c₁ c₂ e _ s (hI.hok i _ hi))
    | _ => rfl
  case reserve i n =>
    exact getHandle_congr_at fun h hi =>
      bind_congr_head (mutReserve_cfg c₁ c₂ e h n s hI.regs (hI.hok i h hi))
  case tryReclaim i n =>
    refine getHandle_congr_at fun h hi => ?_
    cases h with
    | «mut» arc reg off len cap orig =>
      exact ite_congr_at (fun _ => rfl) fun _ =>
        bind_congr_head (mutReserveInner_cfg c₁ c₂ e _ n false s hI.regs (hI.hok i _ hi))
    | _ => rfl
  case extend i bs =>
    exact getHandle_congr_at fun h hi =>
      bind_congr_head (mutExtend_cfg c₁ c₂ e h bs s hI.regs (hI.hok i h hi))
  case resize i n b =>
    refine getHandle_congr_at fun h hi => ?_
    cases h with
    | «mut» arc reg off len cap orig =>
      exact ite_congr_at (fun _ => rfl) fun _ =>
        bind_congr_head (mutReserve_cfg c₁ c₂ e _ (n - len) s hI.regs (hI.hok i _ hi))
    | _ => rfl
  case unsplit i j =>
    refine ite_congr_at (fun _ => rfl) fun _ =>
      getHandle_congr_at fun h hi => getHandle_congr_at fun o _ => ?_
    cases h with
    | «mut» arc reg off len cap orig =>
      cases o with
      | «mut» oarc oreg ooff olen ocap oorig =>
        refine ite_congr_at (fun _ => rfl) fun _ => ite_congr_at (fun _ => rfl) fun _ =>
          ite_congr_at (fun _ => rfl) fun _ => bind_congr_at rfl fun bs s1 hr => ?_
        obtain rfl : s1 = s := by
          rcases readRange_eq s oreg ooff olen with ⟨b, _, h⟩ | ⟨_, w, h⟩ <;> rw [hr] at h <;> cases h
          rfl
        refine bind_congr_at rfl fun _ s2 hk => ?_
        cases hk
        dsimp only
        rw [mutExtend_cfg c₁ c₂ e _ bs { s1 with hs := s1.hs.set j none } hI.regs (hI.hok i _ hi)]
      | _ => rfl
    | _ => rfl
  all_goals rfl

end

end BytesVerif.Core.P16
