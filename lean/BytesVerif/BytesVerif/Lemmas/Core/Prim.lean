/-
Execution equations (`foo_eq : foo args s = .ok v s'`), exhaustive case splits (`foo_cases`) and inversions
(`foo_ok`: what a normal return of `foo` says about the state it ran in) for the primitives of M1.  Apart from `readRange_view` nothing here mentions `Inv`: intermediate states of an
operation are not well-formed, so the primitives are specified on raw states with explicit lookup
hypotheses (`s.hs[i]? = …`, `s.ctrls[c]? = …`, `s.regions[r]? = …`), which callers obtain from `Inv`.
-/
import BytesVerif.Lemmas.Core.Inv
namespace BytesVerif.Core

/-- the region after `dealloc` -/
def Region.kill (rg : Region) : Region := { rg with live := false }
/-- the region after writing `bs` at `off` -/
def Region.write (rg : Region) (off : Nat) (bs : List Byte) : Region :=
  { rg with data := rg.data.take off ++ bs.map some ++ rg.data.drop (off + bs.length) }

@[simp] theorem Region.kill_size (rg : Region) : rg.kill.size = rg.size := rfl
@[simp] theorem Region.kill_data (rg : Region) : rg.kill.data = rg.data := rfl
@[simp] theorem Region.kill_live (rg : Region) : rg.kill.live = false := rfl
@[simp] theorem Region.kill_kind (rg : Region) : rg.kill.kind = rg.kind := rfl
@[simp] theorem Region.write_size (rg : Region) (off : Nat) (bs : List Byte) :
    (rg.write off bs).size = rg.size := rfl
@[simp] theorem Region.write_live (rg : Region) (off : Nat) (bs : List Byte) :
    (rg.write off bs).live = rg.live := rfl
@[simp] theorem Region.write_kind (rg : Region) (off : Nat) (bs : List Byte) :
    (rg.write off bs).kind = rg.kind := rfl
theorem Region.write_data (rg : Region) (off : Nat) (bs : List Byte) :
    (rg.write off bs).data = rg.data.take off ++ bs.map some ++ rg.data.drop (off + bs.length) := rfl
theorem Region.kill_eq (rg : Region) : rg.kill = { rg with live := false } := rfl

theorem getHandle_eq {s : St} {i : Nat} {h : Handle} (hi : s.hs[i]? = some (some h)) :
    getHandle i s = .ok h s := by
  simp [getHandle, hi]

theorem getHandle_ok {i : Nat} {s s' : St} {h : Handle} (hg : getHandle i s = .ok h s') :
    s' = s ∧ s.hs[i]? = some (some h) := by
  unfold getHandle at hg
  split at hg
  · next h' heq => cases hg; exact ⟨rfl, heq⟩
  · cases hg

theorem getHandle_congr_at {β : Type} {i : Nat} {k k' : Handle → M β} {s : St}
    (h : ∀ h, s.hs[i]? = some (some h) → k h s = k' h s) :
    (getHandle i >>= k) s = (getHandle i >>= k') s :=
  bind_congr_at rfl fun a s' hg => by
    obtain ⟨rfl, hi⟩ := getHandle_ok hg
    exact h a hi

/-- the operations fetch the handle first; `step cfg e op s` has this shape by unfolding alone -/
theorem getHandle_bind_eq {β : Type} {s : St} {i : Nat} {x : Handle} (hx : s.hs[i]? = some (some x))
    (f : Handle → M β) : (getHandle i >>= f) s = f x s :=
  bind_of_ok (getHandle_eq hx)

theorem getHandle_bind_ok {β : Type} {f : Handle → M β} {s s' : St} {i : Nat} {x : Handle} {b : β}
    (hx : s.hs[i]? = some (some x)) (h : (getHandle i >>= f) s = .ok b s') : f x s = .ok b s' :=
  (getHandle_bind_eq hx f).symm.trans h

theorem getHandle_panic {s : St} {i : Nat} (hi : ∀ h, s.hs[i]? ≠ some (some h)) :
    getHandle i s = .panic s := by
  unfold getHandle
  cases h : s.hs[i]? with
  | none => rfl
  | some oh =>
    cases oh with
    | none => rfl
    | some a => exact (hi a h).elim

theorem getHandle_cases (s : St) (i : Nat) :
    (∃ h, s.hs[i]? = some (some h) ∧ getHandle i s = .ok h s) ∨
    ((∀ h, s.hs[i]? ≠ some (some h)) ∧ getHandle i s = .panic s) := by
  by_cases hh : ∃ h, s.hs[i]? = some (some h)
  · exact hh.elim fun a h => .inl ⟨a, h, getHandle_eq h⟩
  · exact .inr ⟨fun a h => hh ⟨a, h⟩, getHandle_panic fun a h => hh ⟨a, h⟩⟩

@[simp] theorem setHandle_apply (i : Nat) (h : Handle) (s : St) :
    setHandle i h s = .ok () { s with hs := s.hs.set i (some h) } := rfl
@[simp] theorem killHandle_apply (i : Nat) (s : St) :
    killHandle i s = .ok () { s with hs := s.hs.set i none } := rfl
@[simp] theorem newHandle_apply (h : Handle) (s : St) :
    newHandle h s = .ok s.hs.length { s with hs := s.hs ++ [some h] } := rfl

theorem getRegion_eq {s : St} {r : Nat} {rg : Region} (hr : s.regions[r]? = some rg) :
    getRegion r s = .ok rg s := by
  simp [getRegion, hr]

theorem getRegion_ok {r : Nat} {s s1 : St} {rg : Region} (h : getRegion r s = .ok rg s1) :
    s1 = s ∧ s.regions[r]? = some rg := by
  unfold getRegion at h
  split at h <;> cases h
  exact ⟨rfl, by assumption⟩

@[simp] theorem setRegion_apply (r : Nat) (rg : Region) (s : St) :
    setRegion r rg s = .ok () { s with regions := s.regions.set r rg } := rfl

@[simp] theorem allocRegion_apply (e : Env) (size : Nat) (data : List (Option Byte)) (s : St) :
    allocRegion e size data s = .ok s.regions.length
      { s with regions := s.regions ++ [⟨size, data, true, .heap (e.odd s.regions.length)⟩],
               events := .alloc s.regions.length size :: s.events } := rfl

theorem freeRegion_eq {s : St} {r size : Nat} {rg : Region} {o : Bool}
    (hr : s.regions[r]? = some rg) (hl : rg.live = true) (hs : rg.size = size)
    (hk : rg.kind = .heap o) :
    freeRegion r size s = .ok ()
      { s with regions := s.regions.set r rg.kill,
               events := .dealloc r size :: s.events } := by
  simp [freeRegion, getRegion_eq hr, hl, hs, hk, Region.kill]

theorem freeRegion_of_heapLive {s : St} {r size : Nat} (hl : isHeapLiveL s.regions r = true)
    (hs : regionSizeL s.regions r = size) :
    ∃ rg, s.regions[r]? = some rg ∧ rg.live = true ∧ rg.size = size ∧
      freeRegion r size s = .ok ()
        { s with regions := s.regions.set r rg.kill,
                 events := .dealloc r size :: s.events } := by
  obtain ⟨rg, o, hr, hlive, hk⟩ := isHeapLiveL_iff.mp hl
  have hsz : rg.size = size := by simpa [regionSizeL_def, hr] using hs
  exact ⟨rg, hr, hlive, hsz, freeRegion_eq hr hlive hsz hk⟩

theorem readRange_view {s : St} (hI : Inv s) {i : Nat} {h : Handle} (hi : s.hs[i]? = some (some h)) :
    ∃ v, viewOfL s.regions h = some v ∧ v.length = hlen h ∧
      readRange (hreg h) (hoff h) (hlen h) s = .ok v s := by
  obtain ⟨v, hv, hl⟩ := hI.view hi
  exact ⟨v, hv, hl, readRange_of_rdL hv⟩

@[simp] theorem writeRange_nil (reg : Option Nat) (off : Nat) (s : St) :
    writeRange reg off [] s = .ok () s := by
  simp [writeRange]

theorem writeRange_eq {s : St} {r off : Nat} {bs : List Byte} {rg : Region} {o : Bool}
    (hne : bs ≠ []) (hr : s.regions[r]? = some rg) (hl : rg.live = true)
    (hb : off + bs.length ≤ rg.size) (hk : rg.kind = .heap o) :
    writeRange (some r) off bs s = .ok ()
      { s with regions := s.regions.set r (rg.write off bs) } := by
  have : ¬ (off + bs.length > rg.size) := Nat.not_lt.mpr hb
  simp [writeRange, hne, getRegion_eq hr, hl, this, hk, Region.write]

theorem copyWithin_zero (reg : Option Nat) (src dst : Nat) (s : St) :
    copyWithin reg src dst 0 s = .ok () s := by
  simp [copyWithin]

theorem copyWithin_eq {s : St} {r src dst len : Nat} {bs : List Byte} {rg : Region} {o : Bool}
    (hlen : len ≠ 0) (hrd : rdL s.regions (some r) src len = some bs) (hbl : bs.length = len)
    (hr : s.regions[r]? = some rg) (hl : rg.live = true) (hb : dst + len ≤ rg.size)
    (hk : rg.kind = .heap o) :
    copyWithin (some r) src dst len s = .ok ()
      { s with regions := s.regions.set r (rg.write dst bs) } := by
  have hne : bs ≠ [] := by intro h; subst h; simp at hbl; omega
  simp only [copyWithin, hlen, if_false, bind_apply, readRange_of_rdL hrd]
  exact writeRange_eq hne hr hl (hbl ▸ hb) hk

theorem getCtrl_eq {s : St} {c : Nat} {e : CtrlE} (hc : s.ctrls[c]? = some e) (hl : e.live = true) :
    getCtrl c s = .ok e s := by
  simp [getCtrl, hc, hl]

theorem getCtrl_ok {c : Nat} {s s1 : St} {e : CtrlE} (h : getCtrl c s = .ok e s1) :
    s1 = s ∧ s.ctrls[c]? = some e ∧ e.live = true := by
  unfold getCtrl at h
  split at h
  · rename_i e' he
    split at h
    · rename_i hl; cases h; exact ⟨rfl, he, hl⟩
    · cases h
  · cases h

@[simp] theorem setCtrl_apply (c : Nat) (e : CtrlE) (s : St) :
    setCtrl c e s = .ok () { s with ctrls := s.ctrls.set c e } := rfl

@[simp] theorem newCtrl_apply (ct : Ctrl) (rc : Nat) (s : St) :
    newCtrl ct rc s = .ok s.ctrls.length
      { s with ctrls := s.ctrls ++ [⟨ct, rc, true⟩], events := .allocCtrl s.ctrls.length :: s.events } :=
  rfl

theorem freeCtrl_eq {s : St} {c : Nat} {e : CtrlE} (hc : s.ctrls[c]? = some e) (hl : e.live = true) :
    freeCtrl c s = .ok ()
      { s with ctrls := s.ctrls.set c { e with live := false },
               events := .deallocCtrl c :: s.events } := by
  simp [freeCtrl, getCtrl_eq hc hl]

theorem incCtrl_eq {s : St} {c : Nat} {e : CtrlE} (hc : s.ctrls[c]? = some e) (hl : e.live = true) :
    incCtrl c s = .ok () { s with ctrls := s.ctrls.set c { e with rc := e.rc + 1 } } := by
  simp [incCtrl, getCtrl_eq hc hl]

theorem ctrlIsUnique_eq {s : St} {c : Nat} {e : CtrlE} (hc : s.ctrls[c]? = some e)
    (hl : e.live = true) : ctrlIsUnique c s = .ok (e.rc == 1) s := by
  simp [ctrlIsUnique, getCtrl_eq hc hl]

theorem ctrlIsUnique_ok {c : Nat} {s s1 : St} {u : Bool} (h : ctrlIsUnique c s = .ok u s1) :
    s1 = s ∧ ∃ e, s.ctrls[c]? = some e ∧ e.live = true ∧ u = (e.rc == 1) := by
  unfold ctrlIsUnique at h
  obtain ⟨e, s0, h1, h'⟩ := ok_of_bind h
  obtain ⟨hs0, he, hl⟩ := getCtrl_ok h1
  cases h'
  exact ⟨hs0, e, he, hl, rfl⟩

theorem vecNew_zero (e : Env) (bs : List Byte) (s : St) : vecNew e bs 0 s = .ok none s := by
  simp [vecNew]

theorem vecNew_panic (e : Env) (bs : List Byte) {cap : Nat} (h : cap > isizeMax) (s : St) :
    vecNew e bs cap s = .panic s := by
  have : cap ≠ 0 := by simp [isizeMax_eq] at h; omega
  simp [vecNew, this, h]

/-- the region `vecNew e bs cap` allocates -/
def vecRegion (bs : List Byte) (cap : Nat) (odd : Bool) : Region :=
  ⟨cap, bs.map some ++ List.replicate (cap - bs.length) none, true, .heap odd⟩

theorem vecNew_eq (e : Env) (bs : List Byte) {cap : Nat} (h0 : cap ≠ 0) (h : cap ≤ isizeMax) (s : St) :
    vecNew e bs cap s = .ok (some s.regions.length)
      ⟨s.regions ++ [vecRegion bs cap (e.odd s.regions.length)], s.ctrls, s.hs, s.owners,
        .alloc s.regions.length cap :: s.events⟩ := by
  have : ¬ cap > isizeMax := Nat.not_lt.mpr h
  simp [vecNew, h0, this, vecRegion]

theorem vecNew_cases (e : Env) (bs : List Byte) (cap : Nat) (s : St) :
    (cap = 0 ∧ vecNew e bs cap s = .ok none s) ∨
    (cap > isizeMax ∧ vecNew e bs cap s = .panic s) ∨
    (cap ≠ 0 ∧ cap ≤ isizeMax ∧ vecNew e bs cap s = .ok (some s.regions.length)
      { s with regions := s.regions ++
                 [⟨cap, bs.map some ++ List.replicate (cap - bs.length) none, true,
                   .heap (e.odd s.regions.length)⟩],
               events := .alloc s.regions.length cap :: s.events }) := by
  by_cases h0 : cap = 0
  · subst h0; exact .inl ⟨rfl, vecNew_zero e bs s⟩
  · by_cases h : cap > isizeMax
    · exact .inr (.inl ⟨h, vecNew_panic e bs h s⟩)
    · exact .inr (.inr ⟨h0, Nat.le_of_not_lt h, vecNew_eq e bs h0 (Nat.le_of_not_lt h) s⟩)

theorem vecFree_none (s : St) : vecFree none 0 s = .ok () s := by simp [vecFree]

theorem vecFree_some {s : St} {r cap : Nat} (hl : isHeapLiveL s.regions r = true)
    (hs : regionSizeL s.regions r = cap) (h0 : cap ≠ 0) :
    ∃ rg, s.regions[r]? = some rg ∧ rg.live = true ∧ rg.size = cap ∧
      vecFree (some r) cap s = .ok ()
        { s with regions := s.regions.set r rg.kill,
                 events := .dealloc r cap :: s.events } := by
  obtain ⟨rg, h1, h2, h3, h4⟩ := freeRegion_of_heapLive hl hs
  exact ⟨rg, h1, h2, h3, by simp [vecFree, h0, h4]⟩

/-- W1: a heap region has positive size (so `from_raw_parts` never sees capacity 0 on an allocation) -/
theorem heap_size_pos {R : List Region} (hR : ∀ (r : Nat) (rg : Region), R[r]? = some rg → regionOKB rg = true)
    {r : Nat} (hl : isHeapLiveL R r = true) : regionSizeL R r ≠ 0 := by
  obtain ⟨rg, o, hr, _, hk⟩ := isHeapLiveL_iff.mp hl
  have := hR r rg hr
  simp [regionOKB, hk] at this
  simp [regionSizeL_def, hr]; omega

theorem region_size_le {R : List Region} (hR : ∀ (r : Nat) (rg : Region), R[r]? = some rg → regionOKB rg = true)
    {r : Nat} {rg : Region} (hr : R[r]? = some rg) : rg.size ≤ isizeMax ∧ rg.data.length = rg.size := by
  have := hR r rg hr
  simp [regionOKB] at this
  exact ⟨this.1.2, this.1.1⟩

theorem releaseCtrl_dec {s : St} {c : Nat} {e : CtrlE} (hc : s.ctrls[c]? = some e)
    (hl : e.live = true) (h0 : e.rc ≠ 0) (h1 : e.rc ≠ 1) :
    releaseCtrl c s = .ok () { s with ctrls := s.ctrls.set c { e with rc := e.rc - 1 } } := by
  simp [releaseCtrl, getCtrl_eq hc hl, h0, h1]

/-- the regions after the buffer of a control block has been freed -/
def freeBuf (R : List Region) : Ctrl → List Region
  | .sharedB r _ => (match R[r]? with | some rg => R.set r rg.kill | none => R)
  | .sharedV (some r) _ _ _ => (match R[r]? with | some rg => R.set r rg.kill | none => R)
  | .sharedV none _ _ _ => R
  | .owned o => R.map fun rg => if rg.kind = .ownerMem o then rg.kill else rg

/-- the hypotheses are what `Inv.cok` provides (`ctrlBufOK`) plus W1 -/
theorem releaseCtrl_last {s : St} {c : Nat} {e : CtrlE} (hc : s.ctrls[c]? = some e)
    (hl : e.live = true) (h1 : e.rc = 1) (hb : ctrlBufOK s.regions s.owners e.c)
    (hR : ∀ (r : Nat) (rg : Region), s.regions[r]? = some rg → regionOKB rg = true) :
    ∃ ev, releaseCtrl c s = .ok ()
      { s with regions := freeBuf s.regions e.c,
               ctrls := s.ctrls.set c ⟨e.c, 0, false⟩,
               events := ev } := by
  obtain ⟨ct, rc, live⟩ := e
  cases hl; cases h1
  -- whatever the release of the buffer leaves in `regions` and `events`, `freeCtrl c` ends the job
  have tail : ∀ (R' : List Region) (ev : List Ev),
      ∃ ev', freeCtrl c ⟨R', s.ctrls.set c ⟨ct, 0, true⟩, s.hs, s.owners, ev⟩ =
        .ok () ⟨R', s.ctrls.set c ⟨ct, 0, false⟩, s.hs, s.owners, ev'⟩ := fun R' ev =>
    ⟨_, by rw [freeCtrl_eq (e := ⟨ct, 0, true⟩) (lookup_set_eq _ hc) rfl, List.set_set]⟩
  have kill : ∀ r n, isHeapLiveL s.regions r = true → regionSizeL s.regions r = n →
      ∃ rg, s.regions[r]? = some rg ∧ freeRegion r n { s with ctrls := s.ctrls.set c ⟨ct, 0, true⟩ } =
        .ok () ⟨s.regions.set r rg.kill, s.ctrls.set c ⟨ct, 0, true⟩, s.hs, s.owners,
          .dealloc r n :: s.events⟩ := fun r n h1 h2 =>
    let ⟨rg, hr, _, _, h⟩ :=
      freeRegion_of_heapLive (s := { s with ctrls := s.ctrls.set c ⟨ct, 0, true⟩ }) h1 h2
    ⟨rg, hr, h⟩
  simp only [releaseCtrl, bind_apply, getCtrl_eq hc rfl, Nat.one_ne_zero, if_false, ne_eq,
    not_true_eq_false, setCtrl_apply]
  cases ct with
  | sharedB r cap =>
    obtain ⟨rg, hr, hfree⟩ := kill r cap hb.1 hb.2
    simp only [bind_apply, hfree, freeBuf, hr]
    exact tail _ _
  | sharedV reg vlen vcap orig =>
    cases reg with
    | none =>
      cases (show vcap = 0 from hb)
      simp only [bind_apply, vecFree_none, freeBuf]
      exact tail _ _
    | some r =>
      obtain ⟨rg, hr, hfree⟩ := kill r vcap hb.1 hb.2
      have h0 : vcap ≠ 0 := hb.2 ▸ heap_size_pos hR hb.1
      simp only [bind_apply, vecFree, h0, if_false, hfree, freeBuf, hr]
      exact tail _ _
  | owned o =>
    simp only [bind_apply, emit_apply, modify_apply, freeBuf]
    exact tail _ _

theorem releaseCtrl_cases {s : St} {c : Nat} {e : CtrlE} (hc : s.ctrls[c]? = some e)
    (hl : e.live = true) (h0 : 1 ≤ e.rc) (hb : ctrlBufOK s.regions s.owners e.c)
    (hR : ∀ (r : Nat) (rg : Region), s.regions[r]? = some rg → regionOKB rg = true) :
    (e.rc ≠ 1 ∧
      releaseCtrl c s = .ok () { s with ctrls := s.ctrls.set c { e with rc := e.rc - 1 } }) ∨
    (e.rc = 1 ∧ ∃ ev, releaseCtrl c s = .ok ()
      { s with regions := freeBuf s.regions e.c,
               ctrls := s.ctrls.set c ⟨e.c, 0, false⟩,
               events := ev }) := by
  by_cases h1 : e.rc = 1
  · exact .inr ⟨h1, releaseCtrl_last hc hl h1 hb hR⟩
  · exact .inl ⟨h1, releaseCtrl_dec hc hl (Nat.ne_of_gt h0) h1⟩

theorem regionOdd_eq {s : St} {r : Nat} (hl : isHeapLiveL s.regions r = true) :
    regionOdd (some r) s = .ok (regionOddL s.regions r) s := by
  obtain ⟨rg, o, hr, _, hk⟩ := isHeapLiveL_iff.mp hl
  simp [regionOdd, getRegion_eq hr, hk, regionOddL_def, hr]

theorem promDecode_eq {s : St} {r : Nat} {vt : Bool} (hl : isHeapLiveL s.regions r = true)
    (hv : vt = regionOddL s.regions r) : promDecode vt (some r) s = .ok () s := by
  simp [promDecode, regionOdd_eq hl, hv]

theorem vecReserve_noop (e : Env) {reg : Option Nat} {len cap additional : Nat}
    (h : additional ≤ cap - len) (s : St) :
    vecReserve e reg len cap additional s = .ok (reg, cap) s := by
  simp [vecReserve, h]

theorem vecReserve_panic_grow (e : Env) {reg : Option Nat} {len cap additional : Nat}
    (h : ¬ additional ≤ cap - len) (h3 : vecGrowCap cap (len + additional) > isizeMax) (s : St) :
    vecReserve e reg len cap additional s = .panic s := by
  by_cases h2 : len + additional > isizeMax
  · simp [vecReserve, h, h2]
  · simp [vecReserve, h, h2, h3]

/-- the needed capacity never exceeds the grown one, so the second check subsumes the first -/
theorem le_vecGrowCap (cap needed : Nat) : needed ≤ vecGrowCap cap needed := by
  simp only [vecGrowCap]; omega

theorem vecGrowCap_pos (cap needed : Nat) : vecGrowCap cap needed ≠ 0 := by
  simp only [vecGrowCap]; omega

theorem vecReserve_grow_none (e : Env) {len additional : Nat}
    (h : ¬ additional ≤ 0 - len) (h3 : vecGrowCap 0 (len + additional) ≤ isizeMax) (s : St) :
    vecReserve e none len 0 additional s =
      .ok (some s.regions.length, vecGrowCap 0 (len + additional))
        ⟨s.regions ++ [⟨vecGrowCap 0 (len + additional),
            List.replicate (vecGrowCap 0 (len + additional)) none, true, .heap (e.odd s.regions.length)⟩],
          s.ctrls, s.hs, s.owners,
          .alloc s.regions.length (vecGrowCap 0 (len + additional)) :: s.events⟩ := by
  have h' : ¬ additional = 0 := by omega
  have h2 : ¬ len + additional > isizeMax :=
    Nat.not_lt.mpr (Nat.le_trans (le_vecGrowCap 0 (len + additional)) h3)
  have h3' : ¬ vecGrowCap 0 (len + additional) > isizeMax := Nat.not_lt.mpr h3
  simp [vecReserve, h', h2, h3', vecFree_none]

theorem vecReserve_grow_some (e : Env) {r len cap additional : Nat} {rg : Region} {o : Bool} {s : St}
    (h : ¬ additional ≤ cap - len) (h3 : vecGrowCap cap (len + additional) ≤ isizeMax)
    (hr : s.regions[r]? = some rg) (hl : rg.live = true) (hs : rg.size = cap) (hk : rg.kind = .heap o)
    (h0 : cap ≠ 0) :
    vecReserve e (some r) len cap additional s =
      .ok (some s.regions.length, vecGrowCap cap (len + additional))
        ⟨(s.regions ++ [(⟨vecGrowCap cap (len + additional),
            rg.data.take len ++
              List.replicate (vecGrowCap cap (len + additional) - (rg.data.take len).length) none,
            true, .heap (e.odd s.regions.length)⟩ : Region)]).set r rg.kill,
          s.ctrls, s.hs, s.owners,
          .dealloc r cap :: .alloc s.regions.length (vecGrowCap cap (len + additional)) :: s.events⟩ := by
  have h2 : ¬ len + additional > isizeMax :=
    Nat.not_lt.mpr (Nat.le_trans (le_vecGrowCap cap (len + additional)) h3)
  have h3' : ¬ vecGrowCap cap (len + additional) > isizeMax := Nat.not_lt.mpr h3
  simp only [vecReserve, ge_iff_le, h, if_false, h2, h3', bind_apply, getRegion_eq hr, hl, Bool.not_true,
    Bool.false_eq_true, pure_apply, allocRegion_apply, vecFree, h0]
  rw [freeRegion_eq (rg := rg) (o := o) (r := r) (size := cap)
    (by exact lookup_append_of_some _ hr) hl hs hk]

/-- `old` is the preserved prefix (`rg.data.take len` resp. `[]`) of a growing `vecReserve` -/
theorem vecReserve_region_ok {cap needed : Nat} (old : List (Option Byte)) (o : Bool)
    (h3 : vecGrowCap cap needed ≤ isizeMax) (hold : old.length ≤ vecGrowCap cap needed) :
    regionOKB ⟨vecGrowCap cap needed,
      old ++ List.replicate (vecGrowCap cap needed - old.length) none, true, .heap o⟩ = true := by
  have := vecGrowCap_pos cap needed
  simp [regionOKB, h3]
  omega

theorem rdL_write_apart {R : List Region} {r : Nat} {rg : Region} {off : Nat} {bs : List Byte}
    {reg : Option Nat} {o l : Nat} (hr : R[r]? = some rg) (hb : off + bs.length ≤ rg.data.length)
    (hd : reg = some r → ∀ k, o ≤ k → k < o + l → off ≤ k → k < off + bs.length → False) :
    rdL (R.set r (rg.write off bs)) reg o l = rdL R reg o l := by
  refine rdL_set_data (d := rg.data.take off ++ bs.map some ++ rg.data.drop (off + bs.length)) hr ?_
  intro hreg k hk1 hk2
  have hw := write_getElem? rg.data (bs.map some) off k (by rw [List.length_map]; exact hb)
  rw [List.length_map] at hw
  rw [hw]
  split
  · rfl
  · next h1 =>
    split
    · next h2 => exact (hd hreg k hk1 hk2 (Nat.le_of_not_lt h1) h2).elim
    · rfl

theorem rdL_write_other {R : List Region} {r : Nat} {rg : Region} {off : Nat} {bs : List Byte}
    {reg : Option Nat} {o l : Nat} (hr : R[r]? = some rg) (hb : off + bs.length ≤ rg.data.length)
    (hd : reg = some r → o + l ≤ off ∨ off + bs.length ≤ o) :
    rdL (R.set r (rg.write off bs)) reg o l = rdL R reg o l :=
  rdL_write_apart hr hb fun hreg k _ _ _ _ => by have := hd hreg; omega

theorem regionOKB_write {rg : Region} {off : Nat} {bs : List Byte} (h : regionOKB rg = true)
    (hb : off + bs.length ≤ rg.data.length) : regionOKB (rg.write off bs) = true := by
  unfold regionOKB at h ⊢
  rw [Region.write_size, Region.write_kind, Region.write_data,
    ← List.length_map (f := some) (as := bs), write_length _ _ _ (by rw [List.length_map]; exact hb)]
  exact h

theorem rdL_write_same {R : List Region} {r : Nat} {rg : Region} {off : Nat} {bs : List Byte}
    (hr : R[r]? = some rg) (hl : rg.live = true) (hb : off + bs.length ≤ rg.size)
    (hdl : rg.data.length = rg.size) :
    rdL (R.set r (rg.write off bs)) (some r) off bs.length = some bs := by
  apply rdL_some_of (lookup_set_eq _ hr) (by simpa using hl) (by simpa using hb)
  have := write_slice rg.data (bs.map some) off (by simp; omega)
  simpa [Region.write_data] using this

theorem rdL_concat {R : List Region} {reg : Option Nat} {o l1 l2 : Nat} {v1 v2 : List Byte}
    (h1 : rdL R reg o l1 = some v1) (h2 : rdL R reg (o + l1) l2 = some v2) (hv1 : v1.length = l1) :
    rdL R reg o (l1 + l2) = some (v1 ++ v2) := by
  rcases rdL_eq_some_iff.mp h1 with ⟨rfl, rfl⟩ | ⟨hl1, r, rg, rfl, hr, hl, hb1, hd1⟩
  · rwa [Nat.zero_add, List.nil_append, ← Nat.add_zero o]
  rcases rdL_eq_some_iff.mp h2 with ⟨rfl, rfl⟩ | ⟨hl2, r', rg', hreg, hr', _, hb2, hd2⟩
  · rwa [Nat.add_zero, List.append_nil]
  cases hreg; rw [hr] at hr'; cases hr'
  refine rdL_eq_some_iff.mpr (.inr ⟨fun h => hl1 (Nat.eq_zero_of_add_eq_zero_right h), r, rg, rfl, hr, hl,
    Nat.add_assoc .. ▸ hb2, ?_⟩)
  rw [List.take_add, List.drop_drop, hd1, hd2, List.map_append]

theorem slice_prefix {α} (d X : List α) {off len n : Nat} (hn : off + len ≤ n) (hdl : n ≤ d.length) :
    ((d.take n ++ X).drop off).take len = (d.drop off).take len := by
  apply slice_congr
  intro k _ hk
  have hkn : k < n := Nat.lt_of_lt_of_le hk hn
  have : k < (d.take n).length := by rw [List.length_take, Nat.min_eq_left hdl]; exact hkn
  rw [List.getElem?_append_left this, List.getElem?_take, if_pos hkn]

theorem rdL_prefix_copy {R R' : List Region} {r r' : Nat} {rg rg' : Region} {off len n : Nat}
    {X : List (Option Byte)} {v : List Byte}
    (hv : rdL R (some r) off len = some v) (hr : R[r]? = some rg) (hr' : R'[r']? = some rg')
    (hl' : rg'.live = true) (hd' : rg'.data = rg.data.take n ++ X) (hn : off + len ≤ n)
    (hsz : off + len ≤ rg'.size) (hdl : n ≤ rg.data.length) :
    rdL R' (some r') off len = some v := by
  rcases rdL_eq_some_iff.mp hv with ⟨h0, hv0⟩ | ⟨h0, r0, rg0, h1, h2, _, _, hd⟩
  · exact rdL_eq_some_iff.mpr (.inl ⟨h0, hv0⟩)
  · cases h1; rw [hr] at h2; cases h2
    exact rdL_some_of hr' hl' hsz (by rw [hd', slice_prefix _ _ hn hdl]; exact hd)

theorem ctrlBufOK_some {R : List Region}
    (hR : ∀ (r : Nat) (rg : Region), R[r]? = some rg → regionOKB rg = true)
    {ow r vlen vcap orig : Nat} (h : ctrlBufOK R ow (.sharedV (some r) vlen vcap orig)) :
    ∃ rg k, R[r]? = some rg ∧ rg.live = true ∧ rg.kind = .heap k ∧ rg.size = vcap ∧
      rg.data.length = vcap ∧ vcap ≤ isizeMax ∧ vcap ≠ 0 := by
  obtain ⟨rg, k, hr, hlive, hkind⟩ := isHeapLiveL_iff.mp h.1
  have hsz : rg.size = vcap := by simpa [regionSizeL_def, hr] using h.2
  obtain ⟨hmax, hdl⟩ := region_size_le hR hr
  exact ⟨rg, k, hr, hlive, hkind, hsz, hsz ▸ hdl, hsz ▸ hmax, by rw [← h.2]; exact heap_size_pos hR h.1⟩

theorem lt_W_pred_of_le_isizeMax {n : Nat} (h : n ≤ isizeMax) : n < W - 1 := by
  rw [W_eq]; rw [isizeMax_eq] at h; omega

theorem lt_W_of_le_isizeMax {n : Nat} (h : n ≤ isizeMax) : n < W :=
  Nat.lt_of_lt_of_le (lt_W_pred_of_le_isizeMax h) (Nat.sub_le W 1)

theorem ctrlBufOK_cap_le {R : List Region}
    (hR : ∀ (r : Nat) (rg : Region), R[r]? = some rg → regionOKB rg = true)
    {ow vlen vcap orig : Nat} {reg : Option Nat} (h : ctrlBufOK R ow (.sharedV reg vlen vcap orig)) :
    vcap ≤ isizeMax := by
  cases reg with
  | none => have : vcap = 0 := h; omega
  | some r => obtain ⟨_, _, _, _, _, _, _, hmax, _⟩ := ctrlBufOK_some hR h; exact hmax

/-- `Vec::reserve` beyond the capacity of the vector `(reg, len, cap)`: capacity overflow, or the first
`len` bytes move into the fresh region `R.length` and the old buffer is freed -/
theorem vecReserve_grow_spec (e : Env) {R : List Region}
    (hR : ∀ (r : Nat) (rg : Region), R[r]? = some rg → regionOKB rg = true)
    {reg : Option Nat} {len cap add ow vlen orig : Nat}
    (hbuf : ctrlBufOK R ow (.sharedV reg vlen cap orig)) (hlen : len ≤ cap) (hna : ¬ add ≤ cap - len) :
    (∀ s, vecReserve e reg len cap add s = .panic s) ∨
    ∃ (N : Nat) (new : Region),
      (∀ s, s.regions = R → ∃ ev, vecReserve e reg len cap add s = .ok (some R.length, N)
        ⟨freeBuf R (.sharedV reg vlen cap orig) ++ [new], s.ctrls, s.hs, s.owners, ev⟩) ∧
      regionOKB new = true ∧ new.live = true ∧ new.kind = .heap (e.odd R.length) ∧ new.size = N ∧
      len + add ≤ N ∧
      ∀ o l v, o + l ≤ len → rdL R reg o l = some v →
        rdL (freeBuf R (.sharedV reg vlen cap orig) ++ [new]) (some R.length) o l = some v := by
  by_cases hg : vecGrowCap cap (len + add) > isizeMax
  · exact .inl fun s => vecReserve_panic_grow e hna hg s
  right
  have hg' : vecGrowCap cap (len + add) ≤ isizeMax := Nat.le_of_not_gt hg
  have hle := le_vecGrowCap cap (len + add)
  cases reg with
  | none =>
    have hc0 : cap = 0 := hbuf
    subst hc0
    have hl0 : len = 0 := Nat.le_zero.mp hlen
    subst hl0
    refine ⟨vecGrowCap 0 (0 + add),
      ⟨vecGrowCap 0 (0 + add), List.replicate (vecGrowCap 0 (0 + add)) none, true, .heap (e.odd R.length)⟩,
      ?_, ?_, rfl, rfl, rfl, hle, ?_⟩
    · intro s hs; subst hs; exact ⟨_, vecReserve_grow_none e hna hg' s⟩
    · exact vecReserve_region_ok (cap := 0) (needed := 0 + add) [] (e.odd R.length) hg' (Nat.zero_le _)
    · intro o l v hol hv
      have hl : l = 0 := Nat.eq_zero_of_add_eq_zero_left (Nat.le_zero.mp hol)
      subst hl; rwa [rdL_zero] at hv ⊢
  | some r =>
    obtain ⟨rg, k, hr, hlive, hkind, hsz, hdl, _, h0⟩ := ctrlBufOK_some hR hbuf
    have hfb : freeBuf R (.sharedV (some r) vlen cap orig) = R.set r rg.kill := by simp only [freeBuf, hr]
    have holdl : (rg.data.take len).length = len := by
      rw [List.length_take, hdl]; exact Nat.min_eq_left hlen
    rw [hfb]
    refine ⟨vecGrowCap cap (len + add),
      ⟨vecGrowCap cap (len + add),
        rg.data.take len ++ List.replicate (vecGrowCap cap (len + add) - (rg.data.take len).length) none,
        true, .heap (e.odd R.length)⟩,
      ?_, ?_, rfl, rfl, rfl, hle, ?_⟩
    · intro s hs; subst hs
      exact ⟨_, by rw [vecReserve_grow_some e hna hg' hr hlive hsz hkind h0,
        List.set_append_left _ _ (lookup_lt hr)]⟩
    · exact vecReserve_region_ok _ _ hg' (by rw [holdl]; exact Nat.le_trans (Nat.le_add_right _ _) hle)
    · intro o l v hol hv
      have hlk : ∀ new : Region, (R.set r rg.kill ++ [new])[R.length]? = some new := fun new => by
        have := List.getElem?_concat_length (l := R.set r rg.kill) (a := new); rwa [List.length_set] at this
      exact rdL_prefix_copy (n := len) hv hr (hlk _) rfl rfl hol
        (Nat.le_trans hol (Nat.le_trans (Nat.le_add_right _ _) hle)) (hdl ▸ hlen)

end BytesVerif.Core
