/-
Exact execution equations (including the event list) of `bytesIsUnique`, the unique branches of
`bytesIntoMut`, and the non-allocating branches of `mutReserveInner`.
-/
import BytesVerif.Lemmas.Core.Sound
namespace BytesVerif.Core
namespace PropC08

/-- what `is_unique` must answer, by representation -/
def uniqueB (s : St) : BRepr → Bool
  | .static | .owned _ => false
  | .prom _ none => true
  | .prom _ (some c) | .shared c | .sharedV c => refCount s c == 1

theorem bytesIsUnique_eq {s : St} (hI : Inv s) {i : Nat} {repr : BRepr} {reg : Option Nat} {off len : Nat}
    (hi : s.hs[i]? = some (some (.bytes repr reg off len))) :
    bytesIsUnique (.bytes repr reg off len) s = .ok (uniqueB s repr) s := by
  have share : ∀ c, ctrlOf (.bytes repr reg off len) = some c →
      ctrlIsUnique c s = .ok (refCount s c == 1) s := by
    intro c hc
    obtain ⟨e0, he, hl, hrc, _⟩ := hI.ctrl_of_handle hi hc
    rw [ctrlIsUnique_eq he hl, hrc, refCount_eq]
  cases repr with
  | «static» | owned c => rfl
  | shared c | sharedV c => exact share c rfl
  | prom vt oc =>
    cases oc with
    | none => rfl
    | some c => exact share c rfl

def NoAlloc (evs : List Ev) : Prop := ∀ ev ∈ evs, ∀ r n, ev ≠ Ev.alloc r n

theorem NoAlloc_nil : NoAlloc [] := by intro ev h; cases h

theorem NoAlloc_cons {ev : Ev} {evs : List Ev} (hev : ∀ r n, ev ≠ Ev.alloc r n) (h : NoAlloc evs) :
    NoAlloc (ev :: evs) := by
  intro ev' hm
  rcases List.mem_cons.mp hm with rfl | hm
  · exact hev
  · exact h ev' hm

theorem NoAlloc_append {evs evs' : List Ev} (h : NoAlloc evs) (h' : NoAlloc evs') : NoAlloc (evs ++ evs') :=
  fun ev hm => (List.mem_append.mp hm).elim (h ev) (h' ev)

/-- the events appended between two states, cut out by `take` as `NoCopy` and `newAllocs` do -/
theorem NoAlloc_take {s s' : St} {evs : List Ev} (h : s'.events = evs ++ s.events) (hno : NoAlloc evs) :
    NoAlloc (s'.events.take (s'.events.length - s.events.length)) := by
  rw [h, List.length_append, Nat.add_sub_cancel, List.take_left']
  · exact hno
  · rfl

/-- `advance_unchecked(k)` on a handle just made by `from_vec` keeps the buffer; at most a control
block is allocated (when the position does not fit the position bits) -/
theorem mutAdvance_noAlloc (cfg : Cfg) {reg : Option Nat} {len cap orig k : Nat} (hk : k ≤ cap) (s : St) :
    ∃ arc s1 evs, mutAdvanceUnchecked cfg (.mut none reg 0 len cap orig) k s =
        .ok (.mut arc reg k (len - k) (cap - k) orig) s1 ∧
      s1.hs = s.hs ∧ s1.events = evs ++ s.events ∧ NoAlloc evs := by
  rcases OpsC.mutAdvance_from_zero cfg (reg := reg) (len := len) (orig := orig) hk s with ⟨_, h⟩ | ⟨_, h⟩
  · exact ⟨none, s, [], h, rfl, rfl, NoAlloc_nil⟩
  · exact ⟨some _, _, [.allocCtrl s.ctrls.length], h, rfl, rfl, NoAlloc_cons nofun NoAlloc_nil⟩

theorem sharedToMut_unique {s : St} (hI : Inv s) (cfg : Cfg) (e : Env)
    {reg : Option Nat} {off len c r cap : Nat}
    (hlive : liveCtrlL s.ctrls c = some (.sharedB r cap)) (hreg' : reg = some r) (hb : off + len ≤ cap)
    (hu : refCount s c = 1) :
    ∃ m s1 evs, OpsC.sharedToMut cfg e c reg off len s = .ok m s1 ∧
      (∃ arc cap' orig, m = .mut arc reg off len cap' orig) ∧ s1.hs = s.hs ∧
      s1.events = evs ++ s.events ∧ NoAlloc evs := by
  subst hreg'
  obtain ⟨e0, he, hl, hct, hrc, _, hbuf⟩ := hI.cok' hlive
  have h1 : e0.rc = 1 := by rw [hrc, ← refCount_eq]; exact hu
  obtain ⟨arc, s1, evs, hadv, hhs, hev, hno⟩ := mutAdvance_noAlloc cfg (reg := some r) (len := len + off)
    (orig := originalCapacityToRepr cap) (k := off) (by omega : off ≤ cap)
    { s with ctrls := s.ctrls.set c ⟨.sharedB r cap, 0, false⟩, events := .deallocCtrl c :: s.events }
  refine ⟨.mut arc (some r) off (len + off - off) (cap - off) (originalCapacityToRepr cap), s1,
    evs ++ [.deallocCtrl c], ?_, ⟨arc, _, _, by rw [Nat.add_sub_cancel]⟩, hhs,
    by rw [hev, List.append_assoc]; rfl, NoAlloc_append hno (NoAlloc_cons nofun NoAlloc_nil)⟩
  simp only [OpsC.sharedToMut, bind_apply, ctrlIsUnique_eq he hl, h1, beq_self_eq_true, if_true,
    OpsC.takeSharedB_eq he hl hct, mutFromVec, hadv]

/-- a unique `Bytes` becomes a `BytesMut` on the same memory; only control blocks are (de)allocated -/
theorem bytesIntoMut_unique {s : St} (hI : Inv s) (cfg : Cfg) (e : Env) {i : Nat} {repr : BRepr}
    {reg : Option Nat} {off len : Nat} (hi : s.hs[i]? = some (some (.bytes repr reg off len)))
    (hu : uniqueB s repr = true) :
    ∃ m s1 evs, bytesIntoMut cfg e (.bytes repr reg off len) s = .ok m s1 ∧
      (∃ arc cap' orig, m = .mut arc reg off len cap' orig) ∧ s1.hs = s.hs ∧
      s1.events = evs ++ s.events ∧ NoAlloc evs := by
  have hok := hI.hok i _ hi
  cases repr with
  | «static» | owned => cases hu
  | prom vt oc =>
    cases oc with
    | none =>
      obtain ⟨⟨r, hreg', hlive, hsz, hvt⟩, _⟩ := handleOKL_promV.mp hok
      subst hreg'
      obtain ⟨arc, s1, evs, hadv, hhs, hev, hno⟩ := mutAdvance_noAlloc cfg (reg := some r) (len := off + len)
        (orig := originalCapacityToRepr (off + len)) (k := off) (Nat.le_add_right off len) s
      refine ⟨.mut arc (some r) off (off + len - off) (off + len - off) (originalCapacityToRepr (off + len)), s1,
        evs, ?_, ⟨arc, _, _, by rw [Nat.add_sub_cancel_left]⟩, hhs, hev, hno⟩
      simp only [bytesIntoMut, bind_apply, promDecode_eq hlive hvt, mutFromVec, hadv]
    | some c =>
      obtain ⟨⟨r, cap, h1, h2, h3⟩, _⟩ := handleOKL_promA.mp hok
      exact sharedToMut_unique hI cfg e h1 h2 h3 (beq_iff_eq.mp hu)
  | shared c =>
    obtain ⟨⟨r, cap, h1, h2, h3⟩, _⟩ := handleOKL_shared.mp hok
    exact sharedToMut_unique hI cfg e h1 h2 h3 (beq_iff_eq.mp hu)
  | sharedV c =>
    obtain ⟨⟨vlen, vcap, vorig, h1, h3⟩, hrd⟩ := handleOKL_sharedV.mp hok
    obtain ⟨e0, he, hl, hct, hrc, _⟩ := hI.cok' h1
    obtain ⟨ct, rc, lv⟩ := e0
    simp only at hl hct hrc; subst hl hct
    have hrc1 : rc = 1 := by rw [hrc, ← refCount_eq]; exact beq_iff_eq.mp hu
    subst hrc1
    exact ⟨.mut (some c) reg off len (vcap - off) vorig, s, [],
      by simp only [bytesIntoMut, bind_apply, ctrlIsUnique_eq he rfl, beq_self_eq_true, if_true,
        getCtrl_eq he rfl, pure_apply],
      ⟨_, _, _, rfl⟩, rfl, rfl, NoAlloc_nil⟩

theorem mut_cap_le {s : St} (hI : Inv s) {i : Nat} {arc reg : Option Nat} {off len cap orig : Nat}
    (hi : s.hs[i]? = some (some (.mut arc reg off len cap orig))) : len ≤ cap ∧ cap ≤ isizeMax := by
  have hok := hI.hok i _ hi
  refine ⟨mut_len_le_cap hok, ?_⟩
  cases arc with
  | none =>
    obtain ⟨_, _, h, _⟩ := handleOKL_mutV.mp hok
    have hb : ctrlBufOK s.regions s.owners (.sharedV reg 0 (off + cap) 0) := by
      cases reg with
      | none => exact h
      | some r => exact ⟨h.1, h.2.symm⟩
    exact Nat.le_trans (Nat.le_add_left _ _) (ctrlBufOK_cap_le hI.regs hb)
  | some c =>
    obtain ⟨_, ⟨vlen, vcap, vorig, h1, h2⟩, _⟩ := handleOKL_mutA.mp hok
    obtain ⟨_, _, _, _, _, _, hb⟩ := hI.cok' h1
    exact Nat.le_trans (Nat.le_trans (Nat.le_add_left _ _) h2) (ctrlBufOK_cap_le hI.regs hb)

/-- `self.cap += off` of `reserve_inner` does not wrap: the vec position fits the position bits -/
theorem cap_add_off_lt_W {off cap : Nat} (hoff : off ≤ W / 32 - 1) (hcap : cap ≤ isizeMax) : cap + off < W := by
  rw [W_eq] at hoff ⊢
  rw [isizeMax_eq] at hcap
  omega

/-- `ptr::copy(ptr, base, len)` inside the handle's own live heap region: only the region changes -/
theorem copyFront_exec {s : St} (hI : Inv s) {reg : Option Nat} {off len : Nat}
    (hrd : (rdL s.regions reg off len).isSome = true)
    (hheap : ∀ r, reg = some r → isHeapLiveL s.regions r = true ∧ len ≤ regionSizeL s.regions r) :
    ∃ R1, copyWithin reg off 0 len s = .ok () ⟨R1, s.ctrls, s.hs, s.owners, s.events⟩ := by
  obtain ⟨v, hv⟩ := Option.isSome_iff_exists.mp hrd
  cases reg with
  | none =>
    obtain rfl : len = 0 := Classical.byContradiction fun hl0 => by
      rw [rdL_none, if_neg hl0] at hv; cases hv
    exact ⟨s.regions, copyWithin_zero _ _ _ _⟩
  | some r =>
    obtain ⟨R1, hcw, _, _⟩ := copyWithin_front hI.regs (hheap r rfl).1 hv
    exact ⟨R1, hcw s rfl⟩

/-- `reserve_inner(n, allocate = false)`: either gives up without any effect, or succeeds in place
(same region, same control blocks, no event) -/
theorem mri_false {s : St} (hI : Inv s) (cfg : Cfg) (e : Env) {i : Nat} {arc reg : Option Nat}
    {off len cap orig : Nat} (hi : s.hs[i]? = some (some (.mut arc reg off len cap orig))) (n : Nat) :
    mutReserveInner cfg e (.mut arc reg off len cap orig) n false s =
        .ok (.mut arc reg off len cap orig, false) s ∨
    ∃ R1 off' cap', mutReserveInner cfg e (.mut arc reg off len cap orig) n false s =
        .ok (.mut arc reg off' len cap' orig, true) ⟨R1, s.ctrls, s.hs, s.owners, s.events⟩ ∧
        n ≤ cap' - len := by
  have hok := hI.hok i _ hi
  obtain ⟨hlc, hcapmax⟩ := mut_cap_le hI hi
  cases arc with
  | none =>
    obtain ⟨_, hoffb, hregc, hrd⟩ := handleOKL_mutV.mp hok
    rw [mutReserveInner]
    by_cases hfront : cap - len + off ≥ n ∧ off ≥ len
    · right
      have hW := cap_add_off_lt_W hoffb hcapmax
      obtain ⟨R1, hcw⟩ := copyFront_exec hI (reg := reg) (off := off) (len := len) hrd (by
        intro r hr; subst hr; simp only at hregc; exact ⟨hregc.1, by omega⟩)
      refine ⟨R1, 0, cap + off, ?_, by omega⟩
      rw [if_pos hfront]
      simp only [bind_apply, hcw, uadd_eq cfg hW, pure_apply]
    · left
      rw [if_neg hfront]
      rfl
  | some c =>
    obtain ⟨_, ⟨vlen, vcap, vorig, hlivec, hcap⟩, hrd⟩ := handleOKL_mutA.mp hok
    obtain ⟨ce, he, hl, hct, hrc, hrc1, hbuf⟩ := hI.cok' hlivec
    obtain ⟨ct, rc, live⟩ := ce
    simp only at hl hct hrc hrc1
    subst hl hct
    have hget : getCtrl c s = .ok ⟨.sharedV reg vlen vcap vorig, rc, true⟩ s := getCtrl_eq he rfl
    rw [mutReserveInner]
    by_cases hW : len + n ≥ W
    · left
      rw [if_pos hW]
      rfl
    rw [if_neg hW, bind_apply, hget]
    dsimp only
    by_cases hu : rc = 1
    · rw [if_pos hu]
      by_cases hin : vcap ≥ min (len + n + off) (W - 1)
      · right
        rw [if_pos hin]
        exact ⟨s.regions, off, len + n, rfl, by omega⟩
      · rw [if_neg hin]
        by_cases hfr : vcap ≥ len + n ∧ off ≥ len
        · right
          obtain ⟨R1, hcw⟩ := copyFront_exec hI (reg := reg) (off := off) (len := len) hrd (by
            intro r hr; subst hr; simp only [ctrlBufOK] at hbuf; exact ⟨hbuf.1, by omega⟩)
          rw [if_pos hfr, bind_apply, hcw]
          exact ⟨R1, 0, vcap, rfl, by omega⟩
        · left
          rw [if_neg hfr]
          rfl
    · left
      rw [if_neg hu]
      rfl

/-- an empty `BytesMut` that is alone on its allocation gets any capacity up to the allocation size
in place, whatever `allocate` says; nothing at all changes in the state -/
theorem mri_whole {s : St} (hI : Inv s) (cfg : Cfg) (e : Env) {i : Nat} {arc : Option Nat}
    {r off cap orig : Nat} (hi : s.hs[i]? = some (some (.mut arc (some r) off 0 cap orig)))
    (hsole : ∀ c, arc = some c → refCount s c = 1) {n : Nat} (hn : n ≤ regionSize s r)
    (allocate : Bool) :
    ∃ h', mutReserveInner cfg e (.mut arc (some r) off 0 cap orig) n allocate s = .ok (h', true) s := by
  have hok := hI.hok i _ hi
  obtain ⟨hlc, hcapmax⟩ := mut_cap_le hI hi
  rw [regionSize_eq] at hn
  cases arc with
  | none =>
    obtain ⟨_, hoffb, hregc, hrd⟩ := handleOKL_mutV.mp hok
    simp only at hregc
    have hfront : cap - 0 + off ≥ n ∧ off ≥ 0 := ⟨by omega, Nat.zero_le _⟩
    have hW := cap_add_off_lt_W hoffb hcapmax
    refine ⟨.mut none (some r) 0 0 (cap + off) orig, ?_⟩
    rw [mutReserveInner, if_pos hfront]
    simp only [bind_apply, copyWithin_zero, uadd_eq cfg hW, pure_apply]
  | some c =>
    obtain ⟨_, ⟨vlen, vcap, vorig, hlivec, hcap⟩, hrd⟩ := handleOKL_mutA.mp hok
    obtain ⟨ce, he, hl, hct, hrc, hrc1, hbuf⟩ := hI.cok' hlivec
    obtain ⟨ct, rc, live⟩ := ce
    simp only at hl hct hrc hrc1
    subst hl hct
    have hu : rc = 1 := by rw [hrc, ← refCount_eq]; exact hsole c rfl
    have hget : getCtrl c s = .ok ⟨.sharedV (some r) vlen vcap vorig, rc, true⟩ s := getCtrl_eq he rfl
    have hvmax : vcap ≤ isizeMax := ctrlBufOK_cap_le hI.regs hbuf
    simp only [ctrlBufOK] at hbuf
    have hW : ¬ 0 + n ≥ W := by rw [W_eq]; rw [isizeMax_eq] at hvmax; omega
    rw [mutReserveInner, if_neg hW, bind_apply, hget]
    dsimp only
    rw [if_pos hu]
    by_cases hin : vcap ≥ min (0 + n + off) (W - 1)
    · rw [if_pos hin]
      exact ⟨_, rfl⟩
    · have hfr : vcap ≥ 0 + n ∧ off ≥ 0 := ⟨by omega, Nat.zero_le _⟩
      rw [if_neg hin, if_pos hfr, bind_apply, copyWithin_zero]
      exact ⟨_, rfl⟩

/-- a request whose size is not representable panics without touching the state -/
theorem reserve_huge {s : St} (hI : Inv s) (cfg : Cfg) (e : Env) {i : Nat} {arc reg : Option Nat}
    {off len cap orig : Nat} (hi : s.hs[i]? = some (some (.mut arc reg off len cap orig))) {n : Nat}
    (hbig : isizeMax < len + n) : step cfg e (.reserve i n) s = .panic s := by
  simp only [step, bind_apply, getHandle_eq hi]
  rcases OpsD.mutReserve_spec hI cfg e hi n with hp | ⟨h', R1, C1, heq, hG⟩
  · have h1 : mutReserve cfg e (.mut arc reg off len cap orig) n s = .panic s := hp s.hs s.events
    simp only [h1]
  · exfalso
    obtain ⟨arc', reg', off', cap', orig', rfl, hle⟩ := hG.shape
    have := mut_cap_le (hG.inv []) (i := i) (lookup_set_eq _ hi)
    omega

end PropC08
end BytesVerif.Core
