/-
The model monad is `M α := St → R α` with outcomes `ok a s' | panic s' | ub why s'`, all plain
functions, so a program is executed symbolically by `simp`: the `*_apply` lemmas push the state
argument through the combinators that do-notation produces, and an equation for the head call
(Prim.lean) collapses the resulting `match` cascade.  `R.sat`, `wp`, `Triple` state results about
outcomes: never `ub`, one postcondition for normal return and one for panics.
-/
import BytesVerif.Model.Core
namespace BytesVerif.Core

variable {α β : Type}

@[simp] theorem bind_apply (m : M α) (f : α → M β) (s : St) :
    (m >>= f) s = match m s with
      | .ok a s' => f a s'
      | .panic s' => .panic s'
      | .ub w s' => .ub w s' := rfl

@[simp] theorem Mbind_apply (m : M α) (f : α → M β) (s : St) :
    M.bind m f s = match m s with
      | .ok a s' => f a s'
      | .panic s' => .panic s'
      | .ub w s' => .ub w s' := rfl

@[simp] theorem pure_apply (a : α) (s : St) : (pure a : M α) s = .ok a s := rfl
@[simp] theorem Mpure_apply (a : α) (s : St) : (M.pure a : M α) s = .ok a s := rfl
@[simp] theorem panic_apply (s : St) : (panic : M α) s = .panic s := rfl
@[simp] theorem ub_apply (w : String) (s : St) : (ub w : M α) s = .ub w s := rfl
@[simp] theorem get_apply (s : St) : get s = .ok s s := rfl
@[simp] theorem modify_apply (f : St → St) (s : St) : modify f s = .ok () (f s) := rfl
@[simp] theorem emit_apply (e : Ev) (s : St) :
    emit e s = .ok () { s with events := e :: s.events } := rfl

@[simp] theorem map_apply (f : α → β) (m : M α) (s : St) :
    (f <$> m) s = match m s with
      | .ok a s' => .ok (f a) s'
      | .panic s' => .panic s'
      | .ub w s' => .ub w s' := rfl

@[simp] theorem ite_apply' (c : Prop) [Decidable c] (m₁ m₂ : M α) (s : St) :
    (if c then m₁ else m₂) s = if c then m₁ s else m₂ s := by
  split <;> rfl

@[simp] theorem dite_apply' (c : Prop) [Decidable c] (m₁ : c → M α) (m₂ : ¬c → M α) (s : St) :
    (dite c m₁ m₂) s = if h : c then m₁ h s else m₂ h s := by
  split <;> rfl

/-- The outcome is not `ub`; normal return satisfies `Q`, a panic leaves a state satisfying `Qp`. -/
def R.sat (r : R α) (Q : α → St → Prop) (Qp : St → Prop) : Prop :=
  match r with
  | .ok a s' => Q a s'
  | .panic s' => Qp s'
  | .ub _ _ => False

@[simp] theorem sat_ok (a : α) (s : St) (Q : α → St → Prop) (Qp : St → Prop) :
    (R.ok a s).sat Q Qp = Q a s := rfl
@[simp] theorem sat_panic (s : St) (Q : α → St → Prop) (Qp : St → Prop) :
    (R.panic s : R α).sat Q Qp = Qp s := rfl
@[simp] theorem sat_ub (w : String) (s : St) (Q : α → St → Prop) (Qp : St → Prop) :
    (R.ub w s : R α).sat Q Qp = False := rfl

theorem R.sat_mono {r : R α} {Q Q' : α → St → Prop} {Qp Qp' : St → Prop}
    (h : r.sat Q Qp) (hQ : ∀ a s, Q a s → Q' a s) (hp : ∀ s, Qp s → Qp' s) : r.sat Q' Qp' := by
  cases r with
  | ok a s => exact hQ _ _ h
  | panic s => exact hp _ h
  | ub w s => exact h

theorem R.sat_cases {r : R α} {Q : α → St → Prop} {Qp : St → Prop} (h : r.sat Q Qp) :
    (∃ a s', r = .ok a s' ∧ Q a s') ∨ (∃ s', r = .panic s' ∧ Qp s') := by
  cases r with
  | ok a s => exact .inl ⟨a, s, rfl, h⟩
  | panic s => exact .inr ⟨s, rfl, h⟩
  | ub w s => exact h.elim

/-- weakest precondition of `m` for normal post `Q` and panic post `Qp` -/
def wp (m : M α) (Q : α → St → Prop) (Qp : St → Prop) (s : St) : Prop := (m s).sat Q Qp

theorem wp_def (m : M α) (Q : α → St → Prop) (Qp : St → Prop) (s : St) :
    wp m Q Qp s = (m s).sat Q Qp := rfl

theorem wp_bind (m : M α) (f : α → M β) (Q : β → St → Prop) (Qp : St → Prop) (s : St) :
    wp (m >>= f) Q Qp s ↔ wp m (fun a s' => wp (f a) Q Qp s') Qp s := by
  simp only [wp, bind_apply]
  cases m s <;> simp [R.sat]

theorem sat_bind (m : M α) (f : α → M β) (Q : β → St → Prop) (Qp : St → Prop) (s : St) :
    ((m >>= f) s).sat Q Qp ↔ (m s).sat (fun a s' => (f a s').sat Q Qp) Qp :=
  wp_bind m f Q Qp s

theorem ok_of_bind {m : M α} {f : α → M β} {s s' : St} {b : β} (h : (m >>= f) s = .ok b s') :
    ∃ a s1, m s = .ok a s1 ∧ f a s1 = .ok b s' := by
  rw [bind_apply] at h
  cases hm : m s with
  | ok a s1 => rw [hm] at h; exact ⟨a, s1, rfl, h⟩
  | panic s1 => rw [hm] at h; cases h
  | ub w s1 => rw [hm] at h; cases h

theorem bind_of_ok {m : M α} {f : α → M β} {s s1 : St} {a : α} (h : m s = .ok a s1) :
    (m >>= f) s = f a s1 := by
  rw [bind_apply, h]

/-! two runs from the same state, compared step by step -/

theorem bind_congr_at {m m' : M α} {k k' : α → M β} {s : St}
    (hm : m s = m' s) (h : ∀ a s', m s = .ok a s' → k a s' = k' a s') :
    (m >>= k) s = (m' >>= k') s := by
  simp only [bind_apply, ← hm]
  cases hm' : m s with
  | ok a s' => exact h a s' hm'
  | _ => rfl

theorem bind_congr_head {m m' : M α} {k : α → M β} {s : St} (hm : m s = m' s) :
    (m >>= k) s = (m' >>= k) s :=
  bind_congr_at hm fun _ _ _ => rfl

theorem ite_congr_at {c : Prop} [Decidable c] {m₁ m₂ m₁' m₂' : M α} {s : St}
    (h₁ : c → m₁ s = m₁' s) (h₂ : ¬c → m₂ s = m₂' s) :
    (if c then m₁ else m₂) s = (if c then m₁' else m₂') s := by
  split
  · next h => exact h₁ h
  · next h => exact h₂ h

@[simp] theorem wp_pure (a : α) (Q : α → St → Prop) (Qp : St → Prop) (s : St) :
    wp (pure a) Q Qp s = Q a s := rfl
@[simp] theorem wp_panic (Q : α → St → Prop) (Qp : St → Prop) (s : St) :
    wp (panic : M α) Q Qp s = Qp s := rfl
@[simp] theorem wp_ub (w : String) (Q : α → St → Prop) (Qp : St → Prop) (s : St) :
    wp (ub w : M α) Q Qp s = False := rfl
@[simp] theorem wp_get (Q : St → St → Prop) (Qp : St → Prop) (s : St) :
    wp get Q Qp s = Q s s := rfl
@[simp] theorem wp_modify (f : St → St) (Q : Unit → St → Prop) (Qp : St → Prop) (s : St) :
    wp (modify f) Q Qp s = Q () (f s) := rfl
@[simp] theorem wp_emit (e : Ev) (Q : Unit → St → Prop) (Qp : St → Prop) (s : St) :
    wp (emit e) Q Qp s = Q () { s with events := e :: s.events } := rfl

theorem wp_ite (c : Prop) [Decidable c] (m₁ m₂ : M α) (Q : α → St → Prop) (Qp : St → Prop) (s : St) :
    wp (if c then m₁ else m₂) Q Qp s ↔ (c → wp m₁ Q Qp s) ∧ (¬c → wp m₂ Q Qp s) := by
  by_cases h : c <;> simp [h]

theorem sat_ite {α : Type} {c : Prop} [Decidable c] {m₁ m₂ : M α} {Q : α → St → Prop} {Qp : St → Prop}
    {s : St} (h₁ : c → (m₁ s).sat Q Qp) (h₂ : ¬c → (m₂ s).sat Q Qp) :
    ((if c then m₁ else m₂) s).sat Q Qp :=
  (wp_ite c m₁ m₂ Q Qp s).mpr ⟨h₁, h₂⟩

theorem ite_ok {c : Prop} [Decidable c] {m₁ m₂ : M α} {s : St} {r : R α}
    (h : (if c then m₁ else m₂) s = r) : (c ∧ m₁ s = r) ∨ (¬ c ∧ m₂ s = r) := by
  by_cases hc : c
  · rw [if_pos hc] at h; exact .inl ⟨hc, h⟩
  · rw [if_neg hc] at h; exact .inr ⟨hc, h⟩

theorem sat_then_unit {m : M Unit} {s0 : St} {P : St → Prop} {Qp : St → Prop}
    (h : ∃ s', m s0 = .ok () s' ∧ P s') :
    ((m >>= fun _ => pure Val.unit) s0).sat (fun _ s' => P s') Qp := by
  obtain ⟨s', heq, hp⟩ := h
  rw [bind_apply, heq]; exact hp

theorem wp_mono {m : M α} {Q Q' : α → St → Prop} {Qp Qp' : St → Prop} {s : St}
    (h : wp m Q Qp s) (hQ : ∀ a s, Q a s → Q' a s) (hp : ∀ s, Qp s → Qp' s) : wp m Q' Qp' s :=
  R.sat_mono h hQ hp

theorem wp_of_eq_ok {m : M α} {s s' : St} {a : α} {Q : α → St → Prop} {Qp : St → Prop}
    (h : m s = .ok a s') (hq : Q a s') : wp m Q Qp s := by
  simp [wp, h, hq]

theorem wp_of_eq_panic {m : M α} {s s' : St} {Q : α → St → Prop} {Qp : St → Prop}
    (h : m s = .panic s') (hq : Qp s') : wp m Q Qp s := by
  simp [wp, h, hq]

/-- Hoare triple with a separate postcondition for panics; `ub` is excluded. -/
def Triple (P : St → Prop) (m : M α) (Q : α → St → Prop) (Qp : St → Prop) : Prop :=
  ∀ s, P s → wp m Q Qp s

theorem Triple.of_wp {P : St → Prop} {m : M α} {Q : α → St → Prop} {Qp : St → Prop}
    (h : ∀ s, P s → wp m Q Qp s) : Triple P m Q Qp := h

theorem Triple.apply {P : St → Prop} {m : M α} {Q : α → St → Prop} {Qp : St → Prop}
    (h : Triple P m Q Qp) {s : St} (hs : P s) : (m s).sat Q Qp := h s hs

theorem Triple.pure {P : St → Prop} {a : α} {Q : α → St → Prop} {Qp : St → Prop}
    (h : ∀ s, P s → Q a s) : Triple P (pure a : M α) Q Qp := fun s hs => h s hs

theorem Triple.bind {P : St → Prop} {m : M α} {f : α → M β} {Q : α → St → Prop}
    {Q' : β → St → Prop} {Qp : St → Prop}
    (hm : Triple P m Q Qp) (hf : ∀ a, Triple (Q a) (f a) Q' Qp) : Triple P (m >>= f) Q' Qp := by
  intro s hs
  rw [wp_bind]
  exact wp_mono (hm s hs) (fun a s' h => hf a s' h) (fun _ h => h)

theorem Triple.conseq {P P' : St → Prop} {m : M α} {Q Q' : α → St → Prop} {Qp Qp' : St → Prop}
    (h : Triple P m Q Qp) (hP : ∀ s, P' s → P s) (hQ : ∀ a s, Q a s → Q' a s)
    (hp : ∀ s, Qp s → Qp' s) : Triple P' m Q' Qp' :=
  fun s hs => wp_mono (h s (hP s hs)) hQ hp

theorem Triple.ite {P : St → Prop} {c : Prop} [Decidable c] {m₁ m₂ : M α} {Q : α → St → Prop}
    {Qp : St → Prop} (h₁ : Triple (fun s => P s ∧ c) m₁ Q Qp)
    (h₂ : Triple (fun s => P s ∧ ¬c) m₂ Q Qp) : Triple P (if c then m₁ else m₂) Q Qp := by
  intro s hs
  rw [wp_ite]
  exact ⟨fun hc => h₁ s ⟨hs, hc⟩, fun hc => h₂ s ⟨hs, hc⟩⟩

theorem uadd_eq (c : Cfg) {a b : Nat} (h : a + b < W) (s : St) : uadd c a b s = .ok (a + b) s := by
  simp [uadd, h]

theorem usub_eq (c : Cfg) {a b : Nat} (h : b ≤ a) (s : St) : usub c a b s = .ok (a - b) s := by
  simp [usub, h]

theorem dassert_eq (c : Cfg) {cond : Bool} (h : cond = true) (s : St) : dassert c cond s = .ok () s := by
  simp [dassert, h]

theorem dassert_cases (c : Cfg) (cond : Bool) (s : St) :
    dassert c cond s = .ok () s ∨ dassert c cond s = .panic s := by
  unfold dassert; split <;> simp

end BytesVerif.Core
