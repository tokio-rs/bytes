/-
M1-R — the recycling-buffer view of `BytesMut` (C18): one main handle on one allocation, a number of
split-off parts still alive on it, and the allocation decisions of `reserve_inner`
(src/bytes_mut.rs), transliterated at the level of (allocation size, front offset, len, cap).
Tied to the implementation by the T2 `recycle` stream (lock-step comparison of len, capacity,
allocation size and allocation count after every operation of every round).
-/
namespace BytesVerif.Recycle

/-- bytes_mut.rs `original_capacity_to_repr` / `_from_repr`: `cap / 1024` is `cap >> MIN_ORIGINAL_CAPACITY_WIDTH`
(= 10), `7` is `MAX_ORIGINAL_CAPACITY_WIDTH - MIN_ORIGINAL_CAPACITY_WIDTH` (17 - 10), `repr + 9` is
`repr + (MIN_ORIGINAL_CAPACITY_WIDTH - 1)` -/
def bitWidth (n : Nat) : Nat := if n = 0 then 0 else Nat.log2 n + 1
def origRepr (cap : Nat) : Nat := min (bitWidth (cap / 1024)) 7
def origCap (repr : Nat) : Nat := if repr = 0 then 0 else 2 ^ (repr + 9)

/-- `Vec::reserve` growth for `u8` -/
def growCap (cap needed : Nat) : Nat := max (max (cap * 2) needed) 8

structure Rec where
  A : Nat            -- size of the allocation the main handle lives in (0: none)
  off : Nat          -- front offset of the main handle inside it
  len : Nat
  cap : Nat
  arc : Bool         -- KIND_ARC (has a control block) vs KIND_VEC
  orig : Nat         -- original_capacity_repr recorded for this buffer
  parts : Nat        -- split-off parts (or frozen clones) still alive on this allocation
  pinned : List Nat  -- sizes of older allocations kept alive only by parts (newest first)
  allocs : Nat       -- byte-buffer allocations performed so far
  deriving Repr, DecidableEq, Inhabited

/-- `BytesMut::with_capacity(c)` -/
def init (c : Nat) : Rec :=
  { A := c, off := 0, len := 0, cap := c, arc := false, orig := origRepr c, parts := 0, pinned := [], allocs := if c = 0 then 0 else 1 }

inductive Op
  | reserve (k : Nat)
  | append (m : Nat)          -- extend_from_slice of m bytes (reserves first)
  | splitTo (n : Nat)         -- split_to(n): the part stays alive
  | split                     -- split(): all of the contents
  | advance (n : Nat)
  | truncate (n : Nat)
  | dropPart                  -- drop one outstanding part of the current allocation
  | dropPinned                -- drop the last part of the oldest pinned allocation
  | dropOld                   -- drop a part of a pinned allocation that still has other parts
  | splitOffTail              -- split_off(len): the spare capacity becomes a part
  | unsplitLast (n cap : Nat) -- unsplit(part): a part (len n, capacity cap) of this allocation that starts at the end of the contents
  | roundTrip                 -- freeze() the main handle and convert back (try_into_mut / Into<BytesMut>)
  deriving Repr, DecidableEq, Inhabited

/-- promote a KIND_VEC handle (first split) -/
def promote (r : Rec) : Rec := if r.arc then r else { r with arc := true }

/-- `reserve(k)` → `reserve_inner(k, true)` -/
def reserve (r : Rec) (k : Nat) : Rec :=
  if k ≤ r.cap - r.len then r
  else if !r.arc then
    -- KIND_VEC
    if r.cap - r.len + r.off ≥ k ∧ r.off ≥ r.len then { r with off := 0, cap := r.cap + r.off }
    else
      let vcap := growCap (r.off + r.cap) (r.off + r.len + k)
      { r with A := vcap, cap := vcap - r.off, allocs := r.allocs + 1 }
  else if r.parts = 0 then
    -- unique shared buffer
    let newCap := r.len + k
    if r.A ≥ newCap + r.off then { r with cap := newCap }
    else if r.A ≥ newCap ∧ r.off ≥ r.len then { r with off := 0, cap := r.A }
    else
      let want := newCap + r.off
      let target := max (r.A * 2) want
      let vcap := growCap r.A target
      { r with A := vcap, cap := vcap - r.off, allocs := r.allocs + 1 }
  else
    -- shared with live parts: fresh vector, the old allocation stays pinned by the parts
    let target := max (r.len + k) (origCap r.orig)
    { r with A := target, off := 0, cap := target, arc := false, parts := 0,
             pinned := r.A :: r.pinned, allocs := if target = 0 then r.allocs else r.allocs + 1 }

/- Panics are not modelled: `split_to` / `advance` beyond `len` (the crate asserts) leave the record as it
is, and `dropPart` saturates at 0; `OpOKM` (Props/C18.lean) excludes these calls.
`dropPinned` always removes the oldest entry and `dropOld` is the identity: the bounds only use the sizes
in `pinned` and their number; the order matters to `RecViewP` (Props/C18RefineOps.lean) alone. -/
def step (r : Rec) : Op → Rec
  | .reserve k => reserve r k
  | .append m => let r' := reserve r m; { r' with len := r'.len + m }
  | .splitTo n =>
    if n > r.len then r
    else
      let r' := promote r
      { r' with off := r'.off + n, len := r'.len - n, cap := r'.cap - n, parts := r'.parts + 1 }
  | .split =>
    let r' := promote r
    { r' with off := r'.off + r'.len, len := 0, cap := r'.cap - r'.len, parts := r'.parts + 1 }
  | .advance n => if n > r.len then r else { r with off := r.off + n, len := r.len - n, cap := r.cap - n }
  | .truncate n => if n ≤ r.len then { r with len := n } else r
  | .dropPart => { r with parts := r.parts - 1 }
  | .dropPinned => { r with pinned := r.pinned.dropLast }
  | .dropOld => r
  | .splitOffTail =>
    let r' := promote r
    { r' with cap := r'.len, parts := r'.parts + 1 }
  | .unsplitLast n c =>
    -- `BytesMut::unsplit(other)` for a part `other` (len `n`, capacity `c`) of this allocation that
    -- starts where the contents of the main handle end (at `off + len`)
    if r.len = 0 then
      -- `if self.is_empty() { *self = other }`: the main handle takes over the part's view (which
      -- starts at `off + len = off`); its own reference is released
      { r with len := n, cap := c, parts := r.parts - 1 }
    else if c = 0 then
      -- `try_unsplit`: `other.capacity() == 0` ⇒ `Ok(())`, the part is dropped
      { r with parts := r.parts - 1 }
    else if r.len = r.cap then
      -- contiguous halves of the same shared buffer (`ptr + len == other.ptr`): merged
      { r with len := r.len + n, cap := r.cap + c, parts := r.parts - 1 }
    else
      -- not mergeable: `extend_from_slice(other.as_ref())`, then the part is dropped
      let r' := reserve r n
      { r' with len := r'.len + n, parts := r'.parts - 1 }
  | .roundTrip =>
    if r.parts ≠ 0 then
      -- not unique: `BytesMut::from(Bytes)` copies the view into a fresh exact-size vector and releases its reference
      { r with A := r.len, off := 0, cap := r.len, arc := false, orig := origRepr r.len, parts := 0,
               pinned := r.A :: r.pinned, allocs := if r.len = 0 then r.allocs else r.allocs + 1 }
    else if !r.arc then
      -- freeze of KIND_VEC: promotable when len = cap, else Shared{cap}.  Converting back rebuilds the
      -- vector over the whole allocation in both cases (`promotable_to_mut` / `shared_to_mut_impl`:
      -- `BytesMut::from_vec(Vec::from_raw_parts(buf, …, cap))` + `advance_unchecked(off)`), which
      -- restores the KIND_VEC handle and re-records `original_capacity_repr` from the full capacity
      { r with orig := origRepr r.A }
    else
      -- unique frozen BytesMut: `shared_v_to_mut` hands back everything behind the offset
      { r with cap := r.A - r.off }

/-- live heap bytes: the current allocation plus the pinned ones -/
def live (r : Rec) : Nat := r.A + r.pinned.sum

def run (r : Rec) (ops : List Op) : Rec := ops.foldl step r

end BytesVerif.Recycle
