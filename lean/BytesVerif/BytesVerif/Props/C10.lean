/-
C10 — typed reads decode the next bytes correctly however the data is chunked.
The property theorems, the width condition `widthOK` they share, and examples.  `rowOK` is the
decision procedure evaluated by the per-run certificate on the getter table regenerated from
src/buf/buf_impl.rs; `decode` is the independent specification chosen from the method *name*.
-/
import BytesVerif.Lemmas.Codec
namespace BytesVerif.Codec
open BytesVerif.Buf

/-- Width argument is in range for this method (fixed-width methods ignore `nbytes`). -/
def widthOK (s : Spec) (nbytes : Nat) : Prop :=
  match s.kind with
  | .varUint | .varInt => nbytes ≤ 8
  | _ => True

theorem widthOK_iff {s : Spec} {nbytes : Nat} :
    widthOK s nbytes ↔ (s.kind = .varUint ∨ s.kind = .varInt → nbytes ≤ 8) := by
  unfold widthOK
  cases s.kind <;> simp

/-- Enough bytes: the value of the next `size` bytes of the logical sequence, decoded by the
method's name; the cursor advances by exactly `size`; independent of chunking (the statement
mentions only `den b`), of the build profile `c`, for `get_X` and `try_get_X` alike. -/
theorem get_ok (c : Cfg) (form : SignExtForm) (r : Row) (hr : rowOK form r = true)
    (b : BufT) (hb : wf b) (hbytes : ∀ x ∈ den b, x < 256)
    (nbytes : Nat) (hw : widthOK r.spec nbytes)
    (hs : r.spec.size nbytes ≤ remaining b) :
    ∃ b', evalBody c form r.body nbytes b
        = .ok (.val (decode r.spec ((den b).take (r.spec.size nbytes))), b') ∧
      den b' = (den b).drop (r.spec.size nbytes) ∧ wf b' := by
  have hw' := widthOK_iff.1 hw
  obtain ⟨b', h1, h2, h3⟩ := get_ok_raw c form r hr b hb nbytes hw' hs
  refine ⟨b', ?_, h2, h3⟩
  rw [h1, rawVal_eq_decode r.spec nbytes _ (fun x hx => hbytes x (List.mem_of_mem_take hx)) ?_ hw']
  rw [List.length_take, ← remaining_eq b hb]
  omega

/-- Fewer bytes remaining: `get_X` panics, `try_get_X` returns `Err{requested, available}` and
leaves the cursor untouched. -/
theorem get_short (c : Cfg) (form : SignExtForm) (r : Row) (hr : rowOK form r = true)
    (b : BufT) (hb : wf b) (nbytes : Nat) (hw : widthOK r.spec nbytes)
    (hs : remaining b < r.spec.size nbytes) :
    evalBody c form r.body nbytes b =
      if r.spec.isTry then .ok (.err (r.spec.size nbytes) (remaining b), b) else .panic := by
  have _ := hb   -- not needed: the short path never looks at the contents
  replace hw := widthOK_iff.1 hw
  have hsh := rowOK_shape form r hr
  obtain ⟨name, ⟨t, kind, e⟩, body⟩ := r
  cases hsh with
  | byte s hk hbd =>
    simp only at hk hbd hs hw ⊢; subst hk hbd
    exact evalBody_byteDirect_short c form s t nbytes b hs
  | fixed k s hk hbd =>
    simp only at hk hbd hs hw ⊢; subst hk hbd
    exact evalBody_fixed_short c form k s t e nbytes b hs
  | float k hk hbd =>
    simp only at hk hbd hs hw ⊢; subst hk hbd
    rw [evalBody]
    exact evalBody_fixed_short c form k false t e nbytes b hs
  | varU hk hbd =>
    simp only at hk hbd hs hw ⊢; subst hk
    rw [hbd]
    exact evalBody_var_short c form e false t nbytes b (hw (.inl rfl)) hs
  | varI hk hf hbd =>
    simp only at hk hbd hs hw ⊢; subst hk
    rw [hbd]
    exact evalBody_signExt_short c form e false t t nbytes b (hw (.inr rfl)) hs

/-- `nbytes > 8` panics for both families. -/
theorem get_too_wide (c : Cfg) (form : SignExtForm) (r : Row) (hr : rowOK form r = true)
    (b : BufT) (nbytes : Nat) (hk : r.spec.kind = .varUint ∨ r.spec.kind = .varInt) (hn : 8 < nbytes) :
    evalBody c form r.body nbytes b = .panic := by
  have hsh := rowOK_shape form r hr
  obtain ⟨name, ⟨t, kind, e⟩, body⟩ := r
  cases hsh with
  | byte s hk' _ | fixed k s hk' _ | float k hk' _ => simp only at hk hk'; subst hk'; simp at hk
  | varU _ hbd => rw [hbd]; exact evalBody_var_wide c form _ false _ nbytes b hn
  | varI _ _ hbd => rw [hbd]; exact evalBody_signExt_wide c form _ false _ _ nbytes b hn

/-- With enough bytes, `try_get_X` returns `Ok` of exactly what `get_X` returns. -/
theorem try_eq_get (c : Cfg) (form : SignExtForm) (r₁ r₂ : Row)
    (h₁ : rowOK form r₁ = true) (h₂ : rowOK form r₂ = true)
    (hk : r₁.spec.kind = r₂.spec.kind) (he : r₁.spec.endian = r₂.spec.endian)
    (b : BufT) (hb : wf b) (nbytes : Nat) (hw : widthOK r₁.spec nbytes)
    (hs : r₁.spec.size nbytes ≤ remaining b) :
    (evalBody c form r₁.body nbytes b).map (·.1) = (evalBody c form r₂.body nbytes b).map (·.1) := by
  have hw₁ := widthOK_iff.1 hw
  have hsz : r₂.spec.size nbytes = r₁.spec.size nbytes := by simp only [Spec.size, hk]
  obtain ⟨b₁, e₁, _, _⟩ := get_ok_raw c form r₁ h₁ b hb nbytes hw₁ hs
  obtain ⟨b₂, e₂, _, _⟩ := get_ok_raw c form r₂ h₂ b hb nbytes (hk ▸ hw₁) (hsz ▸ hs)
  rw [e₁, e₂, hk, he, hsz]
  rfl

/-- The specification itself: `decode` of a signed read is the two's-complement value. -/
theorem toSigned_range (bits v : Nat) (hb : 0 < bits) (hv : v < 2 ^ bits) :
    -(2 ^ (bits - 1) : Int) ≤ toSigned bits v ∧ toSigned bits v < (2 ^ (bits - 1) : Int) ∧
      (toSigned bits v - (v : Int)) % (2 ^ bits : Int) = 0 := by
  obtain ⟨k, rfl⟩ : ∃ k, bits = k + 1 := ⟨bits - 1, by omega⟩
  have h2 : (2 : Nat) ^ (k + 1) = 2 * 2 ^ k := by rw [Nat.pow_succ, Nat.mul_comm]
  have hc : ((2 : Int) ^ k) = ((2 ^ k : Nat) : Int) := by simp
  have hc' : ((2 : Int) ^ (k + 1)) = ((2 ^ (k + 1) : Nat) : Int) := by simp
  simp only [toSigned, Nat.add_sub_cancel, Nat.succ_ne_zero, if_false]
  rw [hc, hc']
  split
  · refine ⟨by omega, by omega, ?_⟩
    simp
  · refine ⟨by omega, by omega, ?_⟩
    have : ((v : Int) - ((2 ^ (k + 1) : Nat) : Int) - (v : Int)) = -((2 ^ (k + 1) : Nat) : Int) := by omega
    rw [this]
    simp

-- The defects D1 and D2 of bytes 1.10.1, as facts about the model with the bodies found there:
-- D1: `try_get_int` read through the i64 arm does not sign-extend.
example : evalBody ⟨true⟩ .plainShift (.var .be true true) 1 (.flat .slice [255])
    = .ok (.val 255, .flat .slice []) := by decide
example : decode ⟨true, .varInt, .be⟩ [255] = -1 := by decide
-- D2: `sign_extend` with nbytes = 0 depends on the build profile.
example : evalBody ⟨true⟩ .plainShift (.signExt (.var .be false false) false) 0 (.flat .slice [1]) = .panic := by decide
example : evalBody ⟨false⟩ .plainShift (.signExt (.var .be false false) false) 0 (.flat .slice [1])
    = .ok (.val 0, .flat .slice [1]) := by decide
-- Non-vacuity of `get_ok`: an OK row, a fragmented buffer, value straddling three chunks.
example : rowOK .checkedShift ⟨"get_i32_le", ⟨false, .int 4 true, .le⟩, .fixed 4 true .le false⟩ = true := by decide
example : (evalBody ⟨true⟩ .checkedShift (.fixed 4 true .le false) 0 (.seg [[254], [255, 255], [255, 7]])).map (·.1)
    = .ok (.val (-2)) := by decide

end BytesVerif.Codec
