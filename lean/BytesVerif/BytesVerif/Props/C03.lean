/-
C03 — storage is released exactly once, after the last handle, in any drop order; nothing is leaked;
the owner of `from_owner` has `as_ref` called exactly once and is dropped exactly once, not before
the last non-empty view is gone and no later than the last handle.
`evOKB` is the ledger invariant over the event history (monotone log of allocator / owner events).
-/
import BytesVerif.Lemmas.Core.Sound
import BytesVerif.Lemmas.Core.PropC03
namespace BytesVerif.Core

def isDeallocOf (r : Nat) : Ev → Bool
  | .dealloc r' _ => r' == r
  | _ => false

def isAllocOf (r : Nat) : Ev → Bool
  | .alloc r' _ => r' == r
  | _ => false

def ownerLive (s : St) (o : Nat) : Bool :=
  s.ctrls.any fun e => e.live && e.c == .owned o

/-- ledger invariant: every heap region was allocated exactly once, with its size; it has been
deallocated exactly once (with that size) iff it is dead; non-heap memory is never allocated or
freed by the crate; every owner had `as_ref` called exactly once and has been dropped exactly once
iff its control block is gone. -/
def evOKB (s : St) : Bool :=
  ((List.range s.regions.length).all fun r =>
    match s.regions[r]? with
    | some rg =>
      (match rg.kind with
       | .heap _ =>
         (s.events.filter (isAllocOf r)) == [.alloc r rg.size] &&
         (s.events.filter (isDeallocOf r)) == (if rg.live then [] else [.dealloc r rg.size])
       | _ => (s.events.filter (isAllocOf r)).isEmpty && (s.events.filter (isDeallocOf r)).isEmpty)
    | none => true) &&
  (s.events.all fun ev => match ev with
    | .alloc r _ | .dealloc r _ => r < s.regions.length
    | .ownerAsRef o | .ownerDrop o => o < s.owners
    | _ => true) &&
  ((List.range s.owners).all fun o =>
    s.events.count (.ownerAsRef o) == 1 &&
    s.events.count (.ownerDrop o) == (if ownerLive s o then 0 else 1))

theorem isAllocOf_eq (r : Nat) : isAllocOf r = isAllocOf' r := by
  funext ev; cases ev <;> rfl

theorem isDeallocOf_eq (r : Nat) : isDeallocOf r = isDeallocOf' r := by
  funext ev; cases ev <;> rfl

theorem ownerLive_eq (s : St) (o : Nat) : ownerLive s o = ownerLive' s o := rfl

/-- the per-region clause of `evOKB` -/
theorem regLedger_iff (evs : List Ev) (r : Nat) (rg : Region) :
    (match rg.kind with
      | .heap _ =>
        (evs.filter (isAllocOf' r)) == [.alloc r rg.size] &&
        (evs.filter (isDeallocOf' r)) == (if rg.live then [] else [.dealloc r rg.size])
      | _ => (evs.filter (isAllocOf' r)).isEmpty && (evs.filter (isDeallocOf' r)).isEmpty) = true ↔
    regLedger evs r rg := by
  unfold regLedger
  cases rg.kind <;> simp only [Bool.and_eq_true, beq_iff_eq, List.isEmpty_iff]

/-- on well-formed states `evOKB` is the local ledger invariant `EvL` of Lemmas/Core/PropC03.lean -/
theorem evOKB_iff {s : St} (hw : WFx s) : evOKB s = true ↔ EvL s := by
  unfold evOKB
  simp only [Bool.and_eq_true, List.all_eq_true, List.mem_range, isAllocOf_eq, isDeallocOf_eq,
    ownerLive_eq]
  constructor
  · rintro ⟨⟨h1, h2⟩, h3⟩
    have hO : ∀ o, Ev.ownerDrop o ∈ s.events → o < s.owners := fun o hm => by simpa using h2 _ hm
    refine ⟨?_, ?_, ?_, ?_, hO, ?_, odrop_of_WFx hw hO ?_⟩
    · intro r rg hr
      have := h1 r (lookup_lt hr)
      rw [hr] at this
      exact (regLedger_iff _ r rg).mp this
    · intro r sz hm; simpa using h2 _ hm
    · intro r sz hm; simpa using h2 _ hm
    · intro o hm; simpa using h2 _ hm
    · intro o ho; have := h3 o ho; simp only [beq_iff_eq] at this; exact this.1
    · intro o ho; have := h3 o ho; simp only [beq_iff_eq] at this; exact this.2
  · intro h
    refine ⟨⟨?_, ?_⟩, ?_⟩
    · intro r hr
      cases hrg : s.regions[r]? with
      | none => rfl
      | some rg => exact (regLedger_iff _ r rg).mpr (h.reg r rg hrg)
    · intro ev hm
      cases ev with
      | alloc r sz => simpa using h.bndA r sz hm
      | dealloc r sz => simpa using h.bndD r sz hm
      | allocCtrl | deallocCtrl => rfl
      | ownerAsRef o => simpa using h.bndR o hm
      | ownerDrop o => simpa using h.bndO o hm
    · intro o ho
      simp only [beq_iff_eq]
      exact ⟨h.asref o ho, h.odrop_live ho⟩

theorem evOK_init : evOKB {} = true := by
  decide

/-- the ledger invariant is preserved by every operation (also when it panics) -/
theorem evOK_step (cfg : Cfg) (e : Env) (op : Op) (ho : OpOK op) (s : St) (h : WFx s) (hev : evOKB s = true) :
    match step cfg e op s with
    | .ok _ s' => evOKB s' = true
    | .panic s' => evOKB s' = true
    | .ub _ _ => False := by
  have hs := step_sound cfg e op s h ho
  have hp := EvPres_step cfg e op s ((evOKB_iff h).mp hev)
  unfold StepOKx at hs
  rcases R.sat_cases hs with ⟨v, s', hr, hw, _⟩ | ⟨s', hr, hw, _⟩
  · rw [hr] at hp ⊢; exact (evOKB_iff hw).mpr hp
  · rw [hr] at hp ⊢; exact (evOKB_iff hw).mpr hp

/-- nothing is leaked: once every handle is gone, no heap region and no control block is alive -/
theorem no_leak (s : St) (h : WFx s) (hno : liveHandles s = []) :
    (∀ r, isHeapLive s r = false) ∧ (∀ c, liveCtrl s c = none) :=
  ⟨no_live_heap h hno, no_live_ctrl h hno⟩

/-- storage stays alive as long as any non-empty handle can read it -/
theorem alive_while_viewed (s : St) (h : WFx s) (i : Nat) (x : Handle) (hx : s.hs[i]? = some (some x))
    (v : List Byte) (hv : viewOf s x = some v) (hne : v ≠ []) :
    ∃ r off len rg, span x = some (r, off, len) ∧ s.regions[r]? = some rg ∧ rg.live = true := by
  rw [viewOf_eq] at hv
  unfold viewOfL at hv
  rcases rdL_eq_some_iff.mp hv with ⟨_, h⟩ | ⟨_, r, rg, hreg, hr, hl, _, _⟩
  · exact (hne h).elim
  · cases x <;> cases hreg <;> exact ⟨r, _, _, rg, rfl, hr, hl⟩

/-- the owner is not dropped while a non-empty view of its memory is alive -/
theorem owner_alive_while_viewed (s : St) (h : WFx s) (hev : evOKB s = true) (i c : Nat) (reg : Option Nat) (off len : Nat)
    (hx : s.hs[i]? = some (some (.bytes (.owned c) reg off len))) (o : Nat)
    (hc : liveCtrl s c = some (.owned o)) : s.events.count (.ownerDrop o) = 0 := by
  have hP := (evOKB_iff h).mp hev
  have hlive := ownerLive'_of_liveCtrl hc
  have holt : o < s.owners := by
    rw [liveCtrl_eq] at hc
    obtain ⟨_, _, _, _, _, _, hb⟩ := h.inv.cok' hc
    exact hb
  have := hP.odrop_live holt
  rw [if_pos hlive] at this
  exact this

/-- when the last handle is gone every owner has been dropped exactly once and every heap region
freed exactly once -/
theorem all_released_once (s : St) (h : WFx s) (hev : evOKB s = true) (hno : liveHandles s = []) :
    (∀ o, o < s.owners → s.events.count (.ownerDrop o) = 1 ∧ s.events.count (.ownerAsRef o) = 1) ∧
    (∀ r rg, s.regions[r]? = some rg → (∃ odd, rg.kind = .heap odd) →
        s.events.filter (isDeallocOf r) = [.dealloc r rg.size]) := by
  have hP := (evOKB_iff h).mp hev
  constructor
  · intro o ho
    refine ⟨?_, hP.asref o ho⟩
    have hdead : ¬ ownerLive' s o = true := by
      intro hl
      unfold ownerLive' at hl
      rw [List.any_eq_true] at hl
      obtain ⟨e, he, hp⟩ := hl
      simp only [Bool.and_eq_true, beq_iff_eq] at hp
      obtain ⟨c, hc⟩ := List.mem_iff_getElem?.mp he
      have := no_live_ctrl h hno c
      rw [liveCtrl_eq, liveCtrlL_of hc hp.1] at this
      cases this
    have := hP.odrop_live ho
    rw [if_neg hdead] at this
    exact this
  · rintro r rg hr ⟨odd, hk⟩
    have hl : rg.live = false := by
      have := no_live_heap h hno r
      simp only [isHeapLive, hr, hk, Bool.and_true] at this
      exact this
    have := hP.reg r rg hr
    simp only [regLedger, hk, hl, Bool.false_eq_true, if_false] at this
    rw [isDeallocOf_eq]
    exact this.2

end BytesVerif.Core
