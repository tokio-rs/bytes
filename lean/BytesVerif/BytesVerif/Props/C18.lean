/-
C18 — recycling a BytesMut keeps memory and allocations bounded over any history.
Theorems over the recycling model (Model/Recycle.lean), by induction over operation lists of any
length.  `M` bounds leftover + message at every refill, `A₀` is the initial capacity.
(The "in particular" clause of the property — a reserve on an empty handle that is alone on a large
enough buffer never allocates — is `reserve_whole_no_alloc` / `reclaim_whole` in Props/C08.lean.)
-/
import BytesVerif.Lemmas.Recycle
namespace BytesVerif.Recycle

/-- the bound on every allocation the buffer ever lives in -/
def B (A₀ M : Nat) : Nat := max A₀ (max (4 * M) 8)

/-- an operation respects the refill bound: leftover + message ≤ M; consumption stays in range.
Only the `≤ M` conjuncts are assumptions about the caller's sizes; the others describe calls the crate
accepts (`split_to` / `advance` beyond `len` panic) and, for `unsplitLast`, a part of this allocation
behind the main handle's capacity. -/
def OpOKM (M : Nat) (r : Rec) : Op → Prop
  | .reserve k => r.len + k ≤ M
  | .append m => r.len + m ≤ M
  | .splitTo n => n ≤ r.len
  | .advance n => n ≤ r.len
  | .truncate n => n ≤ r.len
  | .dropPart => 0 < r.parts
  -- `r.arc = true`: a handle that shares its allocation with a part is KIND_ARC (needed since `unsplitLast`
  -- models `*self = other`: on a KIND_VEC record it would break `vec_exact`)
  | .unsplitLast n c => r.off + r.cap + c ≤ r.A ∧ n ≤ c ∧ r.len + n ≤ M ∧ 0 < r.parts ∧ r.arc = true
  | _ => True

def HistOK (M : Nat) : Rec → List Op → Prop
  | _, [] => True
  | r, op :: ops => OpOKM M r op ∧ HistOK M (step r op) ops

theorem rinv_init (c : Nat) : RInv (init c) := ⟨Nat.zero_le _, by simp [init], fun _ => by simp [init]⟩

theorem shift_end {off n cap : Nat} (h : n ≤ cap) : off + n + (cap - n) = off + cap := by
  rw [Nat.add_assoc, Nat.add_sub_cancel' h]

theorem rinv_step (M : Nat) (r : Rec) (op : Op) (hi : RInv r) (ho : OpOKM M r op) : RInv (step r op) := by
  -- `append` and the fall-back of `unsplitLast`: `reserve`, then the contents grow into the room made
  have happ : ∀ m, RInv { reserve r m with len := (reserve r m).len + m } := fun m =>
    let ⟨e, _, hc, hi', hv', _⟩ := reserve_spec m rfl hi
    ⟨e.symm ▸ hc, hi', hv'⟩
  obtain ⟨h1, h2, h3⟩ := hi
  cases op with
  | reserve k =>
    obtain ⟨e, _, hc, hi', hv', _⟩ := reserve_spec k rfl ⟨h1, h2, h3⟩
    exact ⟨e.symm ▸ Nat.le_trans (Nat.le_add_right _ _) hc, hi', hv'⟩
  | append m => exact happ m
  | splitTo n =>
    have hn : n ≤ r.len := ho
    rw [step_splitTo r n hn]
    exact ⟨Nat.sub_le_sub_right h1 n, (shift_end (Nat.le_trans hn h1)).symm ▸ h2, nofun⟩
  | split =>
    rw [step_split, step_splitTo r _ (Nat.le_refl _)]
    exact ⟨Nat.sub_le_sub_right h1 _, (shift_end h1).symm ▸ h2, nofun⟩
  | advance n =>
    have hn : n ≤ r.len := ho
    have hs := shift_end (off := r.off) (Nat.le_trans hn h1)
    rw [step_advance r n hn]
    exact ⟨Nat.sub_le_sub_right h1 n, hs.symm ▸ h2, fun ha => hs.trans (h3 ha)⟩
  | truncate n =>
    have hn : n ≤ r.len := ho
    rw [step_truncate r n hn]
    exact ⟨Nat.le_trans hn h1, h2, h3⟩
  | dropPart => exact ⟨h1, h2, h3⟩
  | dropPinned => exact ⟨h1, h2, h3⟩
  | dropOld => exact ⟨h1, h2, h3⟩
  | splitOffTail =>
    rw [step_splitOffTail]
    exact ⟨Nat.le_refl _, Nat.le_trans (Nat.add_le_add_left h1 _) h2, nofun⟩
  | unsplitLast n c =>
    obtain ⟨ha, hnc, _, _, harc⟩ :
      r.off + r.cap + c ≤ r.A ∧ n ≤ c ∧ r.len + n ≤ M ∧ 0 < r.parts ∧ r.arc = true := ho
    rcases unsplitLast_cases r n c with ⟨h0, e⟩ | ⟨h0, hc, e⟩ | ⟨h0, hc, hf, e⟩ | ⟨h0, hc, hf, e⟩
    · rw [e]
      exact ⟨hnc, Nat.le_trans (Nat.add_le_add_right (Nat.le_add_right _ _) _) ha, arc_absurd harc⟩
    · rw [e]; exact ⟨h1, h2, h3⟩
    · rw [e]; exact ⟨Nat.add_le_add h1 hnc, Nat.add_assoc _ _ _ ▸ ha, arc_absurd harc⟩
    · rw [e]; exact ⟨(happ n).1, (happ n).2, (happ n).3⟩
  | roundTrip =>
    by_cases hp : r.parts = 0
    · cases harc : r.arc with
      | false => rw [step_roundTrip_vec r hp harc]; exact ⟨h1, h2, h3⟩
      | true =>
        have ho : r.off ≤ r.A := Nat.le_trans (Nat.le_add_right _ _) h2
        rw [step_roundTrip_arc r hp harc]
        exact ⟨Nat.le_trans h1 (Nat.le_sub_of_add_le' h2), Nat.le_of_eq (Nat.add_sub_cancel' ho),
          arc_absurd harc⟩
    · rw [step_roundTrip_copy r hp]
      exact ⟨Nat.le_refl _, Nat.le_of_eq (Nat.zero_add _), fun _ => Nat.zero_add _⟩

/-- the invariant behind `alloc_size_bounded`, for any bound `Bd ≥ max (4M) 8` -/
structure SInv (Bd : Nat) (r : Rec) : Prop where
  rinv : RInv r
  hA : r.A ≤ Bd
  hp : ∀ a ∈ r.pinned, a ≤ Bd
  ho : origCap r.orig ≤ Bd

theorem sinv_init (A₀ M : Nat) : SInv (B A₀ M) (init A₀) :=
  ⟨rinv_init A₀, Nat.le_max_left _ _, nofun, Nat.le_trans (origCap_origRepr_le A₀) (Nat.le_max_left _ _)⟩

theorem sinv_step (M Bd : Nat) (h4 : 4 * M ≤ Bd) (h8 : 8 ≤ Bd) (r : Rec) (op : Op) (hi : SInv Bd r)
    (hok : OpOKM M r op) : SInv Bd (step r op) := by
  suffices key : (step r op).A ≤ Bd ∧ (∀ a ∈ (step r op).pinned, a ≤ Bd) ∧
      origCap (step r op).orig ≤ Bd from
    ⟨rinv_step M r op hi.rinv hok, key.1, key.2.1, key.2.2⟩
  obtain ⟨hi, hA, hp, ho⟩ := hi
  have hres : ∀ k, r.len + k ≤ M → (reserve r k).A ≤ Bd ∧ (∀ a ∈ (reserve r k).pinned, a ≤ Bd) ∧
      origCap (reserve r k).orig ≤ Bd := by
    intro k hk
    obtain ⟨_, eo, _, _, _, ⟨eA, _, ep, _⟩ | ⟨eA, _, ep, _, g1, g2⟩ | ⟨_, _, eA, ep⟩⟩ := reserve_spec k rfl hi
    · rw [eA, ep, eo]; exact ⟨hA, hp, ho⟩
    · obtain ⟨_, g2, gn⟩ := grow_below g1 g2 (Nat.le_trans (Nat.le_add_right _ _) hi.in_alloc) hk
      rw [eA, ep, eo]; exact ⟨growCap_le (Nat.le_trans g2 h4) (Nat.le_trans gn h4) h8, hp, ho⟩
    · rw [eA, ep, eo]
      exact ⟨Nat.max_le.2 ⟨Nat.le_trans (Nat.le_trans hk (Nat.le_mul_of_pos_left M (by decide))) h4, ho⟩,
        List.forall_mem_cons.2 ⟨hA, hp⟩, ho⟩
  obtain ⟨h1, h2, h3⟩ := hi
  by_cases hf : op.refills = false
  · obtain ⟨eA, _, eo, hsub⟩ := step_frame r op hf
    rw [eA, eo]; exact ⟨hA, fun a ha => hp a (hsub a ha), ho⟩
  · cases op with
    | reserve k => exact hres k hok
    | append m => exact hres m hok
    | roundTrip =>
      by_cases hp0 : r.parts = 0
      · cases harc : r.arc with
        | false =>
          rw [step_roundTrip_vec r hp0 harc]
          exact ⟨hA, hp, Nat.le_trans (origCap_origRepr_le r.A) hA⟩
        | true => rw [step_roundTrip_arc r hp0 harc]; exact ⟨hA, hp, ho⟩
      · have hl : r.len ≤ Bd := Nat.le_trans h1 (Nat.le_trans (Nat.le_trans (Nat.le_add_left _ _) h2) hA)
        rw [step_roundTrip_copy r hp0]
        exact ⟨hl, List.forall_mem_cons.2 ⟨hA, hp⟩, Nat.le_trans (origCap_origRepr_le r.len) hl⟩
    | unsplitLast n c =>
      rcases unsplitLast_cases r n c with ⟨_, e⟩ | ⟨_, _, e⟩ | ⟨_, _, _, e⟩ | ⟨_, _, _, e⟩
      · rw [e]; exact ⟨hA, hp, ho⟩
      · rw [e]; exact ⟨hA, hp, ho⟩
      · rw [e]; exact ⟨hA, hp, ho⟩
      · rw [e]; exact hres n hok.2.2.1
    | _ => exact absurd rfl hf

theorem sinv_run (M Bd : Nat) (h4 : 4 * M ≤ Bd) (h8 : 8 ≤ Bd) (ops : List Op) :
    ∀ r, SInv Bd r → HistOK M r ops → SInv Bd (run r ops) := by
  induction ops with
  | nil => intro r hi _; exact hi
  | cons op ops ih =>
    intro r hi h
    exact ih (step r op) (sinv_step M Bd h4 h8 r op hi h.1) h.2

theorem four_le_B (A₀ M : Nat) : 4 * M ≤ B A₀ M :=
  Nat.le_trans (Nat.le_max_left _ _) (Nat.le_max_right _ _)
theorem eight_le_B (A₀ M : Nat) : 8 ≤ B A₀ M := Nat.le_trans (Nat.le_max_right _ _) (Nat.le_max_right _ _)

theorem sum_le_length_mul (l : List Nat) (b : Nat) (h : ∀ a ∈ l, a ≤ b) : l.sum ≤ l.length * b := by
  induction l with
  | nil => simp
  | cons x xs ih =>
    have hx : x ≤ b := h x (by simp)
    have hxs := ih (fun a ha => h a (by simp [ha]))
    simp only [List.sum_cons, List.length_cons, Nat.add_mul, Nat.one_mul]
    omega

/-- Every allocation the buffer ever lives in — the current one and every older one still pinned by
retained parts — is at most `max(A₀, 4M, 8)` bytes, after any history of any length, with any
retention policy. -/
theorem alloc_size_bounded (A₀ M : Nat) (ops : List Op) (h : HistOK M (init A₀) ops) :
    (run (init A₀) ops).A ≤ B A₀ M ∧ ∀ a ∈ (run (init A₀) ops).pinned, a ≤ B A₀ M :=
  have hS := sinv_run M (B A₀ M) (four_le_B A₀ M) (eight_le_B A₀ M) ops _ (sinv_init A₀ M) h
  ⟨hS.hA, hS.hp⟩

/-- Hence the live byte-buffer memory at the end of the history is at most (number of allocations
still pinned + 1) × bound; the bound `B` does not depend on the number of rounds, the number of pinned
allocations is up to the retention policy. -/
theorem live_bounded (A₀ M : Nat) (ops : List Op) (h : HistOK M (init A₀) ops) :
    live (run (init A₀) ops) ≤ ((run (init A₀) ops).pinned.length + 1) * B A₀ M := by
  obtain ⟨hA, hp⟩ := alloc_size_bounded A₀ M ops h
  have hs := sum_le_length_mul _ _ hp
  simp only [live, Nat.add_mul, Nat.one_mul]
  omega

/-- the refill of a round when every split-off part was dropped before it -/
def Refill (M : Nat) (r : Rec) (op : Op) : Prop :=
  r.parts = 0 ∧ ((∃ k, op = .reserve k ∧ r.len + k ≤ M) ∨ (∃ m, op = .append m ∧ r.len + m ≤ M))

theorem refill_step (M : Nat) (r : Rec) (op : Op) (hi : RInv r) (hr : Refill M r op) :
    (step r op).pinned = r.pinned ∧
    (((step r op).allocs = r.allocs ∧ (step r op).A = r.A) ∨
     ((step r op).allocs = r.allocs + 1 ∧ 2 * r.A ≤ (step r op).A ∧ 8 ≤ (step r op).A ∧
        r.A < 2 * M ∧ (step r op).A ≤ max (4 * M) 8)) := by
  obtain ⟨hp, ⟨k, rfl, hk⟩ | ⟨m, rfl, hm⟩⟩ := hr
  · exact reserve_refill r k M hi hk hp
  · exact reserve_refill r m M hi hm hp

/-- Once the allocation has reached `2M`, a refill with no outstanding parts never allocates: the
request either fits behind the contents or the contents are moved to the front. -/
theorem big_enough_no_alloc (M : Nat) (r : Rec) (op : Op) (hi : RInv r) (hbig : 2 * M ≤ r.A) (hr : Refill M r op) :
    (step r op).allocs = r.allocs ∧ (step r op).A = r.A ∧ (step r op).pinned = r.pinned := by
  obtain ⟨hp, ⟨ha, hA⟩ | ⟨_, _, _, hlt, _⟩⟩ := refill_step M r op hi hr
  · exact ⟨ha, hA, hp⟩
  · omega

/-- A refill with no outstanding parts that does allocate at least doubles the allocation (or
creates the first one of at least 8 bytes). -/
theorem alloc_doubles (M : Nat) (r : Rec) (op : Op) (hi : RInv r) (hr : Refill M r op)
    (ha : (step r op).allocs ≠ r.allocs) :
    (step r op).allocs = r.allocs + 1 ∧ 2 * r.A ≤ (step r op).A ∧ 8 ≤ (step r op).A ∧ r.A < 2 * M := by
  obtain ⟨_, ⟨ha', _⟩ | ⟨h1, h2, h3, h4, _⟩⟩ := refill_step M r op hi hr
  · exact absurd ha' ha
  · exact ⟨h1, h2, h3, h4⟩

/-- every refill in the history happens with all parts dropped (retention window 0); an `unsplit` is
not a refill as long as it does not fall back to `extend_from_slice` (which would copy — and possibly
reallocate — while the part is still alive) -/
def Recycled (M : Nat) : Rec → List Op → Prop
  | _, [] => True
  | r, op :: ops =>
    OpOKM M r op ∧ (match op with | .reserve _ | .append _ => r.parts = 0 | .roundTrip => r.parts = 0
                                  | .unsplitLast _ c => r.len = 0 ∨ c = 0 ∨ r.len = r.cap | _ => True) ∧
      Recycled M (step r op) ops

/-- the invariant behind `allocs_bounded`: after the first allocation every further one doubled the
buffer, starting from at least 8 bytes, and none happened at `2M` or above.  `pot`: the second
allocation gives `A ≥ 8 = 2 ^ (2 + 1)`, each further one doubles `A`. -/
structure AInv (M : Nat) (r : Rec) : Prop where
  rinv : RInv r
  pot : r.allocs ≤ 1 ∨ (2 ^ (r.allocs + 1) ≤ r.A ∧ r.A ≤ max (4 * M) 8)

theorem ainv_init (A₀ M : Nat) : AInv M (init A₀) :=
  ⟨rinv_init A₀, .inl (by simp only [init]; split <;> omega)⟩

theorem ainv_refill (M : Nat) (r : Rec) (op : Op) (hi : AInv M r) (hr : Refill M r op) :
    (step r op).allocs ≤ 1 ∨ (2 ^ ((step r op).allocs + 1) ≤ (step r op).A ∧ (step r op).A ≤ max (4 * M) 8) := by
  obtain ⟨hri, hpot⟩ := hi
  obtain ⟨_, ⟨ha, hA⟩ | ⟨ha, h2, h8, _, hle⟩⟩ := refill_step M r op hri hr
  · rw [ha, hA]; exact hpot
  · rw [ha]
    rcases hpot with h | ⟨hp, _⟩
    · rcases Nat.le_one_iff_eq_zero_or_eq_one.mp h with h0 | h1
      · exact .inl (h0 ▸ Nat.le_refl 1)
      · rw [h1]; exact .inr ⟨h8, hle⟩
    · -- `2 ^ (allocs + 2) = 2 ^ (allocs + 1) * 2 ≤ A * 2 ≤ A'`
      exact .inr ⟨Nat.le_trans (Nat.le_of_eq (Nat.pow_succ 2 _)) (Nat.le_trans (Nat.mul_le_mul_right 2 hp)
        (Nat.mul_comm 2 r.A ▸ h2)), hle⟩

theorem ainv_step (M : Nat) (r : Rec) (op : Op) (hi : AInv M r)
    (hparts : match op with | .reserve _ | .append _ => r.parts = 0 | .roundTrip => r.parts = 0
                            | .unsplitLast _ c => r.len = 0 ∨ c = 0 ∨ r.len = r.cap | _ => True)
    (hok : OpOKM M r op) : AInv M (step r op) := by
  refine ⟨rinv_step M r op hi.rinv hok, ?_⟩
  by_cases hf : op.refills = false
  · obtain ⟨eA, ea, _, _⟩ := step_frame r op hf
    rw [eA, ea]; exact hi.pot
  · cases op with
    | reserve k => exact ainv_refill M r _ hi ⟨hparts, .inl ⟨k, rfl, hok⟩⟩
    | append m => exact ainv_refill M r _ hi ⟨hparts, .inr ⟨m, rfl, hok⟩⟩
    | roundTrip =>
      cases harc : r.arc with
      | false => rw [step_roundTrip_vec r hparts harc]; exact hi.pot
      | true => rw [step_roundTrip_arc r hparts harc]; exact hi.pot
    | unsplitLast n c =>
      obtain ⟨eA, ea, _, _⟩ := unsplitLast_frame r n c hparts
      rw [eA, ea]; exact hi.pot
    | _ => exact absurd rfl hf

theorem ainv_run (M : Nat) (ops : List Op) :
    ∀ r, AInv M r → Recycled M r ops → AInv M (run r ops) := by
  induction ops with
  | nil => intro r hi _; exact hi
  | cons op ops ih =>
    intro r hi h
    exact ih (step r op) (ainv_step M r op hi h.2.1 h.1) h.2.2

/-- If every split-off part is dropped before the next refill, the number of byte-buffer
allocations over the whole history — of any length — is bounded by a function of `M` alone.
(`AInv.pot` gives `allocs + 1 ≤ log2 (4M + 8)` from the second allocation on; the `+ 3` is slack that
also covers `allocs ≤ 1`.) -/
theorem allocs_bounded (A₀ M : Nat) (ops : List Op) (h : Recycled M (init A₀) ops) :
    (run (init A₀) ops).allocs ≤ Nat.log2 (4 * M + 8) + 3 := by
  obtain ⟨_, hpot⟩ := ainv_run M ops _ (ainv_init A₀ M) h
  rcases hpot with h1 | ⟨h2, h3⟩
  · omega
  · have hle : 2 ^ ((run (init A₀) ops).allocs + 1) ≤ 4 * M + 8 := by omega
    have := (Nat.le_log2 (n := 4 * M + 8) (by omega)).mpr hle
    omega

-- Non-vacuity: two rounds of a sample pattern and the refill of a third respect the bound (M = 16).
def sampleOps : List Op := [.append 10, .splitTo 10, .dropPart, .reserve 5, .append 5, .split, .dropPart, .append 16]
example : (run (init 0) sampleOps).A = 21 ∧ (run (init 0) sampleOps).allocs = 2 := by decide

/-- the side conditions are decidable, so concrete histories can be checked by `decide` -/
instance OpOKM.dec (M : Nat) (r : Rec) : (op : Op) → Decidable (OpOKM M r op)
  | .reserve k => inferInstanceAs (Decidable (r.len + k ≤ M))
  | .append m => inferInstanceAs (Decidable (r.len + m ≤ M))
  | .splitTo n => inferInstanceAs (Decidable (n ≤ r.len))
  | .advance n => inferInstanceAs (Decidable (n ≤ r.len))
  | .truncate n => inferInstanceAs (Decidable (n ≤ r.len))
  | .dropPart => inferInstanceAs (Decidable (0 < r.parts))
  | .unsplitLast n c =>
    inferInstanceAs (Decidable (r.off + r.cap + c ≤ r.A ∧ n ≤ c ∧ r.len + n ≤ M ∧ 0 < r.parts ∧ r.arc = true))
  | .split | .dropPinned | .dropOld | .splitOffTail | .roundTrip => isTrue trivial

instance HistOK.dec (M : Nat) : (r : Rec) → (ops : List Op) → Decidable (HistOK M r ops)
  | _, [] => isTrue trivial
  | r, op :: ops => @instDecidableAnd _ _ (OpOKM.dec M r op) (HistOK.dec M (step r op) ops)

example : HistOK 16 (init 0) sampleOps := by decide

/-- a history through all four branches of `unsplitLast`: the spare capacity is split off and merged
back (contiguous, main handle full); an empty zero-capacity part is dropped although the main handle is
not full; the main handle is emptied and takes over the part (`*self = other`); a part that cannot be
merged is copied (`extend_from_slice`), which — a part being alive — moves the buffer to a fresh
allocation and pins the old one -/
def unsplitOps : List Op :=
  [.append 4, .splitOffTail, .unsplitLast 0 4,            -- merge: (len 4, cap 4) + (0, 4)
   .truncate 3, .splitTo 0, .unsplitLast 0 0,             -- drop of an empty part, len 3 ≠ cap 8
   .splitOffTail, .truncate 0, .unsplitLast 0 5,          -- `*self = other`
   .append 3, .splitOffTail, .truncate 2, .unsplitLast 5 5] -- fall-back: copy, reallocates

example : HistOK 16 (init 8) unsplitOps := by decide
example : run (init 8) unsplitOps =
    { A := 7, off := 0, len := 7, cap := 7, arc := false, orig := 0, parts := 0, pinned := [8], allocs := 2 } := by
  decide
example : (run (init 8) unsplitOps).A ≤ B 8 16 := (alloc_size_bounded 8 16 unsplitOps (by decide)).1

/-- `Recycled` without its condition on `unsplitLast`: too weak, see `copyHist` -/
def RecycledOld (M : Nat) : Rec → List Op → Prop
  | _, [] => True
  | r, op :: ops =>
    OpOKM M r op ∧ (match op with | .reserve _ | .append _ => r.parts = 0 | .roundTrip => r.parts = 0 | _ => True) ∧
      RecycledOld M (step r op) ops

instance RecycledOld.dec (M : Nat) : (r : Rec) → (ops : List Op) → Decidable (RecycledOld M r ops)
  | _, [] => isTrue trivial
  | r, op :: ops =>
    @instDecidableAnd _ _ (OpOKM.dec M r op)
      (@instDecidableAnd _ _
        (match op with
         | .reserve _ | .append _ | .roundTrip => inferInstanceAs (Decidable (r.parts = 0))
         | .splitTo _ | .split | .advance _ | .truncate _ | .dropPart | .dropPinned | .dropOld | .splitOffTail
         | .unsplitLast _ _ => isTrue trivial)
        (RecycledOld.dec M (step r op) ops))

/-- one round of: split the spare capacity off, shorten the contents, unsplit a 5-byte part that can no
longer be merged — the fall-back copies 5 bytes while the part is alive, i.e. allocates a fresh buffer
of `max(7, original capacity) = 1024` bytes, every round -/
def copyRound : List Op := [.truncate 3, .splitOffTail, .truncate 2, .unsplitLast 5 5]
def copyHist : List Op := .append 3 :: (List.replicate 10 copyRound).flatten

/-- **Why `Recycled` constrains `unsplitLast`.**  Without the condition the number of allocations is
not bounded: `copyHist` satisfies `RecycledOld` with `M = 7`, yet performs 11 allocations, more than
`log2(4M + 8) + 3 = 8` (and one more per further round).  This is the behaviour of the crate: an
`unsplit` that has to copy is a refill with a part outstanding. -/
example : RecycledOld 7 (init 1024) copyHist ∧ (run (init 1024) copyHist).allocs = 11 ∧
    Nat.log2 (4 * 7 + 8) + 3 = 8 ∧ HistOK 7 (init 1024) copyHist ∧
    (run (init 1024) copyHist).A = 1024 := by decide

/-- A buffer created with 8 bytes that has grown to 2048: the round trip of the (full, hence
promotable) handle re-records `original_capacity_repr = 2` (`promotable_to_mut` goes through
`BytesMut::from_vec`), so the next refill with a live part allocates `max(10, 2048)` bytes.  Without the
round trip the recorded original capacity is still that of the 8-byte buffer and the refill allocates
10 bytes. -/
example :
    (run (init 8) [.reserve 2048, .append 2048, .roundTrip, .splitTo 2048, .reserve 10]).A = 2048 ∧
    (run (init 8) [.reserve 2048, .append 2048, .splitTo 2048, .reserve 10]).A = 10 := by decide

end BytesVerif.Recycle
