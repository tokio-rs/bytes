/-
C08 — uniqueness is reported truthfully and a sole owner can reclaim its buffer; C04 — reserve keeps
its promise (the exclusivity / in-bounds part of C04 is the invariant itself: `exclusiveB` and
`handleOKB` inside `WF`, preserved by `step_sound`).
-/
import BytesVerif.Lemmas.Core.Sound
import BytesVerif.Lemmas.Core.PropC08
namespace BytesVerif.Core

/-- byte-buffer allocations recorded between two states -/
def newAllocs (s s' : St) : List Ev :=
  (s'.events.take (s'.events.length - s.events.length)).filter fun e => match e with | .alloc _ _ => true | _ => false

/-- what `is_unique` must answer: false for static / owner-backed data, otherwise "no other live
handle names the storage" -/
def uniqueSpec (s : St) : Handle → Bool
  | .bytes .static .. | .bytes (.owned _) .. => false
  | .bytes (.prom _ none) .. => true
  | .bytes (.prom _ (some c)) .. | .bytes (.shared c) .. | .bytes (.sharedV c) .. => refCount s c == 1
  | _ => false

theorem newAllocs_of_events {s s' : St} {evs : List Ev} (h : s'.events = evs ++ s.events)
    (hno : PropC08.NoAlloc evs) : newAllocs s s' = [] := by
  rw [newAllocs, List.filter_eq_nil_iff]
  intro ev hev
  cases ev with
  | alloc r n => exact absurd rfl (PropC08.NoAlloc_take h hno _ hev r n)
  | _ => simp

theorem newAllocs_same {s s' : St} (h : s'.events = s.events) : newAllocs s s' = [] :=
  newAllocs_of_events (evs := []) (by simpa using h) PropC08.NoAlloc_nil

theorem uniqueSpec_eq (s : St) (repr : BRepr) (reg : Option Nat) (off len : Nat) :
    uniqueSpec s (.bytes repr reg off len) = PropC08.uniqueB s repr := by
  cases repr with
  | prom vt oc => cases oc <;> rfl
  | _ => rfl


theorem is_unique_iff (cfg : Cfg) (e : Env) (i : Nat) (s : St) (h : WFx s) (repr : BRepr) (reg : Option Nat)
    (off len : Nat) (hi : s.hs[i]? = some (some (.bytes repr reg off len))) :
    step cfg e (.isUnique i) s = .ok (.bool (uniqueSpec s (.bytes repr reg off len))) s := by
  simp only [step, bind_apply, getHandle_eq hi, PropC08.bytesIsUnique_eq h.inv hi, pure_apply,
    uniqueSpec_eq]

/-- `try_into_mut` succeeds exactly when `is_unique` is true, and then returns the same memory
(same region, same offset, same length) without allocating a byte buffer. -/
theorem try_into_mut_iff (cfg : Cfg) (e : Env) (i : Nat) (s : St) (h : WFx s) (repr : BRepr) (reg : Option Nat)
    (off len : Nat) (hi : s.hs[i]? = some (some (.bytes repr reg off len))) :
    (uniqueSpec s (.bytes repr reg off len) = true →
      ∃ s' arc cap orig, step cfg e (.tryIntoMut i) s = .ok (.handle i) s' ∧
        s'.hs[i]? = some (some (.mut arc reg off len cap orig)) ∧ newAllocs s s' = []) ∧
    (uniqueSpec s (.bytes repr reg off len) = false →
      step cfg e (.tryIntoMut i) s = .ok (.err i) s) := by
  have hI := h.inv
  rw [uniqueSpec_eq]
  constructor
  · intro hu
    obtain ⟨m, s1, evs, heq, ⟨arc, cap, orig, rfl⟩, hhs, hev, hno⟩ :=
      PropC08.bytesIntoMut_unique hI cfg e hi hu
    refine ⟨{ s1 with hs := s1.hs.set i (some (.mut arc reg off len cap orig)) }, arc, cap, orig, ?_, ?_,
      newAllocs_of_events (evs := evs) hev hno⟩
    · simp only [step, bind_apply, getHandle_eq hi, PropC08.bytesIsUnique_eq hI hi, hu, if_true, heq,
        setHandle_apply, pure_apply]
    · exact lookup_set_eq _ (by rw [hhs]; exact hi)
  · intro hu
    simp only [step, bind_apply, getHandle_eq hi, PropC08.bytesIsUnique_eq hI hi, hu,
      Bool.false_eq_true, if_false, pure_apply]

/-- C04: when `reserve(n)` returns, `capacity() - len() ≥ n`, and length (and, by `refines`, contents)
are unchanged. -/
theorem reserve_post (cfg : Cfg) (e : Env) (i n : Nat) (s s' : St) (h : WFx s) (v : Val)
    (arc : Option Nat) (reg : Option Nat) (off len cap orig : Nat)
    (hi : s.hs[i]? = some (some (.mut arc reg off len cap orig)))
    (hs : step cfg e (.reserve i n) s = .ok v s') :
    ∃ arc' reg' off' cap' orig', s'.hs[i]? = some (some (.mut arc' reg' off' len cap' orig')) ∧ n ≤ cap' - len := by
  have hI := h.inv
  simp only [step, bind_apply, getHandle_eq hi] at hs
  rcases OpsD.mutReserve_spec hI cfg e hi n with hp | ⟨h', R1, C1, heq, hG⟩
  · have h1 : mutReserve cfg e (.mut arc reg off len cap orig) n s = .panic s := hp s.hs s.events
    simp [h1] at hs
  · obtain ⟨ev1, h1⟩ := heq s.hs s.events
    have h1' : mutReserve cfg e (.mut arc reg off len cap orig) n s =
        .ok h' ⟨R1, C1, s.hs, s.owners, ev1⟩ := h1
    simp only [h1', setHandle_apply, pure_apply, R.ok.injEq] at hs
    obtain ⟨_, rfl⟩ := hs
    obtain ⟨arc', reg', off', cap', orig', rfl, hle⟩ := hG.shape
    exact ⟨arc', reg', off', cap', orig', lookup_set_eq _ hi, hle⟩

/-- C04: a request whose size is not representable panics, in every configuration. -/
theorem reserve_unrepresentable (cfg : Cfg) (e : Env) (i n : Nat) (s : St) (h : WFx s)
    (arc : Option Nat) (reg : Option Nat) (off len cap orig : Nat)
    (hi : s.hs[i]? = some (some (.mut arc reg off len cap orig))) (hbig : isizeMax < len + n) :
    ∃ s', step cfg e (.reserve i n) s = .panic s' :=
  ⟨s, PropC08.reserve_huge h.inv cfg e hi hbig⟩

/-- C04: `try_reclaim(n) = true` gives the same guarantee without allocating; `false` leaves
address, length and capacity unchanged. -/
theorem try_reclaim_post (cfg : Cfg) (e : Env) (i n : Nat) (s s' : St) (h : WFx s) (b : Bool)
    (arc : Option Nat) (reg : Option Nat) (off len cap orig : Nat)
    (hi : s.hs[i]? = some (some (.mut arc reg off len cap orig)))
    (hs : step cfg e (.tryReclaim i n) s = .ok (.bool b) s') :
    (b = true → (∃ arc' off' cap' orig', s'.hs[i]? = some (some (.mut arc' reg off' len cap' orig')) ∧ n ≤ cap' - len) ∧
        newAllocs s s' = []) ∧
    (b = false → s'.hs[i]? = some (some (.mut arc reg off len cap orig))) := by
  have hI := h.inv
  simp only [step, bind_apply, getHandle_eq hi] at hs
  by_cases hadd : n ≤ cap - len
  · simp only [if_pos hadd, ite_apply', pure_apply, R.ok.injEq, Val.bool.injEq] at hs
    obtain ⟨rfl, rfl⟩ := hs
    exact ⟨fun _ => ⟨⟨arc, off, cap, orig, hi, hadd⟩, newAllocs_same rfl⟩, fun hb => by cases hb⟩
  · simp only [if_neg hadd, ite_apply', bind_apply] at hs
    rcases PropC08.mri_false hI cfg e hi n with h1 | ⟨R1, off', cap', h1, hle⟩
    · simp only [h1, setHandle_apply, pure_apply, R.ok.injEq, Val.bool.injEq] at hs
      obtain ⟨rfl, rfl⟩ := hs
      exact ⟨fun hb => (by cases hb), fun _ => lookup_set_eq _ hi⟩
    · simp only [h1, setHandle_apply, pure_apply, R.ok.injEq, Val.bool.injEq] at hs
      obtain ⟨rfl, rfl⟩ := hs
      exact ⟨fun _ => ⟨⟨arc, off', cap', orig, lookup_set_eq _ hi, hle⟩, newAllocs_same rfl⟩,
        fun hb => by cases hb⟩

/-- is handle `i` the only live handle on its allocation? -/
def soleOnAlloc (s : St) : Handle → Bool
  | .mut none _ .. => true
  | .mut (some c) _ .. => refCount s c == 1
  | _ => false

theorem soleOnAlloc_iff {s : St} {arc reg : Option Nat} {off len cap orig : Nat}
    (h : soleOnAlloc s (.mut arc reg off len cap orig) = true) : ∀ c, arc = some c → refCount s c = 1 := by
  intro c hc; subst hc
  simpa [soleOnAlloc] using h

/-- C08 / C18: an empty BytesMut that is alone on its allocation can take the whole allocation
back: `try_reclaim(n)` is true for every `n` up to the allocation size, without allocating. -/
theorem reclaim_whole (cfg : Cfg) (e : Env) (i n : Nat) (s : St) (h : WFx s)
    (arc : Option Nat) (r off cap orig : Nat)
    (hi : s.hs[i]? = some (some (.mut arc (some r) off 0 cap orig)))
    (hsole : soleOnAlloc s (.mut arc (some r) off 0 cap orig) = true) (hn : n ≤ regionSize s r) :
    ∃ s', step cfg e (.tryReclaim i n) s = .ok (.bool true) s' ∧ newAllocs s s' = [] := by
  have hI := h.inv
  simp only [step, bind_apply, getHandle_eq hi]
  by_cases hadd : n ≤ cap - 0
  · exact ⟨s, by simp only [if_pos hadd, ite_apply', pure_apply], newAllocs_same rfl⟩
  · obtain ⟨h', h1⟩ := PropC08.mri_whole hI cfg e hi (soleOnAlloc_iff hsole) hn false
    exact ⟨{ s with hs := s.hs.set i (some h') },
      by simp only [if_neg hadd, ite_apply', bind_apply, h1, setHandle_apply, pure_apply],
      newAllocs_same rfl⟩

theorem reserve_whole_no_alloc (cfg : Cfg) (e : Env) (i n : Nat) (s : St) (h : WFx s)
    (arc : Option Nat) (r off cap orig : Nat)
    (hi : s.hs[i]? = some (some (.mut arc (some r) off 0 cap orig)))
    (hsole : soleOnAlloc s (.mut arc (some r) off 0 cap orig) = true) (hn : n ≤ regionSize s r) :
    ∃ v s', step cfg e (.reserve i n) s = .ok v s' ∧ newAllocs s s' = [] := by
  have hI := h.inv
  simp only [step, bind_apply, getHandle_eq hi]
  by_cases hadd : n ≤ cap - 0
  · exact ⟨.unit, { s with hs := s.hs.set i (some (.mut arc (some r) off 0 cap orig)) },
      by simp only [mutReserve, if_pos hadd, ite_apply', pure_apply, setHandle_apply],
      newAllocs_same rfl⟩
  · obtain ⟨h', h1⟩ := PropC08.mri_whole hI cfg e hi (soleOnAlloc_iff hsole) hn true
    exact ⟨.unit, { s with hs := s.hs.set i (some h') },
      by simp only [mutReserve, if_neg hadd, ite_apply', bind_apply, h1, setHandle_apply, pure_apply],
      newAllocs_same rfl⟩

end BytesVerif.Core
