/-
Soundness of the oracles of the buf / mut judges (Judge/Buf.lean, Judge/Mut.lean) with respect to
the models M2 / M3: on the model's own answer to any operation the judge understands no oracle
fires, i.e. the oracles demand nothing the C09 / C10 / C11 / C12 theorems do not guarantee
(`read_oracle_sound`; `nth_oracle_sound`, `nth_judge_sound` for `nth`, which the judge keeps outside
`modelOp`; `write_sound`).  The statements carry no hypothesis about strings: the tokenizer `words`
(defined with `String.splitOn`), `toString` / `toNat?` and the hex rendering are shown to round-trip
in Lemmas/OracleSoundBuf.lean.  `doesNotFit_rule_silent`, `initialLimit_rule_silent` concern the two
rules of `MutJ.judgeOp` / `MutJ.step` that do not consult the model; the guard-byte rule looks only at a flag measured on the real
memory, there is nothing in the model it could be compared with.
-/
import BytesVerif.Lemmas.OracleSoundBuf
import BytesVerif.Judge.Mut
import BytesVerif.Cert.C10
import BytesVerif.Cert.C11
namespace BytesVerif.OracleSound
open BytesVerif.Judge BytesVerif.Buf BytesVerif.Codec BytesVerif.Generated

section Read
open BytesVerif.Judge.BufJ

/-- The statement proved for every operation: the model's result text is the space-separated
concatenation of tokens `ws` (each a word for the tokenizer), and on these tokens and the model's
post-state neither the property oracle nor (for consuming operations) the C12 inner-state oracle
fires. -/
def SoundAt (pre : BufT) (op : List String) (r : String × Option BufT) : Prop :=
  ∃ ws, r.1 = " ".intercalate ws ∧ Toks ws ∧ oracle pre op ws r.2 = none ∧
    (consuming op = true → ∀ post, r.2 = some post → innerOracle pre post = none)

theorem innerOracle_of_moved {pre post : BufT} (h : Moved pre post) : innerOracle pre post = none := by
  obtain ⟨k, hk, hd, hi⟩ := h
  have hkk : (den pre).length - (den post).length = k := by
    rw [hd, List.length_drop]; exact Nat.sub_sub_self hk
  cases pre with
  | take i lim =>
    obtain ⟨i', rfl, h2⟩ := hi
    simp only [innerOracle, hkk, h2, bne_self_eq_false, Bool.false_eq_true, if_false]
  | chain a b =>
    obtain ⟨a', b', rfl, h2, h3⟩ := hi
    simp only [innerOracle, hkk, h2, h3, bne_self_eq_false, Bool.false_eq_true, if_false]
  | _ => rfl

theorem SoundAt.of_moved {pre post : BufT} {op : List String} {res : String} (ws : List String)
    (hr : res = " ".intercalate ws) (ht : Toks ws) (ho : oracle pre op ws (some post) = none)
    (hm : Moved pre post) : SoundAt pre op (res, some post) :=
  ⟨ws, hr, ht, ho, fun _ _ hp => Option.some.inj hp ▸ innerOracle_of_moved hm⟩

theorem SoundAt.panic {pre : BufT} {op : List String} (ho : oracle pre op ["panic"] none = none) :
    SoundAt pre op ("panic", none) :=
  ⟨["panic"], rfl, .cons (.lit "panic") .nil, ho, fun _ _ hp => nomatch hp⟩

theorem join1 (a : String) : " ".intercalate [a] = a := rfl

/-! The oracle is one `match` on the operation word.  Its branch for a given word is exposed by
`rfl` where the branch is short or shared, otherwise by `conv => lhs; whnf`, which evaluates the
comparisons of the word with the patterns and stops at the branch (`simp [oracle]` would prove
the side conditions of all earlier patterns instead). -/

theorem sound_rem (pre : BufT) (hwf : wf pre) :
    SoundAt pre ["rem"] (toString (remaining pre), some pre) := by
  refine .of_moved [toString (remaining pre)] rfl (.cons (tok_nat _) .nil) ?_ (moved_refl pre)
  show (if (toString (remaining pre)).toNat? != some (den pre).length then _ else none) = none
  rw [toNat_toString, remaining_eq pre hwf, bne_self_eq_false]
  rfl

theorem isPrefix_of_prefix {c D : Bs} (h : c <+: D) : isPrefix c D = true := by
  obtain ⟨t, rfl⟩ := h
  simp [isPrefix]

theorem sound_chunk (pre : BufT) (hwf : wf pre) (hb : ∀ x ∈ den pre, x < 256) (o : String)
    (hor : ∀ h, oracle pre [o] [h] (some pre) = oracle pre ["chunk"] [h] (some pre)) :
    SoundAt pre [o] (toHex (chunk pre), some pre) := by
  have hp := chunk_prefix pre hwf
  have hbc : ∀ x ∈ chunk pre, x < 256 := fun x hx => hb x (hp.subset hx)
  refine .of_moved [toHex (chunk pre)] rfl (.cons (tok_toHex _ hbc) .nil) ((hor _).trans ?_) (moved_refl pre)
  conv => lhs; whnf
  rw [parseHex_toHex _ hbc]
  by_cases hc : chunk pre = []
  · have hd : den pre = [] := by
      rw [← List.length_eq_zero_iff, ← remaining_eq pre hwf]; exact (chunk_nil_iff pre hwf).1 hc
    simp [hc, hd, isPrefix]
  · simp [hc, isPrefix_of_prefix hp]

/-- the rule `consumed` local to `BufJ.oracle`: with `n` bytes available exactly the next `n` bytes
are returned and consumed, otherwise the call panics.  A copy, because the judge's is a local
`let`; the `by rfl` arguments `hor` in `read_sound_tokens` tie each oracle branch to it. -/
def consumed (D : Bs) (post : Option BufT) (n : Nat) (bytesOut : Option String) : Option (String × String) :=
  if n ≤ D.length then
    if post.isNone then some ("C09", s!"panicked although {n} <= remaining {D.length}")
    else if bytesOut.isSome && bytesOut != some (toHex (D.take n)) then
      some ("C09", s!"returned bytes differ from the next {n} bytes")
    else if post.map den != some (D.drop n) then some ("C09", s!"did not consume exactly {n} bytes")
    else none
  else if post.isSome then some ("C09", s!"no panic although {n} > remaining {D.length}")
  else none

theorem consumed_ok {D : Bs} {post : BufT} {n : Nat} {out : Option String} (hn : n ≤ D.length)
    (hd : den post = D.drop n) (ho : out = none ∨ out = some (toHex (D.take n))) :
    consumed D (some post) n out = none := by
  rcases ho with rfl | rfl <;> simp [consumed, hn, hd]

theorem consumed_panic {D : Bs} {n : Nat} {out : Option String} (hn : ¬ n ≤ D.length) :
    consumed D none n out = none := by
  simp [consumed, hn]

theorem sound_adv (pre : BufT) (hwf : wf pre) (o s : String) (n : Nat) (hs : s.toNat? = some n)
    (hor : ∀ ws post, oracle pre [o, s] ws post = s.toNat?.bind fun n => consumed (den pre) post n none) :
    SoundAt pre [o, s] (match advance pre n with | .ok b' => ("ok", some b') | .panic => ("panic", none)) := by
  rw [hs] at hor
  have hrem := remaining_eq pre hwf
  by_cases hn : n ≤ remaining pre
  · obtain ⟨post, h1, h2, _⟩ := advance_ok pre n hwf hn
    rw [h1]
    exact .of_moved ["ok"] rfl (.cons (.lit "ok") .nil)
      ((hor _ _).trans (consumed_ok (hrem ▸ hn) h2 (.inl rfl))) (moved_advance hwf hn h1)
  · rw [advance_panic pre n hwf (Nat.lt_of_not_le hn)]
    exact .panic ((hor _ _).trans (consumed_panic (hrem ▸ hn)))

/-- `copy` / `tobytes`: `f` is `copyToSlice` resp. `copyToBytes`, of which only the C09 facts `hok`,
`hpanic` are used -/
theorem sound_copy (pre : BufT) (hwf : wf pre) (hb : ∀ x ∈ den pre, x < 256) (o s : String) (n : Nat)
    (f : BufT → Nat → Res (Bs × BufT)) (hs : s.toNat? = some n)
    (hor : ∀ h post, oracle pre [o, s] [h] post
      = s.toNat?.bind fun n => consumed (den pre) post n (if h == "panic" then none else some h))
    (hok : n ≤ remaining pre → ∃ post, f pre n = .ok ((den pre).take n, post) ∧
      den post = (den pre).drop n ∧ Moved pre post)
    (hpanic : remaining pre < n → f pre n = .panic) :
    SoundAt pre [o, s] (match f pre n with | .ok (bs, b') => (toHex bs, some b') | .panic => ("panic", none)) := by
  rw [hs] at hor
  have hrem := remaining_eq pre hwf
  by_cases hn : n ≤ remaining pre
  · obtain ⟨post, h1, h2, h3⟩ := hok hn
    rw [h1]
    refine .of_moved [toHex ((den pre).take n)] rfl (.cons (tok_toHex_take hb n) .nil) ?_ h3
    refine (hor _ _).trans (consumed_ok (hrem ▸ hn) h2 ?_)
    split
    · exact .inl rfl
    · exact .inr rfl
  · rw [hpanic (Nat.lt_of_not_le hn)]
    exact .panic ((hor _ _).trans (consumed_panic (hrem ▸ hn)))

theorem sound_trycopy (pre : BufT) (hwf : wf pre) (hb : ∀ x ∈ den pre, x < 256) (s : String) (n : Nat)
    (hs : s.toNat? = some n) :
    SoundAt pre ["trycopy", s]
      (match tryCopyToSlice pre n with
        | .ok (some bs, b') => (s!"ok {toHex bs}", some b')
        | .ok (none, b') => (s!"err {n} {remaining pre}", some b')
        | .panic => ("panic", none)) := by
  have hrem := remaining_eq pre hwf
  by_cases hn : n ≤ remaining pre
  · obtain ⟨post, h1, h2, _⟩ := tryCopyToSlice_ok pre n hwf hn
    rw [h1]
    refine .of_moved ["ok", toHex ((den pre).take n)] rfl
      (.cons (.lit "ok") (.cons (tok_toHex_take hb n) .nil)) ?_ (moved_tryCopy hwf h1)
    show (s.toNat?.bind fun m => consumed (den pre) (some post) m (some (toHex ((den pre).take n)))) = none
    rw [hs]
    exact consumed_ok (hrem ▸ hn) h2 (.inr rfl)
  · rw [tryCopyToSlice_err pre n (Nat.lt_of_not_le hn)]
    refine .of_moved ["err", toString n, toString (remaining pre)] rfl
      (.cons (.lit "err") (.cons (tok_nat _) (.cons (tok_nat _) .nil))) ?_ (moved_refl pre)
    conv => lhs; whnf
    simp [hs, hrem ▸ hn, hrem]

theorem sound_next (pre : BufT) (hwf : wf pre) :
    SoundAt pre ["next"]
      (match iterNext pre with
        | .ok (some x, b') => (s!"some {x}", some b')
        | .ok (none, b') => ("none", some b')
        | .panic => ("panic", none)) := by
  cases hd : den pre with
  | nil =>
    rw [iterNext_none pre hwf hd]
    refine .of_moved ["none"] rfl (.cons (.lit "none") .nil) ?_ (moved_refl pre)
    conv => lhs; whnf
    rw [hd]
    rfl
  | cons x r =>
    obtain ⟨post, h1, h2, _⟩ := iterNext_some pre hwf x r hd
    rw [h1]
    refine .of_moved ["some", toString x] rfl (.cons (.lit "some") (.cons (tok_nat _) .nil)) ?_
      (moved_iterNext hwf h1)
    conv => lhs; whnf
    rw [hd]
    simp [h2]

theorem sound_read (pre : BufT) (hwf : wf pre) (hb : ∀ x ∈ den pre, x < 256) (s : String) (n : Nat)
    (hs : s.toNat? = some n) :
    SoundAt pre ["read", s]
      (match readerRead pre n with
        | .ok (bs, b') => (s!"{bs.length} {toHex bs}", some b')
        | .panic => ("panic", none)) := by
  obtain ⟨post, h1, h2, _⟩ := readerRead_spec pre n hwf
  have hm := moved_copyToSlice hwf (Nat.min_le_left _ _) h1
  rw [remaining_eq pre hwf] at h1 h2
  rw [h1]
  have hlen : ((den pre).take (min (den pre).length n)).length = min (den pre).length n :=
    List.length_take.trans (Nat.min_eq_left (Nat.min_le_left _ _))
  refine .of_moved [toString (min (den pre).length n), toHex ((den pre).take (min (den pre).length n))]
    (by rw [hlen]; rfl) (.cons (tok_nat _) (.cons (tok_toHex_take hb _) .nil)) ?_ hm
  conv => lhs; whnf
  simp [hs, h2]

/-- `setlimit` is not a property operation: the oracle has no opinion -/
theorem sound_setlimit (pre : BufT) (s : String) (n : Nat) :
    SoundAt pre ["setlimit", s]
      (match setLimit pre n with | some b' => ("ok", some b') | none => ("na", some pre)) := by
  have ho : ∀ ws post, oracle pre ["setlimit", s] ws post = none := fun _ _ => by rfl
  have hc : consuming ["setlimit", s] = false := by rfl
  cases setLimit pre n with
  | some b' => exact ⟨["ok"], rfl, .cons (.lit "ok") .nil, ho _ _, fun h => nomatch hc.symm.trans h⟩
  | none => exact ⟨["na"], rfl, .cons (.lit "na") .nil, ho _ _, fun h => nomatch hc.symm.trans h⟩

/-- the text `modelOp` produces for `vec k` -/
def vecText (sl : List Bs) : String :=
  s!"{sl.length} " ++ (if sl.isEmpty then "." else String.intercalate "," (sl.map toHex)) ++ " untouched=1"

theorem vecText_eq (sl : List Bs) :
    vecText sl = " ".intercalate [toString sl.length, if sl.isEmpty then "." else commaHex sl, "untouched=1"] := by
  apply String.toList_inj.1
  have hts : ∀ s : String, toString s = s := fun _ => rfl
  simp [vecText, commaHex, hts]

/-- the `vec` rule on parsed values -/
theorem oracle_vec {pre : BufT} {s cnt sl : String} {k : Nat} {sls : List Bs} (post : Option BufT)
    (hs : s.toNat? = some k) (hc : cnt.toNat? = some sls.length)
    (hsl : (if sl == "." then some [] else (sl.splitOn ",").mapM parseHex) = some sls)
    (hlen : sls.length ≤ k) (hpre : sls.flatten <+: den pre)
    (hne : den pre = [] ∨ k = 0 ∨ ∃ t ∈ sls, t ≠ []) :
    oracle pre ["vec", s] [cnt, sl, "untouched=1"] post = none := by
  conv => lhs; whnf
  have hall : (!(den pre).isEmpty && decide (k > 0) && sls.all (·.isEmpty)) = false := by
    rcases hne with h | h | ⟨t, ht, hne⟩
    · simp [h]
    · simp [h]
    · have : sls.all (·.isEmpty) = false := by
        rw [Bool.eq_false_iff]; intro ha; exact hne (by simpa using List.all_eq_true.1 ha t ht)
      simp [this]
  simp only [hs, hc, hsl, decide_eq_false (Nat.not_lt.2 hlen), isPrefix_of_prefix hpre, hall,
    bne_self_eq_false, Bool.or_false, Bool.not_true, Bool.false_eq_true, if_false]

theorem sound_vec (pre : BufT) (hwf : wf pre) (hb : ∀ x ∈ den pre, x < 256)
    (s : String) (k : Nat) (hs : s.toNat? = some k) :
    SoundAt pre ["vec", s] (vecText (chunksVectored pre k), some pre) := by
  have hpre := chunksVectored_prefix pre k hwf
  have hbs : ∀ t ∈ chunksVectored pre k, ∀ x ∈ t, x < 256 := fun t ht x hx =>
    hb x (hpre.subset (List.mem_flatten.2 ⟨t, ht, hx⟩))
  have hne : den pre = [] ∨ k = 0 ∨ ∃ t ∈ chunksVectored pre k, t ≠ [] := by
    by_cases hd : den pre = []
    · exact .inl hd
    · by_cases hk : k = 0
      · exact .inr (.inl hk)
      · refine .inr (.inr (chunksVectored_nonempty pre k hwf ?_ (Nat.pos_of_ne_zero hk)))
        rw [remaining_eq pre hwf]; exact List.length_pos_iff.2 hd
  refine .of_moved _ (vecText_eq _) ?_
    (oracle_vec (some pre) hs (toNat_toString _) ?_ (chunksVectored_length pre k) hpre hne) (moved_refl pre)
  · refine .cons (tok_nat _) (.cons ?_ (.cons (.lit "untouched=1") .nil))
    cases hsl : chunksVectored pre k with
    | nil => exact .lit "."
    | cons t r => exact commaHex_tok t r (hsl ▸ hbs)
  · cases hsl : chunksVectored pre k with
    | nil => rfl
    | cons t r =>
      rw [hsl] at hbs
      have hnd : (commaHex (t :: r) == ".") = false := by
        rw [beq_eq_false_iff_ne]; exact commaHex_ne_dot _ hbs
      have hsp : (commaHex (t :: r)).splitOn "," = (t :: r).map toHex :=
        splitOn_intercalate_str "," ',' (by decide +kernel) _ (by simp) fun w hw hc => by
          obtain ⟨u, hu, rfl⟩ := List.mem_map.1 hw
          exact (hexAlphabet_sep _ ((hexTok_toHex u (hbs u hu)).2 _ hc)).2.1 rfl
      simp only [List.isEmpty_cons, Bool.false_eq_true, if_false, hnd, hsp]
      exact mapM_parseHex _ hbs

/-- the width test in the form the oracles evaluate it -/
theorem tooWide_iff (sp : Spec) (nb : Nat) :
    ((sp.kind == .varUint || sp.kind == .varInt) && decide (nb > 8)) = true ↔
      (sp.kind = .varUint ∨ sp.kind = .varInt) ∧ 8 < nb := by
  cases sp.kind <;> simp

theorem sound_get (cfg : Cfg) (pre : BufT) (hwf : wf pre) (hb : ∀ x ∈ den pre, x < 256)
    (name : String) (rest : List String) (row : Row) (hrow : findRow name = some row) :
    SoundAt pre ("get" :: name :: rest)
      (showOut (evalBody cfg signExtForm row.body ((rest.head?.bind (·.toNat?)).getD 0) pre)) := by
  have hok : rowOK signExtForm row = true :=
    List.all_eq_true.mp Cert.C10.getters_ok row (List.mem_of_find?_eq_some hrow)
  have hrem := remaining_eq pre hwf
  generalize hnb : (rest.head?.bind (·.toNat?)).getD 0 = nb
  by_cases hvar : ((row.spec.kind == .varUint || row.spec.kind == .varInt) && decide (nb > 8)) = true
  · obtain ⟨hk, hn⟩ := (tooWide_iff _ _).1 hvar
    rw [get_too_wide cfg signExtForm row hok pre nb hk hn]
    refine .panic ?_
    conv => lhs; whnf; rw [hrow]
    simp only [hnb, hvar, if_true]
    rfl
  · have hw : widthOK row.spec nb :=
      widthOK_iff.2 fun hk => Nat.not_lt.1 fun h8 => hvar ((tooWide_iff _ _).2 ⟨hk, h8⟩)
    by_cases hs : row.spec.size nb ≤ remaining pre
    · obtain ⟨post, h1, h2, _⟩ := get_ok cfg signExtForm row hok pre hwf hb nb hw hs
      rw [h1]
      refine .of_moved ["v", toString (decode row.spec ((den pre).take (row.spec.size nb)))] rfl
        (.cons (.lit "v") (.cons (tok_int _) .nil)) ?_ (evalBody_moved _ _ _ _ _ hwf _ _ h1)
      conv => lhs; whnf; rw [hrow]
      simp [hnb, hvar, hrem ▸ hs, h2]
    · rw [get_short cfg signExtForm row hok pre hwf nb hw (Nat.lt_of_not_le hs)]
      cases ht : row.spec.isTry with
      | true =>
        refine .of_moved ["e", toString (row.spec.size nb), toString (remaining pre)] rfl
          (.cons (.lit "e") (.cons (tok_nat _) (.cons (tok_nat _) .nil))) ?_ (moved_refl pre)
        conv => lhs; whnf; rw [hrow]
        simp [hnb, hvar, hrem ▸ hs, ht, hrem]
      | false =>
        refine .panic ?_
        conv => lhs; whnf; rw [hrow]
        simp [hnb, hvar, hrem ▸ hs, ht]

/-- Read side, all operations the judge understands. -/
theorem read_sound_tokens (cfg : Cfg) (pre : BufT) (hwf : wf pre)
    (hb : ∀ x ∈ den pre, x < 256) (op : List String) (r : String × Option BufT)
    (h : modelOp cfg pre op = some r) : SoundAt pre op r := by
  unfold modelOp at h
  split at h
  · cases h; exact sound_rem pre hwf
  · cases h; exact sound_chunk pre hwf hb _ fun _ => rfl
  · cases h; exact sound_chunk pre hwf hb _ fun _ => by rfl
  · obtain ⟨n, hs, rfl⟩ := Option.map_eq_some_iff.1 h
    exact sound_adv pre hwf _ _ n hs fun _ _ => by rfl
  · obtain ⟨n, hs, rfl⟩ := Option.map_eq_some_iff.1 h
    exact sound_adv pre hwf _ _ n hs fun _ _ => by rfl
  · obtain ⟨k, hs, rfl⟩ := Option.map_eq_some_iff.1 h
    exact sound_vec pre hwf hb _ k hs
  · obtain ⟨n, hs, rfl⟩ := Option.map_eq_some_iff.1 h
    exact sound_copy pre hwf hb _ _ n copyToSlice hs (fun _ _ => by rfl)
      (fun hn => (copyToSlice_ok pre n hwf hn).imp fun _ h => ⟨h.1, h.2.1, moved_copyToSlice hwf hn h.1⟩)
      (copyToSlice_panic pre n)
  · obtain ⟨n, hs, rfl⟩ := Option.map_eq_some_iff.1 h
    exact sound_trycopy pre hwf hb _ n hs
  · obtain ⟨n, hs, rfl⟩ := Option.map_eq_some_iff.1 h
    exact sound_copy pre hwf hb _ _ n copyToBytes hs (fun _ _ => by rfl)
      (fun hn => (copyToBytes_ok pre n hwf hn).imp fun _ h => ⟨h.1, h.2.1, moved_copyToBytes hwf hn h.1⟩)
      (copyToBytes_panic pre n hwf)
  · cases h; exact sound_next pre hwf
  · obtain ⟨n, hs, rfl⟩ := Option.map_eq_some_iff.1 h
    exact sound_read pre hwf hb _ n hs
  · obtain ⟨n, hs, rfl⟩ := Option.map_eq_some_iff.1 h
    exact sound_setlimit pre _ n
  · obtain ⟨row, hr, rfl⟩ := Option.map_eq_some_iff.1 h
    exact sound_get cfg pre hwf hb _ _ row hr
  · cases h

/-- Read side, as the judge evaluates it: on the tokenized result text of the model. -/
theorem read_oracle_sound (cfg : Cfg) (pre : BufT) (hwf : wf pre) (hb : ∀ x ∈ den pre, x < 256)
    (op : List String) (mres : String) (mpost : Option BufT)
    (h : modelOp cfg pre op = some (mres, mpost)) :
    oracle pre op (words mres) mpost = none ∧
      (consuming op = true → ∀ post, mpost = some post → innerOracle pre post = none) := by
  obtain ⟨ws, rfl, htok, h1, h2⟩ := read_sound_tokens cfg pre hwf hb op _ h
  rw [words_join ws htok]
  exact ⟨h1, h2⟩

/-- the result words `nthOracle` demands -/
def nthWant (D : Bs) (k : Nat) : List String :=
  match D[k]? with | some x => ["some", toString x] | none => ["none"]

theorem nthWant_tok (D : Bs) (k : Nat) : Toks (nthWant D k) := by
  unfold nthWant
  split
  · exact .cons (.lit "some") (.cons (tok_nat _) .nil)
  · exact .cons (.lit "none") .nil

/-- what `nthModel` (`Iterator::nth`: `k + 1` times `next`) computes, on parsed values; it never
panics on a well-formed tree -/
theorem nthModel_spec (k : Nat) (pre : BufT) (hwf : wf pre) :
    ∃ post, nthModel k pre = (" ".intercalate (nthWant (den pre) k), some post) ∧
      den post = (den pre).drop (k + 1) ∧ wf post := by
  induction k generalizing pre with
  | zero =>
    cases hd : den pre with
    | nil => exact ⟨pre, by simp only [nthModel, iterNext_none pre hwf hd]; rfl, by rw [hd]; rfl, hwf⟩
    | cons x r =>
      obtain ⟨post, h1, h2, h3⟩ := iterNext_some pre hwf x r hd
      exact ⟨post, by simp only [nthModel, h1]; rfl, by rw [h2]; rfl, h3⟩
  | succ k ih =>
    cases hd : den pre with
    | nil => exact ⟨pre, by simp only [nthModel, iterNext_none pre hwf hd]; rfl, by rw [hd]; rfl, hwf⟩
    | cons x r =>
      obtain ⟨b', h1, h2, h3⟩ := iterNext_some pre hwf x r hd
      obtain ⟨post, h4, h5, h6⟩ := ih b' h3
      refine ⟨post, ?_, by rw [h5, h2]; rfl, h6⟩
      simp only [nthModel, h1]
      rw [h4, h2]
      simp only [nthWant, List.getElem?_cons_succ]

/-- `s` is any decimal text of `k`, e.g. with leading zeros -/
theorem sound_nth (pre : BufT) (hwf : wf pre) (s : String) (k : Nat) (hs : s.toNat? = some k) :
    ∃ ws, (nthModel k pre).1 = " ".intercalate ws ∧ Toks ws ∧
      nthOracle pre ["nth", s] ws (nthModel k pre).2 = none := by
  obtain ⟨post, h1, h2, _⟩ := nthModel_spec k pre hwf
  refine ⟨nthWant (den pre) k, by rw [h1], nthWant_tok _ _, ?_⟩
  rw [h1]
  simp only [nthOracle, hs, Option.bind_some, Option.map_some, h2]
  cases hk : (den pre)[k]? <;> simp [nthWant, hk]

set_option linter.unusedVariables false in
/-- On the tokenized result text of `nthModel` and its post-state `nthOracle` is silent.  (`hb` is
not needed: the answer contains no hex text.) -/
theorem nth_oracle_sound (pre : BufT) (hwf : wf pre) (hb : ∀ x ∈ den pre, x < 256) (k : Nat) :
    let r := nthModel k pre
    nthOracle pre ["nth", toString k] (words r.1) r.2 = none := by
  obtain ⟨ws, h1, htok, h2⟩ := sound_nth pre hwf (toString k) k (toNat_toString k)
  show nthOracle pre ["nth", toString k] (words (nthModel k pre).1) (nthModel k pre).2 = none
  rw [h1, words_join ws htok]
  exact h2

/-- the judge's combined check `(nthOracle …).orElse fun _ => oracle …` for `nth k`, as `BufJ.step`
evaluates it on the model's own answer (`modelOpX`); `nth` is not a `consuming` operation for the
judge, so the C12 inner-state oracle is not consulted. -/
theorem nth_judge_sound (cfg : Cfg) (pre : BufT) (hwf : wf pre) (s : String) (mres : String)
    (mpost : Option BufT) (h : modelOpX cfg pre ["nth", s] = some (mres, mpost)) :
    ((nthOracle pre ["nth", s] (words mres) mpost).orElse
      fun _ => oracle pre ["nth", s] (words mres) mpost) = none ∧ consuming ["nth", s] = false := by
  obtain ⟨k, hs, hk⟩ := Option.map_eq_some_iff.1 (show s.toNat?.map (nthModel · pre) = _ from h)
  obtain ⟨ws, h1, htok, h2⟩ := sound_nth pre hwf s k hs
  rw [hk] at h1 h2
  subst h1
  rw [words_join ws htok, h2]
  exact ⟨by rfl, by rfl⟩

end Read

section Write
open BytesVerif.BufMut BytesVerif.PutCodec BytesVerif.Judge.MutJ

/-- the operations on which `judgeOp` evaluates the inner-state oracle -/
def isWriteOp (op : List String) : Bool :=
  ["putslice", "putbytes", "putbuf", "put", "write"].contains (op.headD "")

def SoundAtM (pre : MutT) (op : List String) (mres : String) (mpost : Option MutT) : Prop :=
  MutJ.oracle pre op mres mpost = none ∧
    (isWriteOp op = true → ∀ post, mpost = some post → MutJ.innerOracle pre post = none)

theorem fitsB_iff (t : MutT) (n : Nat) : fitsB t n = true ↔ fits t n := by
  unfold fitsB fits
  cases roomOpt t <;> simp

/-- An operation `specBytes` knows is judged by the last branch of `MutJ.oracle`: by the bytes `bs`
it is specified to append (the `appended` rule), or, where it must panic whatever the room
(`nbytes > 8`), by having no post-state. -/
theorem oracle_of_spec (pre : MutT) (op : List String) (res : String) (post : Option MutT)
    (x : Option Bs) (hspec : specBytes op = some x)
    (h : match x with
      | some bs =>
        (fits pre bs.length → ∃ p, post = some p ∧ written p = written pre ++ bs ∧
          roomOpt p = (roomOpt pre).map (· - bs.length)) ∧
        (remainingMut pre < bs.length → post = none)
      | none => post = none) : MutJ.oracle pre op res post = none := by
  unfold MutJ.oracle
  dsimp only
  split
  · cases (show specBytes ["remmut"] = none by rfl).symm.trans hspec
  · cases (show specBytes ["chunkmut"] = none by rfl).symm.trans hspec
  · cases (show specBytes ["write", _] = none by rfl).symm.trans hspec
  · cases (show specBytes ["flush"] = none by rfl).symm.trans hspec
  · rw [hspec]
    cases x with
    | none => rw [show post = none from h]; rfl
    | some bs =>
      obtain ⟨hA, hB⟩ := h
      dsimp only
      by_cases hf : fitsB pre bs.length = true
      · obtain ⟨p, rfl, h1, h2⟩ := hA ((fitsB_iff _ _).1 hf)
        simp [hf, h1, h2]
      · by_cases hr : remainingMut pre < bs.length
        · simp [hf, hB hr]
        · simp [hf, hr]

/-- what the C12 inner-state oracle checks, from the write-loop relation -/
theorem innerOracle_wr {e : Env} (he : e.ok) {pre post : MutT} {bs : Bs} (hwr : Wr e pre bs post)
    (ho : ordM pre) : MutJ.innerOracle pre post = none := by
  have hwe := ((hwr.spec he).2.2.2 ho).1
  have hk : (written post).length - (written pre).length = bs.length := by
    rw [hwe, List.length_append]; exact Nat.add_sub_cancel_left ..
  cases pre with
  | limit i lim =>
    obtain ⟨i', rfl⟩ := hwr.limit_shape i lim rfl
    simp only [written] at hwe hk
    simp [MutJ.innerOracle, written, hwe]
  | chain a b =>
    obtain ⟨a', b', rfl, h1, h2⟩ := hwr.chain_shape he a b rfl ho.1
    simp only [MutJ.innerOracle, hk]
    cases hra : roomOpt a with
    | some ra =>
      simp only [h1 ra hra, List.length_append, List.length_take]
      simp [Nat.min_comm]
    | none =>
      simp only [h2 hra, hwe]
      simp
  | _ => rfl

theorem innerOracle_putSlice (e : Env) (he : e.ok) (pre post : MutT) (bs : Bs) (h : wfM pre) (ho : ordM pre)
    (hl : noHardLimit pre (bs.length + 64)) (hw : bs.length < W)
    (hp : putSlice e pre bs = .ok post) : MutJ.innerOracle pre post = none := by
  have hrem : ¬ remainingMut pre < bs.length := fun hr => by
    rw [putSlice_panic e pre bs h hr] at hp; cases hp
  -- `Limit` and `Chain` have the default `put_slice`, a loop over `chunk_mut`
  have hdef : putSlice e pre bs = putSliceDefault e pre bs → MutJ.innerOracle pre post = none := by
    intro hd
    rw [hd, putSliceDefault, if_neg hrem] at hp
    obtain ⟨t', h1, hwr⟩ := putLoop_wr e he (bs.length + 1) _ bs (Nat.le_succ _)
      ⟨h, fits_of_le (Nat.le_of_not_lt hrem), hl⟩ hw
    rw [hp] at h1; cases h1
    exact innerOracle_wr he hwr ho
  cases pre with
  | limit i lim => exact hdef (putSlice_limit ..)
  | chain a b => exact hdef (putSlice_chain ..)
  | _ => rfl

/-- post-state and result text of the operations that answer `ok` or panic -/
def finPost (r : Res MutT) : Option MutT := match r with | .ok t' => some t' | .panic => none
@[inherit_doc finPost]
def finRes (r : Res MutT) : String := match r with | .ok _ => "ok" | .panic => "panic"

/-- a statement about `finRes` / `finPost` is one about the pair `modelOp` builds -/
theorem of_fin {P : String → Option MutT → Prop} {r : Res MutT} {mres : String} {mpost : Option MutT}
    (hm : (match r with | Res.ok t' => ("ok", some t') | Res.panic => ("panic", none)) = (mres, mpost))
    (h : P (finRes r) (finPost r)) : P mres mpost := by
  cases r <;> cases hm <;> exact h

/-- every operation that is specified by the bytes it appends and modelled by `putSlice` -/
theorem sound_putSlice_op (e : Env) (he : e.ok) (pre : MutT) (op : List String) (bs : Bs)
    (h : wfM pre) (ho : ordM pre) (hl : noHardLimit pre (bs.length + 64)) (hw : bs.length < W)
    (hspec : specBytes op = some (some bs)) :
    SoundAtM pre op (finRes (putSlice e pre bs)) (finPost (putSlice e pre bs)) := by
  refine ⟨oracle_of_spec pre op _ _ _ hspec ⟨fun hf => ?_, fun hr => ?_⟩, fun _ post hp => ?_⟩
  · obtain ⟨t', h1, h2, _, h4⟩ := putSlice_ok e he pre bs h ho hf hl hw
    exact ⟨t', by rw [h1]; rfl, h2, h4⟩
  · rw [putSlice_panic e pre bs h hr]; rfl
  · cases hps : putSlice e pre bs with
    | panic => rw [hps] at hp; cases hp
    | ok t' =>
      rw [hps] at hp
      cases hp
      exact innerOracle_putSlice e he pre _ bs h ho hl hw hps

/-- `hl`: a growable target below a `limit` is not within `r` bytes of its hard limit, the side
condition of `remainingMut_fixed` -/
theorem sound_remmut (pre : MutT) (h : wfM pre)
    (hl : ∀ r, roomOpt pre = some r → r < isizeMax / 2 → noHardLimit pre r) :
    SoundAtM pre ["remmut"] (toString (remainingMut pre)) (some pre) := by
  refine ⟨?_, by simp [isWriteOp]⟩
  conv => lhs; whnf
  cases hr : roomOpt pre with
  | none => rfl
  | some r =>
    by_cases hlt : r < isizeMax / 2
    · have hW : r < W := Nat.lt_trans hlt (by decide)
      rw [remainingMut_fixed pre h r hr hW (hl r hr hlt)]
      simp
    · simp [hlt]

theorem sound_chunkmut (e : Env) (he : e.ok) (pre : MutT) (h : wfM pre) (hl : noHardLimit pre 64) :
    SoundAtM pre ["chunkmut"] (toString (chunkMut e pre).1) (some (chunkMut e pre).2) := by
  refine ⟨?_, by simp [isWriteOp]⟩
  obtain ⟨h1, h2, h3, _, _⟩ := chunkMut_spec e he pre h hl
  have h1' : ((chunkMut e pre).1 == 0) = (remainingMut pre == 0) := by
    rw [Bool.eq_iff_iff]; simpa using h1
  conv => lhs; whnf
  simp [h1', Nat.not_lt.2 h2, h3]

/-- `Writer::write`: `min(remaining_mut, len)` bytes go through `put_slice` -/
theorem sound_write (e : Env) (he : e.ok) (pre : MutT) (hx : String) (bs : Bs) (hp : parseHex hx = some bs)
    (h : wfM pre) (ho : ordM pre) (hl : noHardLimit pre (bs.length + 64)) (hw : bs.length < W) :
    SoundAtM pre ["write", hx]
      (match writerWrite e pre bs with | .ok (n, _) => toString n | .panic => "panic")
      (match writerWrite e pre bs with | .ok (_, t') => some t' | .panic => none) := by
  have hlen : (bs.take (min (remainingMut pre) bs.length)).length = min (remainingMut pre) bs.length :=
    List.length_take.trans (Nat.min_eq_left (Nat.min_le_right _ _))
  have hle : (bs.take (min (remainingMut pre) bs.length)).length ≤ bs.length :=
    hlen.symm ▸ Nat.min_le_right _ _
  have hl' := noHardLimit_mono (Nat.add_le_add_right hle 64) hl
  have hw' := Nat.lt_of_le_of_lt hle hw
  obtain ⟨t', h1, h2, _⟩ := putSlice_ok e he pre (bs.take (min (remainingMut pre) bs.length)) h ho
    (fits_of_le (hlen.symm ▸ Nat.min_le_left _ _)) hl' hw'
  have hww : writerWrite e pre bs = .ok (min (remainingMut pre) bs.length, t') := by
    simp only [writerWrite, h1]; rfl
  rw [hww]
  refine ⟨?_, fun _ post hpost => ?_⟩
  · conv => lhs; whnf
    simp [hp, h2]
  · cases hpost
    exact innerOracle_putSlice e he pre t' _ h ho hl' hw' h1

/-- `put(src: impl Buf)`: everything the oracles look at -/
theorem putBuf_full (e : Env) (he : e.ok) (t : MutT) (src : BufT) (h : wfM t) (ho : ordM t) (hs : wf src)
    (hf : fits t (remaining src)) (hl : noHardLimit t (remaining src + 64)) :
    ∃ t' src', putBuf e t src = .ok (t', src') ∧ written t' = written t ++ den src ∧
      roomOpt t' = (roomOpt t).map (· - (den src).length) ∧ MutJ.innerOracle t t' = none := by
  rcases putBuf_run e he t src hs ⟨h, hf, hl⟩ with
    ⟨k, p, w, sp, t', src', rfl, h1, ⟨w', sp', rfl⟩, -, -, h4⟩ | ⟨t', src', h1, hwr, -⟩
  · exact ⟨_, src', h1, h4, rfl, rfl⟩
  · exact ⟨t', src', h1, ((hwr.spec he).2.2.2 ho).1, (hwr.spec he).2.1, innerOracle_wr he hwr ho⟩

/-- `hs`: the source described in the trace is a well-formed buffer -/
theorem sound_putbuf (e : Env) (he : e.ok) (pre : MutT) (srcw : List String) (s : BufT)
    (hp : BufJ.parseTreeAll srcw = some s) (hs : wf s)
    (h : wfM pre) (ho : ordM pre) (hl : noHardLimit pre (remaining s + 64)) :
    SoundAtM pre ("putbuf" :: srcw) (finRes ((putBuf e pre s).map (·.1))) (finPost ((putBuf e pre s).map (·.1))) := by
  have hrem := remaining_eq s hs
  have hspec : specBytes ("putbuf" :: srcw) = some (some (den s)) := by
    simp only [specBytes, hp, Option.map_some]
  by_cases hr : remainingMut pre < remaining s
  · rw [putBuf_panic e pre s hr]
    refine ⟨oracle_of_spec pre _ _ _ _ hspec ⟨fun hf => ?_, fun _ => rfl⟩, fun _ post hpost => nomatch hpost⟩
    exact absurd hr (Nat.not_lt.2 ((⟨h, hrem ▸ hf, hl⟩ : Inv pre (remaining s)).rem_ge (remaining_lt_W s hs)))
  · obtain ⟨t', src', h1, h2, h3, h4⟩ := putBuf_full e he pre s h ho hs (fits_of_le (Nat.le_of_not_lt hr)) hl
    rw [h1]
    refine ⟨oracle_of_spec pre _ _ _ _ hspec ⟨fun _ => ⟨t', rfl, h2, h3⟩, fun hlt => ?_⟩, fun _ post hpost => ?_⟩
    · exact absurd (hrem ▸ hlt) hr
    · cases hpost; exact h4

theorem sound_put (e : Env) (he : e.ok) (pre : MutT) (name sv : String) (rest : List String)
    (row : PutRow) (val : Int) (hrow : MutJ.findRow name = some row) (hv : sv.toInt? = some val)
    (h : wfM pre) (ho : ordM pre) (hl : noHardLimit pre (16 + 64)) :
    SoundAtM pre ("put" :: name :: sv :: rest)
      (finRes (evalPut e row.body val ((rest.head?.bind (·.toNat?)).getD 0) pre))
      (finPost (evalPut e row.body val ((rest.head?.bind (·.toNat?)).getD 0) pre)) := by
  have hok : putRowOK row = true :=
    List.all_eq_true.mp Cert.C11.putters_ok row (List.mem_of_find?_eq_some hrow)
  have hspec : specBytes ("put" :: name :: sv :: rest) =
      (let nb := (rest.head?.bind (·.toNat?)).getD 0
       if (row.spec.kind == .varUint || row.spec.kind == .varInt) && nb > 8 then some none
       else some (some (encode row.spec val nb))) := by
    simp only [specBytes, hrow, hv]
  generalize (rest.head?.bind (·.toNat?)).getD 0 = nb at hspec ⊢
  dsimp only at hspec
  by_cases hvar : ((row.spec.kind == .varUint || row.spec.kind == .varInt) && decide (nb > 8)) = true
  · obtain ⟨hk, hn⟩ := (tooWide_iff _ _).1 hvar
    rw [put_too_wide e row hok val nb hk hn pre]
    rw [if_pos hvar] at hspec
    exact ⟨oracle_of_spec pre _ _ _ _ hspec rfl, fun _ post hp => nomatch hp⟩
  · rw [if_neg hvar] at hspec
    have hn : (row.spec.kind = .varUint ∨ row.spec.kind = .varInt) → nb ≤ 8 :=
      fun hk => Nat.not_lt.1 fun h8 => hvar ((tooWide_iff _ _).2 ⟨hk, h8⟩)
    have hbb := bodyBytes_eq_encode row hok val nb hn
    have h16 := size_le_16 row hok nb hn
    have hlen := encode_length row.spec val nb
    have hev : evalPut e row.body val nb pre = putSlice e pre (encode row.spec val nb) := by
      simp only [evalPut, hbb]
    rw [hev]
    exact sound_putSlice_op e he pre _ _ h ho (noHardLimit_mono (hlen ▸ Nat.add_le_add_right h16 64) hl)
      (hlen ▸ Nat.lt_of_le_of_lt h16 (by decide)) hspec

/-- the number of bytes an operation offers to the target (for `put <method>`: the widest method) -/
def opLen (op : List String) : Nat :=
  match op with
  | ["putslice", h] => ((parseHex h).getD []).length
  | ["write", h] => ((parseHex h).getD []).length
  | ["putbytes", _, c] => c.toNat?.getD 0
  | "putbuf" :: src => ((BufJ.parseTreeAll src).map remaining).getD 0
  | "put" :: _ => 16
  | _ => 0

/-- the source buffer of a `putbuf` is a well-formed `Buf` (what the environment guarantees) -/
def SrcOK (op : List String) : Prop :=
  ∀ src s, op = "putbuf" :: src → BufJ.parseTreeAll src = some s → wf s

/-- Write side, all operations: on the model's own answer neither the C11/C12 property oracle nor
(for the writing operations) the C12 inner-state oracle fires.  Hypotheses = those of the C11
theorems: allocator within its contract (`e.ok`), well-formed target in write order (`wfM`, `ordM`),
no growable leaf within `opLen op + 64` bytes of `isize::MAX` (`noHardLimit`), the write fits `usize`,
for `remmut` the side condition of `remainingMut_fixed`, for `putbuf` a well-formed source. -/
theorem write_sound (e : Env) (he : e.ok) (pre : MutT) (h : wfM pre) (ho : ordM pre) (op : List String)
    (hl : noHardLimit pre (opLen op + 64)) (hw : opLen op < W)
    (hrm : op = ["remmut"] → ∀ r, roomOpt pre = some r → r < isizeMax / 2 → noHardLimit pre r)
    (hsrc : SrcOK op) (mres : String) (mpost : Option MutT)
    (hm : MutJ.modelOp e pre op = some (mres, mpost)) : SoundAtM pre op mres mpost := by
  unfold MutJ.modelOp at hm
  split at hm
  · cases hm; exact sound_remmut pre h (hrm rfl)
  · cases hm; exact sound_chunkmut e he pre h (noHardLimit_mono (Nat.le_add_left _ _) hl)
  · obtain ⟨bs, hp, hm⟩ := Option.map_eq_some_iff.1 hm
    simp only [opLen, hp, Option.getD_some] at hl hw
    exact of_fin hm (sound_putSlice_op e he pre _ bs h ho hl hw (by simp only [specBytes, hp, Option.map_some]))
  · split at hm
    next v c hv hc =>
      simp only [opLen, hc, Option.getD_some] at hl hw
      have hlen : (List.replicate c v).length = c := List.length_replicate
      exact of_fin (Option.some.inj hm) (sound_putSlice_op e he pre _ (List.replicate c v) h ho
        (hlen.symm ▸ hl) (hlen.symm ▸ hw) (by simp only [specBytes, hv, hc]))
    next => cases hm
  · obtain ⟨s, hp, hm⟩ := Option.map_eq_some_iff.1 hm
    simp only [opLen, hp, Option.map_some, Option.getD_some] at hl
    exact of_fin hm (sound_putbuf e he pre _ s hp (hsrc _ s rfl hp) h ho hl)
  · split at hm
    next row val hrow hv =>
      exact of_fin (Option.some.inj hm) (sound_put e he pre _ _ _ row val hrow hv h ho hl)
    next => cases hm
  · obtain ⟨bs, hp, hm⟩ := Option.map_eq_some_iff.1 hm
    simp only [opLen, hp, Option.getD_some] at hl hw
    have := sound_write e he pre _ bs hp h ho hl hw
    cases hr : writerWrite e pre bs with
    | panic => rw [hr] at hm this; cases hm; exact this
    | ok p => rw [hr] at hm this; cases hm; exact this
  · cases hm; exact ⟨by rfl, by simp [isWriteOp]⟩
  · exact ⟨by rfl, by simp [isWriteOp]⟩
  · cases hm

/-- the same with one uniform size assumption: no growable leaf more than half full (2^62 bytes),
and the operation offers fewer than 2^62 - 64 bytes -/
theorem write_sound' (e : Env) (he : e.ok) (pre : MutT) (h : wfM pre) (ho : ordM pre) (op : List String)
    (hl : noHardLimit pre (isizeMax / 2)) (hlen : opLen op + 64 ≤ isizeMax / 2)
    (hsrc : SrcOK op) (mres : String) (mpost : Option MutT)
    (hm : MutJ.modelOp e pre op = some (mres, mpost)) : SoundAtM pre op mres mpost :=
  write_sound e he pre h ho op (noHardLimit_mono hlen hl)
    (Nat.lt_of_le_of_lt (Nat.le_trans (Nat.le_add_right _ _) hlen) (by decide))
    (fun _ r _ hr => noHardLimit_mono (Nat.le_of_lt hr) hl) hsrc mres mpost hm

theorem defaultEnv_ok : defaultEnv.ok := by
  refine ⟨fun len hlen => ⟨Nat.le_refl _, hlen⟩, fun len spare n hlen => ?_⟩
  simp only [defaultEnv]; omega

/-- … for the allocator model the judge itself runs (`judgeOp` calls `modelOp defaultEnv`) -/
theorem write_sound_default (pre : MutT) (h : wfM pre) (ho : ordM pre) (op : List String)
    (hl : noHardLimit pre (isizeMax / 2)) (hlen : opLen op + 64 ≤ isizeMax / 2)
    (hsrc : SrcOK op) (mres : String) (mpost : Option MutT)
    (hm : MutJ.modelOp defaultEnv pre op = some (mres, mpost)) : SoundAtM pre op mres mpost :=
  write_sound' defaultEnv defaultEnv_ok pre h ho op hl hlen hsrc mres mpost hm

/-- "a write that does not fit must panic" (`isWrite && mres == "panic" && res != "panic"`): it
compares the model's answer with the implementation's, so on the model's own answer it is vacuous. -/
theorem doesNotFit_rule_silent (isWrite : Bool) (mres : String) :
    (isWrite && mres == "panic" && mres != "panic") = false := by
  cases isWrite <;> simp

/-- Target descriptions of the `m` lines (grammar of `harness/src/mutstream.rs::parse`). -/
inductive Desc where
  | vec (pre : Bs) (cap : Nat)
  | bmut (pre : Bs) (cap : Nat)
  | slice (n : Nat)
  | uninit (n : Nat)
  | chain (a b : Desc)
  | limit (n : Nat) (i : Desc)
  | ref (i : Desc)
  | box (i : Desc)

def Desc.tokens : Desc → List String
  | .vec pre cap => ["vec", toHex pre, toString cap]
  | .bmut pre cap => ["bmut", toHex pre, toString cap]
  | .slice n => ["slice", toString n]
  | .uninit n => ["uninit", toString n]
  | .chain a b => "chain" :: (a.tokens ++ b.tokens)
  | .limit n i => "limit" :: toString n :: i.tokens
  | .ref i => "ref" :: i.tokens
  | .box i => "box" :: i.tokens

/-- the freshly built target a description denotes (spare capacity = what was asked for) -/
def Desc.fresh : Desc → MutT
  | .vec pre cap => .grow .vec pre [] (cap - pre.length)
  | .bmut pre cap => .grow .bytesMut pre [] (cap - pre.length)
  | .slice n => .fixed .slice [] n
  | .uninit n => .fixed .uninit [] n
  | .chain a b => .chain a.fresh b.fresh
  | .limit n i => .limit i.fresh n
  | .ref i => .refMut i.fresh
  | .box i => .box i.fresh

def Desc.bytesOK : Desc → Prop
  | .vec pre _ => ∀ x ∈ pre, x < 256
  | .bmut pre _ => ∀ x ∈ pre, x < 256
  | .chain a b => a.bytesOK ∧ b.bytesOK
  | .limit _ i => i.bytesOK
  | .ref i => i.bytesOK
  | .box i => i.bytesOK
  | _ => True

theorem ne_limit {w : String} (h : 'l' ∉ w.toList) : w ≠ "limit" :=
  fun he => h (by rw [he]; simp)

theorem nat_ne_limit (n : Nat) : toString n ≠ "limit" := by
  refine ne_limit fun hc => ?_
  rw [show toString n = Nat.repr n from rfl, Nat.toList_repr] at hc
  exact absurd (Nat.isDigit_of_mem_toDigits (by decide) (by decide) hc) (by decide)

theorem hex_ne_limit (bs : Bs) (h : ∀ x ∈ bs, x < 256) : toHex bs ≠ "limit" :=
  ne_limit fun hc => (hexAlphabet_sep _ ((hexTok_toHex bs h).2 _ hc)).2.2.2 rfl

theorem descLimits_skip (w : String) (rest : List String) (h : w ≠ "limit") :
    descLimits (w :: rest) = descLimits rest := by
  rw [descLimits]
  intro n r he
  exact absurd he h

theorem descLimits_tokens (d : Desc) (hb : d.bytesOK) (rest : List String) :
    descLimits (d.tokens ++ rest) = limitsOf d.fresh ++ descLimits rest := by
  induction d generalizing rest with
  | vec pre cap | bmut pre cap =>
    simp only [Desc.tokens, List.cons_append, List.nil_append, Desc.fresh, limitsOf]
    rw [descLimits_skip _ _ (by simp), descLimits_skip _ _ (hex_ne_limit pre hb),
      descLimits_skip _ _ (nat_ne_limit cap)]
  | slice n | uninit n =>
    simp only [Desc.tokens, List.cons_append, List.nil_append, Desc.fresh, limitsOf]
    rw [descLimits_skip _ _ (by simp), descLimits_skip _ _ (nat_ne_limit n)]
  | chain a b iha ihb =>
    simp only [Desc.tokens, List.cons_append, List.append_assoc, Desc.fresh, limitsOf]
    rw [descLimits_skip _ _ (by simp), iha hb.1, ihb hb.2]
  | limit n i ih =>
    simp only [Desc.tokens, List.cons_append, Desc.fresh, limitsOf]
    rw [descLimits, ih hb]
    simp
  | ref i ih | box i ih =>
    simp only [Desc.tokens, List.cons_append, Desc.fresh, limitsOf]
    rw [descLimits_skip _ _ (by simp), ih hb]

/-- the initial-limit rule of `step` (`descLimits (words desc) != limitsOf t`) is silent when the
first state is the fresh target the description denotes -/
theorem initialLimit_rule_silent (d : Desc) (hb : d.bytesOK) :
    (descLimits d.tokens != limitsOf d.fresh) = false := by
  have := descLimits_tokens d hb []
  simp only [List.append_nil, descLimits] at this
  simp [this]

/-! Each hypothesis is needed: without it the oracle does fire on the model's own answer.  None of
these is a false alarm on a correct implementation: they are states / inputs the environment
excludes, and exactly the side conditions of the C09 / C10 / C11 theorems. -/

-- `ordM` (write order): the chain whose second half was written first; the model appends the new
-- byte *before* the old one in `written`, the oracle expects it after.
example : (MutJ.oracle badChain ["putslice", "01"] "ok"
    (finPost (putSlice defaultEnv badChain [1]))).isSome = true := by decide +kernel
-- bytes are `u8` (`hb`): a "byte" 256 renders as a non-hex digit and does not parse back.
example : (BufJ.oracle (.flat .slice [256]) ["chunk"] [toHex (chunk (.flat .slice [256]))]
    (some (.flat .slice [256]))).isSome = true := by decide +kernel
-- `wf` (VecDeque::as_slices puts the front part first): with an empty front slice the model's
-- `chunks_vectored` reports one empty slice although a byte remains.
example : chunksVectored (.deque [] [1]) 1 = [[]] := by decide +kernel
example : (BufJ.oracle (.deque [] [1]) ["vec", toString 1] [toString 1, commaHex [[]], "untouched=1"]
    (some (.deque [] [1]))).isSome = true := by
  have hsp : (commaHex [[]]).splitOn "," = [toHex []] :=
    splitOn_intercalate_str "," ',' (by decide +kernel) [toHex []] (by simp) (by decide +kernel)
  have hnd : (commaHex [[]] == ".") = false := by decide +kernel
  conv => lhs; arg 1; whnf
  simp only [toNat_toString, hnd, hsp]
  rfl

end Write

end BytesVerif.OracleSound
