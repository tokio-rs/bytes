/-
C18 (refinement) — the recycling model `Recycle.Rec` / `Recycle.reserve` (Model/Recycle.lean) is tied
to the M1 model (Model/Core.lean) by proof: `RecView s h r` relates a `BytesMut` handle `h` of an M1
state `s` to a record `r`; `reserve_refines_w` shows that `mutReserve` (= `BytesMut::reserve`, i.e.
`reserve_inner(additional, true)`) and `Recycle.reserve` take the same allocation decision, branch by
branch (`rr_vec`, `rr_arc`), under `WInv`, the part of the invariant of M1 the decision depends on;
`step_reserve_refines_strong` is the same for the API operation `Op.reserve` under `WFx`.
-/
import BytesVerif.Lemmas.Core.Sound
import BytesVerif.Lemmas.Core.OpsD
import BytesVerif.Model.Recycle
import BytesVerif.Props.C18
namespace BytesVerif.Core
namespace C18Refine
open OpsD
open BytesVerif.Recycle (Rec)

/-- size of the allocation behind a buffer pointer (`none`: no allocation, size 0) -/
def bufSizeL (R : List Region) : Option Nat → Nat
  | none => 0
  | some r => regionSizeL R r

/-- list-level form of `RecView` (it looks at the regions and the control blocks only) -/
def RecViewL (R : List Region) (C : List CtrlE) (h : Handle) (r : Rec) : Prop :=
  match h with
  | .mut none reg off len cap orig =>
    -- KIND_VEC: the handle owns its allocation, nobody else lives on it
    r.arc = false ∧ r.off = off ∧ r.len = len ∧ r.cap = cap ∧ r.orig = orig ∧
      r.A = bufSizeL R reg ∧ r.parts = 0
  | .mut (some c) _ off len cap _ =>
    -- KIND_ARC: the allocation is the vector of the control block `c`
    ∃ vreg vlen vcap vorig rc, C[c]? = some ⟨.sharedV vreg vlen vcap vorig, rc, true⟩ ∧
      r.arc = true ∧ r.off = off ∧ r.len = len ∧ r.cap = cap ∧ r.orig = vorig ∧
      r.A = vcap ∧ r.parts = rc - 1
  | _ => False

/-- **The abstraction relation** between a `BytesMut` handle `h` of the M1 state `s` and a record of
the recycling model.  `r.pinned` and `r.allocs` are not constrained.  A handle without a buffer
(`reg = none`, zero capacity) is covered with `A = 0`. -/
def RecView (s : St) (h : Handle) (r : Rec) : Prop := RecViewL s.regions s.ctrls h r

theorem RecView_congr {s t : St} (hR : t.regions = s.regions) (hC : t.ctrls = s.ctrls) (h : Handle) (r : Rec) :
    RecView t h r ↔ RecView s h r := by
  unfold RecView; rw [hR, hC]

def isAlloc : Ev → Bool
  | .alloc _ _ => true
  | _ => false

def allocCount (evs : List Ev) : Nat := evs.countP isAlloc

@[simp] theorem allocCount_alloc (r z : Nat) (evs : List Ev) :
    allocCount (.alloc r z :: evs) = allocCount evs + 1 := by
  simp [allocCount, List.countP_cons, isAlloc]
@[simp] theorem allocCount_dealloc (r z : Nat) (evs : List Ev) :
    allocCount (.dealloc r z :: evs) = allocCount evs := by
  simp [allocCount, isAlloc]

theorem origRepr_eq (x : Nat) : Recycle.origRepr x = originalCapacityToRepr x := rfl

/-- the control block of a `BytesMut` handle (`none`: KIND_VEC) -/
def arcOf : Handle → Option Nat
  | .mut arc _ _ _ _ _ => arc
  | _ => none

theorem RecViewL_fields {R : List Region} {C : List CtrlE} {arc reg : Option Nat} {off len cap orig : Nat}
    {r : Rec} (hv : RecViewL R C (.mut arc reg off len cap orig) r) :
    r.off = off ∧ r.len = len ∧ r.cap = cap := by
  cases arc with
  | none => exact ⟨hv.2.1, hv.2.2.1, hv.2.2.2.1⟩
  | some c => obtain ⟨_, _, _, _, _, _, _, ro, rl, rcp, _⟩ := hv; exact ⟨ro, rl, rcp⟩

theorem isizeMax_double_lt_W : isizeMax * 2 < W := by decide

/-- how the invariant describes the buffer `reg` of a vector of capacity `n` (KIND_VEC handle or the
vector inside a `Shared`): no allocation for capacity 0, else a live heap region of that size -/
def VecBuf (R : List Region) (reg : Option Nat) (n : Nat) : Prop :=
  match reg with
  | none => n = 0
  | some r => isHeapLiveL R r = true ∧ regionSizeL R r = n

theorem VecBuf.of_ctrl {R : List Region} {o : Nat} {reg : Option Nat} {vlen vcap vorig : Nat}
    (h : ctrlBufOK R o (.sharedV reg vlen vcap vorig)) : VecBuf R reg vcap := by
  cases reg <;> exact h

theorem VecBuf.size {R : List Region} {reg : Option Nat} {n : Nat} (h : VecBuf R reg n) :
    bufSizeL R reg = n := by
  cases reg with
  | none => exact h.symm
  | some r => exact h.2

theorem VecBuf.region {R : List Region} {r n : Nat}
    (hR : ∀ (r : Nat) (rg : Region), R[r]? = some rg → regionOKB rg = true) (h : VecBuf R (some r) n) :
    ∃ rg kk, R[r]? = some rg ∧ rg.live = true ∧ rg.kind = .heap kk ∧ rg.size = n ∧
      rg.data.length = rg.size ∧ n ≤ isizeMax ∧ n ≠ 0 := by
  obtain ⟨rg, kk, hr, hl, hk, hs, hdl, hle, h0⟩ := ctrlBufOK_some (ow := 0) (vlen := 0) (orig := 0) hR h
  exact ⟨rg, kk, hr, hl, hk, hs, hdl.trans hs.symm, hle, h0⟩

theorem VecBuf.le {R : List Region} {reg : Option Nat} {n : Nat}
    (hR : ∀ (r : Nat) (rg : Region), R[r]? = some rg → regionOKB rg = true) (h : VecBuf R reg n) :
    n ≤ isizeMax := by
  cases reg with
  | none => exact h ▸ Nat.zero_le _
  | some r => obtain ⟨_, _, _, _, _, _, _, hle, _⟩ := h.region hR; exact hle

theorem bufSizeL_set {R : List Region} {r0 : Nat} {rg rg' : Region} (hr : R[r0]? = some rg)
    (hs : rg'.size = rg.size) (x : Option Nat) : bufSizeL (R.set r0 rg') x = bufSizeL R x := by
  cases x with
  | none => rfl
  | some x =>
    by_cases hx : x = r0
    · subst hx
      show regionSizeL _ _ = regionSizeL _ _
      rw [regionSizeL_def, regionSizeL_def, lookup_set_eq _ hr, hr]; exact hs
    · exact regionSizeL_set_ne _ (Ne.symm hx)

theorem bufSizeL_new (R : List Region) (x : Region) : bufSizeL (R ++ [x]) (some R.length) = x.size :=
  regionSizeL_new R x

theorem copyWithin_front {s : St} {reg : Option Nat} {off len n : Nat} {v : List Byte}
    (hR : ∀ (r : Nat) (rg : Region), s.regions[r]? = some rg → regionOKB rg = true)
    (hb : VecBuf s.regions reg n) (hv : rdL s.regions reg off len = some v) (hn : len ≤ n) :
    ∃ R', copyWithin reg off 0 len s = .ok () { s with regions := R' } ∧
      ∀ x, bufSizeL R' x = bufSizeL s.regions x := by
  by_cases hl0 : len = 0
  · exact ⟨s.regions, hl0 ▸ copyWithin_zero reg off 0 s, fun _ => rfl⟩
  · cases reg with
    | none => exact absurd (Nat.le_zero.mp (hb ▸ hn)) hl0
    | some r0 =>
      obtain ⟨rg, kk, hr, hl, hk, hs, _⟩ := hb.region hR
      exact ⟨_, copyWithin_eq hl0 hv (rdL_length hR hv) hr hl (by rw [Nat.zero_add, hs]; exact hn) hk,
        bufSizeL_set hr rfl⟩

theorem vecReserve_grow_ok (e : Env) {s s1 : St} {reg reg' : Option Nat} {len cap add vcap' : Nat}
    (hR : ∀ (r : Nat) (rg : Region), s.regions[r]? = some rg → regionOKB rg = true)
    (hb : VecBuf s.regions reg cap) (hna : ¬ add ≤ cap - len)
    (hok : vecReserve e reg len cap add s = .ok (reg', vcap') s1) :
    vcap' = vecGrowCap cap (len + add) ∧ bufSizeL s1.regions reg' = vcap' ∧ s1.ctrls = s.ctrls ∧
      s1.hs = s.hs ∧ allocCount s1.events = allocCount s.events + 1 := by
  by_cases hg : vecGrowCap cap (len + add) > isizeMax
  · rw [vecReserve_panic_grow e hna hg] at hok; cases hok
  have hg' := Nat.le_of_not_lt hg
  cases reg with
  | none =>
    cases (hb : cap = 0)
    rw [vecReserve_grow_none e hna hg'] at hok
    cases hok
    exact ⟨rfl, bufSizeL_new _ _, rfl, rfl, allocCount_alloc _ _ _⟩
  | some r0 =>
    obtain ⟨rg, kk, hr, hl, hk, hs, _, _, h0⟩ := hb.region hR
    rw [vecReserve_grow_some e hna hg' hr hl hs hk h0] at hok
    cases hok
    refine ⟨rfl, ?_, rfl, rfl, by rw [allocCount_dealloc, allocCount_alloc]⟩
    show regionSizeL _ _ = _
    rw [List.set_append_left _ _ (lookup_lt hr), ← List.length_set (as := s.regions), regionSizeL_new]

theorem mutReserve_ok_inner {cfg : Cfg} {e : Env} {arc reg : Option Nat} {off len cap orig k : Nat}
    {s s' : St} {h' : Handle} (hadd : ¬ k ≤ cap - len)
    (hok : mutReserve cfg e (.mut arc reg off len cap orig) k s = .ok h' s') :
    ∃ b, mutReserveInner cfg e (.mut arc reg off len cap orig) k true s = .ok (h', b) s' := by
  change (if k ≤ cap - len then pure _ else mutReserveInner cfg e _ k true >>= _) s = _ at hok
  rw [if_neg hadd] at hok
  obtain ⟨⟨h1, b⟩, s1, hin, hok⟩ := ok_of_bind hok
  cases hok
  exact ⟨b, hin⟩

/-- what an operation on the main handle (not yet stored back) establishes: the new handle `h'` is
related to the new record `r'`, the allocations recorded are the increase of `allocs` -/
def Concl (s : St) (r : Rec) (h' : Handle) (s' : St) (r' : Rec) : Prop :=
  s'.hs = s.hs ∧ RecViewL s'.regions s'.ctrls h' r' ∧
  allocCount s'.events + r.allocs = allocCount s.events + r'.allocs

/-- What `mutReserve` needs to know about the state to take its decision for the handle `h`: W1, the
representation invariant of `h` itself, and — for every live control block — a positive count and the
buffer it names.  The handle table is not mentioned, so `WInv` also holds in the intermediate states of
an operation in which the table and the reference counts are temporarily out of step (`unsplit`):
`cok` is `Inv.cok` without its clause `rc = refCountL`. -/
structure WInv (s : St) (h : Handle) : Prop where
  regs : ∀ (r : Nat) (rg : Region), s.regions[r]? = some rg → regionOKB rg = true
  hok : handleOKL s.regions s.ctrls h = true
  cok : ∀ (c : Nat) (e : CtrlE), s.ctrls[c]? = some e → e.live = true →
    1 ≤ e.rc ∧ ctrlBufOK s.regions s.owners e.c

theorem winv_of_inv {s : St} (hI : Inv s) {i : Nat} {h : Handle} (hi : s.hs[i]? = some (some h)) : WInv s h :=
  ⟨hI.regs, hI.hok i h hi, fun c e he hl => (hI.cok c e he hl).2⟩

theorem winv_vec_view {s : St} {reg : Option Nat} {off len cap orig : Nat} {r : Rec}
    (hI : WInv s (.mut none reg off len cap orig)) (hv : RecView s (.mut none reg off len cap orig) r) :
    r.off = off ∧ r.len = len ∧ r.cap = cap ∧ r.orig = orig ∧ r.arc = false ∧ r.parts = 0 ∧
      r.A = bufSizeL s.regions reg ∧
      r.len ≤ r.cap ∧ r.off + r.cap = r.A ∧ VecBuf s.regions reg r.A ∧ off ≤ W / 32 - 1 ∧
      ∃ v, rdL s.regions reg off len = some v := by
  obtain ⟨hlc, hoffb, hregc, hrd⟩ := handleOKL_mutV.mp hI.hok
  obtain ⟨ra, ro, rl, rc, rorig, rA, rp⟩ := hv
  subst ro rl rc
  have hb : VecBuf s.regions reg (r.off + r.cap) := by
    cases reg with
    | none => exact hregc
    | some r0 => exact ⟨hregc.1, hregc.2.symm⟩
  have hA : r.off + r.cap = r.A := rA ▸ hb.size.symm
  exact ⟨rfl, rfl, rfl, rorig, ra, rp, rA, hlc, hA, hA ▸ hb, hoffb, Option.isSome_iff_exists.mp hrd⟩

theorem winv_arc_view {s : St} {c : Nat} {reg : Option Nat} {off len cap orig : Nat} {r : Rec}
    (hI : WInv s (.mut (some c) reg off len cap orig))
    (hv : RecView s (.mut (some c) reg off len cap orig) r) :
    r.off = off ∧ r.len = len ∧ r.cap = cap ∧ r.arc = true ∧
      (∃ vlen rc, s.ctrls[c]? = some ⟨.sharedV reg vlen r.A r.orig, rc, true⟩ ∧ 1 ≤ rc ∧ r.parts = rc - 1) ∧
      r.len ≤ r.cap ∧ r.off + r.cap ≤ r.A ∧ VecBuf s.regions reg r.A ∧
      ∃ v, rdL s.regions reg off len = some v := by
  obtain ⟨hlc, ⟨vlen, vcap, vorig, hlivec, hcap⟩, hrd⟩ := handleOKL_mutA.mp hI.hok
  obtain ⟨ce, he, hl, hct⟩ := liveCtrlL_some_iff.mp hlivec
  obtain ⟨hrc1, hbuf⟩ := hI.cok c ce he hl
  obtain ⟨vreg', vlen', vcap', vorig', rc', he', ra, ro, rl, rcp, rorig, rA, rp⟩ := hv
  subst ro rl rcp rorig rA
  rw [he] at he'
  cases Option.some.inj he'
  cases hct
  exact ⟨rfl, rfl, rfl, ra, ⟨_, _, he, hrc1, rp⟩, hlc, hcap, .of_ctrl hbuf, Option.isSome_iff_exists.mp hrd⟩

/-- KIND_VEC half of `reserve_refines_w`: the two branches of `reserve_inner` for a handle that owns its vector -/
theorem rr_vec {s : St} {reg : Option Nat} {off len cap orig : Nat}
    (hI : WInv s (.mut none reg off len cap orig)) (cfg : Cfg) (e : Env)
    (k : Nat) (hadd : ¬ k ≤ cap - len) (r : Rec)
    (hv : RecView s (.mut none reg off len cap orig) r) {h' : Handle} {b : Bool} {s' : St}
    (hok : mutReserveInner cfg e (.mut none reg off len cap orig) k true s = .ok (h', b) s') :
    Concl s r h' s' (Recycle.reserve r k) ∧ arcOf h' = none := by
  obtain ⟨ro, rl, rc, rorig, ra, rp, rA, hlc, hA, hb, _, v, hv0⟩ := winv_vec_view hI hv
  subst ro rl rc rorig
  by_cases hfront : r.cap - r.len + r.off ≥ k ∧ r.off ≥ r.len
  · -- the contents are moved to the front of the allocation
    have hW : r.cap + r.off < W :=
      Nat.lt_of_le_of_lt (Nat.add_comm _ _ ▸ hA ▸ hb.le hI.regs) (lt_W_of_le_isizeMax (Nat.le_refl _))
    obtain ⟨R', hcw, hsz⟩ := copyWithin_front hI.regs hb hv0 (Nat.le_trans hlc (hA ▸ Nat.le_add_left _ _))
    rw [mri_vec_front cfg e true hfront, bind_apply, hcw] at hok
    simp only [bind_apply, uadd_eq cfg hW, pure_apply] at hok
    cases hok
    rw [Recycle.reserve_vec_front r k hadd ra hfront]
    exact ⟨⟨rfl, ⟨ra, rfl, rfl, rfl, rfl, rA.trans (hsz reg).symm, rp⟩, rfl⟩, rfl⟩
  · -- `Vec::reserve` on the rebuilt vector
    have hna : ¬ k ≤ (r.off + r.cap) - (r.off + r.len) := by rw [Nat.add_sub_add_left]; exact hadd
    rw [mri_vec_grow cfg e hfront] at hok
    obtain ⟨⟨reg', vcap'⟩, s1, hvr, hok⟩ := ok_of_bind hok
    cases hok
    obtain ⟨rfl, hsz, hC, hH, hev⟩ := vecReserve_grow_ok e hI.regs (hA ▸ hb) hna hvr
    rw [Recycle.reserve_vec_grow r k hadd ra hfront]
    exact ⟨⟨hH, ⟨ra, rfl, rfl, rfl, rfl, hsz.symm, rp⟩, by rw [hev]; exact Nat.add_right_comm _ 1 _⟩, rfl⟩

/-- `new_cap.saturating_add(offset)` does not saturate below a capacity a vector can have -/
theorem le_of_sat_le {x a : Nat} (h : a ≥ min x (W - 1)) (ha : a ≤ isizeMax) : a ≥ x := by
  rcases Nat.le_total x (W - 1) with hx | hx
  · rwa [Nat.min_eq_left hx] at h
  · rw [Nat.min_eq_right hx] at h
    exact absurd (Nat.le_trans h ha) (by decide)

theorem grow_args {A T off len k : Nat} (h1 : ¬ A ≥ len + k + off) (h2 : len + k + off ≤ T)
    (h3 : off + len ≤ A) :
    ¬ T - (off + len) ≤ A - (off + len) ∧ off + len + (T - (off + len)) = T := by omega

theorem vecNew_ok {e : Env} {bs : List Byte} {cap : Nat} {s s1 : St} {r' : Option Nat} (h0 : cap ≠ 0)
    (h : vecNew e bs cap s = .ok r' s1) :
    r' = some s.regions.length ∧ bufSizeL s1.regions r' = cap ∧ s1.ctrls = s.ctrls ∧ s1.hs = s.hs ∧
      allocCount s1.events = allocCount s.events + 1 := by
  rcases vecNew_cases e bs cap s with ⟨h0', _⟩ | ⟨_, hp⟩ | ⟨_, _, hq⟩
  · exact absurd h0' h0
  · rw [hp] at h; cases h
  · rw [hq] at h; cases h
    exact ⟨rfl, bufSizeL_new _ _, rfl, rfl, allocCount_alloc _ _ _⟩

/-- the shared branch of `reserve_inner` (`rc ≠ 1`): a fresh vector of `max(len + k, original capacity)`
bytes, the block loses one reference -/
theorem mri_arc_shared (cfg : Cfg) (e : Env) {s s' : St} {c : Nat} {reg vreg : Option Nat}
    {off len cap orig k vlen vcap vorig rc : Nat} {v : List Byte} {h' : Handle} {b : Bool}
    (he : s.ctrls[c]? = some ⟨.sharedV vreg vlen vcap vorig, rc, true⟩) (hrc : 1 ≤ rc) (hu : rc ≠ 1)
    (hk : k ≠ 0) (hv0 : rdL s.regions reg off len = some v)
    (hok : mutReserveInner cfg e (.mut (some c) reg off len cap orig) k true s = .ok (h', b) s') :
    h' = .mut none (some s.regions.length) 0 len (max (len + k) (originalCapacityFromRepr vorig)) vorig ∧
      s'.ctrls = s.ctrls.set c ⟨.sharedV vreg vlen vcap vorig, rc - 1, true⟩ ∧ s'.hs = s.hs ∧
      bufSizeL s'.regions (some s.regions.length) = max (len + k) (originalCapacityFromRepr vorig) ∧
      allocCount s'.events = allocCount s.events + 1 := by
  by_cases hW : len + k ≥ W
  · rw [mri_arc_overflow cfg e true hW] at hok; cases hok
  rw [mri_arc_eq cfg e true hW (getCtrl_eq he rfl), if_neg hu, if_neg (show ¬ (!true) = true by decide), bind_apply,
    readRange_of_rdL hv0] at hok
  obtain ⟨r', s1, hvn, hok⟩ := ok_of_bind hok
  have hT : max (len + k) (originalCapacityFromRepr vorig) ≠ 0 := fun h0 =>
    hk (Nat.eq_zero_of_add_eq_zero_left (Nat.le_zero.mp (h0 ▸ Nat.le_max_left _ _)))
  obtain ⟨rfl, hsz, hC, hH, hev⟩ := vecNew_ok hT hvn
  have he1 : s1.ctrls[c]? = some ⟨.sharedV vreg vlen vcap vorig, rc, true⟩ := hC ▸ he
  rw [bind_apply, releaseCtrl_dec he1 rfl (Nat.ne_of_gt hrc) hu] at hok
  cases hok
  exact ⟨rfl, by rw [hC], hH, hsz, hev⟩

/-- KIND_ARC half of `reserve_refines_w`: in place, to the front, grown (unique block), or a fresh vector
(shared block) -/
theorem rr_arc {s : St} {c : Nat} {reg : Option Nat} {off len cap orig : Nat}
    (hI : WInv s (.mut (some c) reg off len cap orig)) (cfg : Cfg) (e : Env)
    (k : Nat) (hadd : ¬ k ≤ cap - len) (r : Rec)
    (hv : RecView s (.mut (some c) reg off len cap orig) r) {h' : Handle} {b : Bool} {s' : St}
    (hok : mutReserveInner cfg e (.mut (some c) reg off len cap orig) k true s = .ok (h', b) s') :
    Concl s r h' s' (Recycle.reserve r k) ∧ (arcOf h' = some c ∨ arcOf h' = none) := by
  obtain ⟨ro, rl, rcp, ra, ⟨vlen, rc, he, hrc1, rp⟩, hlc, hin, hb, v, hv0⟩ := winv_arc_view hI hv
  subst ro rl rcp
  by_cases hu : rc = 1
  · -- the handle is alone on its block
    subst hu
    have rp0 : r.parts = 0 := rp
    have hview : ∀ (o cp : Nat) {R : List Region},
        RecViewL R s.ctrls (.mut (some c) reg o r.len cp orig) { r with off := o, cap := cp } :=
      fun o cp _ => ⟨reg, vlen, r.A, r.orig, 1, he, ra, rfl, rfl, rfl, rfl, rfl, rp⟩
    by_cases hW : r.len + k ≥ W
    · rw [mri_arc_overflow cfg e true hW] at hok; cases hok
    rw [mri_arc_eq cfg e true hW (getCtrl_eq he rfl), if_pos rfl] at hok
    by_cases hfit : r.A ≥ min (r.len + k + r.off) (W - 1)
    · -- enough room behind the view
      rw [if_pos hfit] at hok; cases hok
      rw [Recycle.reserve_arc_inplace r k hadd ra rp0 (le_of_sat_le hfit (hb.le hI.regs))]
      exact ⟨⟨rfl, hview _ _, rfl⟩, .inl rfl⟩
    have hfit' : ¬ r.A ≥ r.len + k + r.off := fun h => hfit (Nat.le_trans (Nat.min_le_left _ _) h)
    rw [if_neg hfit] at hok
    by_cases hfr : r.A ≥ r.len + k ∧ r.off ≥ r.len
    · -- the contents are moved to the front of the shared vector
      obtain ⟨R', hcw, hsz⟩ := copyWithin_front hI.regs hb hv0 (Nat.le_trans (Nat.le_add_right _ _) hfr.1)
      rw [if_pos hfr, bind_apply, hcw] at hok; cases hok
      rw [Recycle.reserve_arc_front r k hadd ra rp0 hfit' hfr]
      exact ⟨⟨rfl, hview _ _, rfl⟩, .inl rfl⟩
    rw [if_neg hfr, if_neg (show ¬ (!true) = true by decide)] at hok
    by_cases hov : r.len + k + r.off ≥ W
    · rw [if_pos hov] at hok; cases hok
    -- the shared vector grows
    have h2W : r.A * 2 < W :=
      Nat.lt_of_le_of_lt (Nat.mul_le_mul_right 2 (hb.le hI.regs)) isizeMax_double_lt_W
    have hol : r.off + r.len ≤ r.A := Nat.le_trans (Nat.add_le_add_left hlc _) hin
    rw [if_neg hov, if_pos h2W, bind_apply, dassert_eq cfg (decide_eq_true hol)] at hok
    obtain ⟨hna, hT⟩ := grow_args hfit' (Nat.le_max_right (r.A * 2) _) hol
    obtain ⟨⟨vreg', vcap'⟩, s1, hvr, hok⟩ := ok_of_bind hok
    cases hok
    obtain ⟨hvc, hsz, hC, hH, hev⟩ := vecReserve_grow_ok e hI.regs hb hna hvr
    rw [hT] at hvc; subst hvc
    rw [Recycle.reserve_arc_grow r k hadd ra rp0 hfit' hfr]
    exact ⟨⟨hH, ⟨_, _, _, _, _, lookup_set_eq _ (hC ▸ he), ra, rfl, rfl, rfl, rfl, rfl, rp⟩,
      by rw [hev]; exact Nat.add_right_comm _ 1 _⟩, .inl rfl⟩
  · -- shared with other handles: a fresh vector, the old block loses a reference
    have hk : k ≠ 0 := fun h => hadd (h ▸ Nat.zero_le _)
    obtain ⟨rfl, hC, hH, hsz, hev⟩ := mri_arc_shared cfg e he hrc1 hu hk hv0 hok
    have hT0 : max (r.len + k) (Recycle.origCap r.orig) ≠ 0 := fun h0 =>
      hk (Nat.eq_zero_of_add_eq_zero_left (Nat.le_zero.mp (h0 ▸ Nat.le_max_left _ _)))
    rw [Recycle.reserve_arc_shared r k hadd ra
      (rp ▸ Nat.sub_ne_zero_of_lt (Nat.lt_of_le_of_ne hrc1 (Ne.symm hu))), if_neg hT0]
    exact ⟨⟨hH, ⟨rfl, rfl, rfl, rfl, rfl, hsz.symm, rfl⟩, by rw [hev]; exact Nat.add_right_comm _ 1 _⟩,
      .inr rfl⟩

/-- under the invariant, `r.A` is the size of the region the handle points into (also for KIND_ARC,
where `RecView` reads it off the control block), and the record satisfies the layout invariant `RInv`
that Props/C18.lean assumes -/
theorem RecView.layout {s : St} (hI : Inv s) {i : Nat} {arc reg : Option Nat} {off len cap orig : Nat}
    (hi : s.hs[i]? = some (some (.mut arc reg off len cap orig))) {r : Rec}
    (hv : RecView s (.mut arc reg off len cap orig) r) :
    r.A = bufSizeL s.regions reg ∧ Recycle.RInv r := by
  have hW := winv_of_inv hI hi
  cases arc with
  | none =>
    obtain ⟨_, _, _, _, _, _, rA, hlc, hA, _⟩ := winv_vec_view hW hv
    exact ⟨rA, hlc, Nat.le_of_eq hA, fun _ => hA⟩
  | some c =>
    obtain ⟨_, _, _, ra, _, hlc, hin, hb, _⟩ := winv_arc_view hW hv
    exact ⟨hb.size.symm, hlc, hin, Recycle.arc_absurd ra⟩

theorem RecView.parts_eq {s : St} (hI : Inv s) {i c : Nat} {reg : Option Nat} {off len cap orig : Nat}
    (hi : s.hs[i]? = some (some (.mut (some c) reg off len cap orig))) {r : Rec}
    (hv : RecView s (.mut (some c) reg off len cap orig) r) :
    r.parts = refCountL s.hs c - 1 := by
  obtain ⟨_, _, _, _, rc, he, _, _, _, _, _, _, rp⟩ := hv
  have hrc : rc = refCountL s.hs c := (hI.cok c _ he rfl).1
  rw [rp, hrc]

/-- the state `Op.reserve i k` produces from the outcome `h'`, `s'` of `mutReserve`: the new handle is
stored in slot `i` -/
def setH (s : St) (i : Nat) (h : Handle) : St := { s with hs := s.hs.set i (some h) }

/-- **`mutReserve` refines `Recycle.reserve`**, with no side condition beyond the invariant: the new
handle is related to `Recycle.reserve r k` (`pinned` and `allocs` are not constrained by `RecView`; the
allocation count is tied to the event list of M1 in additive form).  The handle stays on its control
block or moves to a fresh KIND_VEC vector. -/
theorem reserve_refines_w (cfg : Cfg) (e : Env) {s : St} {arc reg : Option Nat} {off len cap orig : Nat}
    (hI : WInv s (.mut arc reg off len cap orig)) (k : Nat) (r : Rec)
    (hv : RecView s (.mut arc reg off len cap orig) r) (h' : Handle) (s' : St)
    (hok : mutReserve cfg e (.mut arc reg off len cap orig) k s = .ok h' s') :
    Concl s r h' s' (Recycle.reserve r k) ∧ (arcOf h' = arc ∨ arcOf h' = none) := by
  by_cases hadd : k ≤ cap - len
  · -- enough spare capacity: nothing happens in either model
    change (if k ≤ cap - len then pure _ else mutReserveInner cfg e _ k true >>= _) s = _ at hok
    rw [if_pos hadd] at hok; cases hok
    obtain ⟨_, rl, rc⟩ := RecViewL_fields hv
    rw [Recycle.reserve_noop r k (by rw [rc, rl]; exact hadd)]
    exact ⟨⟨rfl, hv, rfl⟩, .inl rfl⟩
  · obtain ⟨b, hin⟩ := mutReserve_ok_inner hadd hok
    cases arc with
    | none => exact ⟨(rr_vec hI cfg e k hadd r hv hin).1, .inl (rr_vec hI cfg e k hadd r hv hin).2⟩
    | some c => exact rr_arc hI cfg e k hadd r hv hin

theorem reserve_refines_strong (cfg : Cfg) (e : Env) {s : St} (hI : Inv s) {i : Nat}
    {arc reg : Option Nat} {off len cap orig : Nat}
    (hi : s.hs[i]? = some (some (.mut arc reg off len cap orig))) (k : Nat) (r : Rec)
    (hv : RecView s (.mut arc reg off len cap orig) r) (h' : Handle) (s' : St)
    (hok : mutReserve cfg e (.mut arc reg off len cap orig) k s = .ok h' s') :
    s'.hs = s.hs ∧ RecView (setH s' i h') h' (Recycle.reserve r k) ∧
    allocCount s'.events + r.allocs = allocCount s.events + (Recycle.reserve r k).allocs :=
  (reserve_refines_w cfg e (winv_of_inv hI hi) k r hv h' s' hok).1

theorem sub_eq_sub_of_add_eq_add {a b c d : Nat} (h : a + b = c + d) : a - c = d - b := by omega

/-- existential form of `reserve_refines_strong`: some record related to the new handle agrees with
`Recycle.reserve r k` on every field `RecView` constrains, and the number of byte-buffer allocations
performed is the increase of `allocs` -/
theorem reserve_refines (cfg : Cfg) (e : Env) {s : St} (hI : Inv s) {i : Nat}
    {arc reg : Option Nat} {off len cap orig : Nat}
    (hi : s.hs[i]? = some (some (.mut arc reg off len cap orig))) (k : Nat) (r : Rec)
    (hv : RecView s (.mut arc reg off len cap orig) r) (h' : Handle) (s' : St)
    (hok : mutReserve cfg e (.mut arc reg off len cap orig) k s = .ok h' s') :
    ∃ r', RecView (setH s' i h') h' r' ∧
      r'.A = (Recycle.reserve r k).A ∧ r'.off = (Recycle.reserve r k).off ∧
      r'.len = (Recycle.reserve r k).len ∧ r'.cap = (Recycle.reserve r k).cap ∧
      r'.arc = (Recycle.reserve r k).arc ∧ r'.orig = (Recycle.reserve r k).orig ∧
      r'.parts = (Recycle.reserve r k).parts ∧
      allocCount s'.events - allocCount s.events = (Recycle.reserve r k).allocs - r.allocs := by
  obtain ⟨_, h2, h3⟩ := reserve_refines_strong cfg e hI hi k r hv h' s' hok
  exact ⟨_, h2, rfl, rfl, rfl, rfl, rfl, rfl, rfl, sub_eq_sub_of_add_eq_add h3⟩

theorem ok_set_pure {f : M Handle} {i : Nat} {v0 v : Val} {s s' : St}
    (h : (do let h' ← f; setHandle i h'; pure v0) s = .ok v s') :
    ∃ h1 s1, f s = .ok h1 s1 ∧ s' = setH s1 i h1 ∧ v = v0 := by
  obtain ⟨h1, s1, hf, h⟩ := ok_of_bind h
  cases h
  exact ⟨h1, s1, hf, rfl, rfl⟩

theorem step_reserve_refines_strong (cfg : Cfg) (e : Env) {s s' : St} (hw : WFx s) {i k : Nat} {v : Val}
    {arc reg : Option Nat} {off len cap orig : Nat}
    (hi : s.hs[i]? = some (some (.mut arc reg off len cap orig))) (r : Rec)
    (hv : RecView s (.mut arc reg off len cap orig) r)
    (hok : step cfg e (.reserve i k) s = .ok v s') :
    ∃ h', s'.hs[i]? = some (some h') ∧ RecView s' h' (Recycle.reserve r k) ∧
      allocCount s'.events + r.allocs = allocCount s.events + (Recycle.reserve r k).allocs := by
  obtain ⟨h1, s1, hm, rfl, _⟩ := ok_set_pure (getHandle_bind_ok hi hok)
  obtain ⟨hH, h2, h3⟩ := reserve_refines_strong cfg e hw.inv hi k r hv h1 s1 hm
  exact ⟨h1, by show (s1.hs.set i (some h1))[i]? = _; rw [hH]; exact lookup_set_eq _ hi, h2, h3⟩

theorem step_reserve_refines (cfg : Cfg) (e : Env) {s s' : St} (hw : WFx s) {i k : Nat} {v : Val}
    {arc reg : Option Nat} {off len cap orig : Nat}
    (hi : s.hs[i]? = some (some (.mut arc reg off len cap orig))) (r : Rec)
    (hv : RecView s (.mut arc reg off len cap orig) r)
    (hok : step cfg e (.reserve i k) s = .ok v s') :
    ∃ h' r', s'.hs[i]? = some (some h') ∧ RecView s' h' r' ∧
      r'.A = (Recycle.reserve r k).A ∧ r'.off = (Recycle.reserve r k).off ∧
      r'.len = (Recycle.reserve r k).len ∧ r'.cap = (Recycle.reserve r k).cap ∧
      r'.arc = (Recycle.reserve r k).arc ∧ r'.orig = (Recycle.reserve r k).orig ∧
      r'.parts = (Recycle.reserve r k).parts ∧
      allocCount s'.events - allocCount s.events = (Recycle.reserve r k).allocs - r.allocs := by
  obtain ⟨h', h1, h2, h3⟩ := step_reserve_refines_strong cfg e hw hi r hv hok
  exact ⟨h', _, h1, h2, rfl, rfl, rfl, rfl, rfl, rfl, rfl, sub_eq_sub_of_add_eq_add h3⟩

/-- well-formedness is kept by the step, and the layout invariant of Props/C18.lean holds for the record
before and after it -/
theorem step_reserve_layout (cfg : Cfg) (e : Env) {s s' : St} (hw : WFx s) {i k : Nat} {v : Val}
    {arc reg : Option Nat} {off len cap orig : Nat}
    (hi : s.hs[i]? = some (some (.mut arc reg off len cap orig))) (r : Rec)
    (hv : RecView s (.mut arc reg off len cap orig) r)
    (hok : step cfg e (.reserve i k) s = .ok v s') :
    WFx s' ∧ Recycle.RInv r ∧ Recycle.RInv (Recycle.reserve r k) :=
  have hr := (RecView.layout hw.inv hi hv).2
  ⟨WFx_step hw hok trivial, hr, Recycle.rinv_step _ r (.reserve k) hr (Nat.le_refl (r.len + k))⟩

namespace Example

def cfg0 : Cfg := ⟨true, true⟩
def env0 : Env := ⟨fun _ => false⟩

/-- after `BytesMut::with_capacity(8)` -/
def s1 : St :=
  { regions := [⟨8, [none, none, none, none, none, none, none, none], true, .heap false⟩],
    ctrls := [], hs := [some (.mut none (some 0) 0 0 8 0)], owners := 0, events := [.alloc 0 8] }
/-- … `extend_from_slice(&[1,2,3,4])` -/
def s2 : St :=
  { regions := [⟨8, [some 1, some 2, some 3, some 4, none, none, none, none], true, .heap false⟩],
    ctrls := [], hs := [some (.mut none (some 0) 0 4 8 0)], owners := 0, events := [.alloc 0 8] }
/-- … `split_to(2)`: handle 0 is KIND_ARC at offset 2, one split-off part (handle 1) is alive -/
def s3 : St :=
  { regions := [⟨8, [some 1, some 2, some 3, some 4, none, none, none, none], true, .heap false⟩],
    ctrls := [⟨.sharedV (some 0) 4 8 0, 2, true⟩],
    hs := [some (.mut (some 0) (some 0) 2 2 6 0), some (.mut (some 0) (some 0) 0 2 2 0)],
    owners := 0, events := [.allocCtrl 0, .alloc 0 8] }
/-- … `mutReserve … 10`, before the new handle is stored in slot 0: a fresh 12-byte vector, the old
allocation stays with the part -/
def s4 : St :=
  { regions := [⟨8, [some 1, some 2, some 3, some 4, none, none, none, none], true, .heap false⟩,
                ⟨12, [some 3, some 4, none, none, none, none, none, none, none, none, none, none], true, .heap false⟩],
    ctrls := [⟨.sharedV (some 0) 4 8 0, 1, true⟩],
    hs := [some (.mut (some 0) (some 0) 2 2 6 0), some (.mut (some 0) (some 0) 0 2 2 0)],
    owners := 0, events := [.alloc 1 12, .allocCtrl 0, .alloc 0 8] }

theorem step1 : step cfg0 env0 (.mutWithCapacity 8) {} = .ok (.handle 0) s1 := rfl
theorem step2 : step cfg0 env0 (.extend 0 [1, 2, 3, 4]) s1 = .ok .unit s2 := rfl
theorem step3 : step cfg0 env0 (.splitTo 0 2) s2 = .ok (.handle 1) s3 := rfl

theorem wfx3 : WFx s3 := WFx_step (WFx_step (WFx_step WFx_init step1 trivial) step2 trivial) step3 trivial

def r3 : Rec := { A := 8, off := 2, len := 2, cap := 6, arc := true, orig := 0, parts := 1, pinned := [], allocs := 1 }

theorem view3 : RecView s3 (.mut (some 0) (some 0) 2 2 6 0) r3 :=
  ⟨some 0, 4, 8, 0, 2, rfl, rfl, rfl, rfl, rfl, rfl, rfl, rfl⟩

theorem run4 : mutReserve cfg0 env0 (.mut (some 0) (some 0) 2 2 6 0) 10 s3 = .ok (.mut none (some 1) 0 2 12 0) s4 := rfl

/-- all hypotheses of `reserve_refines_strong` hold on `s3`; its conclusion, spelled out -/
example :
    RecView (setH s4 0 (.mut none (some 1) 0 2 12 0)) (.mut none (some 1) 0 2 12 0) (Recycle.reserve r3 10) ∧
    allocCount s4.events + r3.allocs = allocCount s3.events + (Recycle.reserve r3 10).allocs :=
  (reserve_refines_strong cfg0 env0 wfx3.inv (i := 0) rfl 10 r3 view3 _ _ run4).2

example : Recycle.reserve r3 10 =
    { A := 12, off := 0, len := 2, cap := 12, arc := false, orig := 0, parts := 0, pinned := [8], allocs := 2 } := by
  decide

example : allocCount s4.events = 2 ∧ allocCount s3.events = 1 := by decide

/-- the same through the API operation -/
example : ∃ v s', step cfg0 env0 (.reserve 0 10) s3 = .ok v s' ∧
    ∃ h', s'.hs[0]? = some (some h') ∧ RecView s' h' (Recycle.reserve r3 10) := by
  refine ⟨.unit, setH s4 0 (.mut none (some 1) 0 2 12 0), rfl, ?_⟩
  obtain ⟨h', h1, h2, _⟩ := step_reserve_refines_strong cfg0 env0 wfx3 (i := 0) (k := 10) rfl r3 view3
    (v := .unit) (s' := setH s4 0 (.mut none (some 1) 0 2 12 0)) rfl
  exact ⟨h', h1, h2⟩

/-- a second branch (KIND_VEC, growing): `with_capacity(8)` then `reserve(9)` reallocates to 16 bytes -/
example : ∃ s', step cfg0 env0 (.reserve 0 9) s1 = .ok .unit s' ∧
    ∃ h', s'.hs[0]? = some (some h') ∧ RecView s' h' (Recycle.reserve (Recycle.init 8) 9) ∧
      (Recycle.reserve (Recycle.init 8) 9).A = 16 ∧ allocCount s'.events = 2 := by
  have hv : RecView s1 (.mut none (some 0) 0 0 8 0) (Recycle.init 8) :=
    ⟨rfl, rfl, rfl, rfl, by decide, rfl, rfl⟩
  refine ⟨_, rfl, ?_⟩
  obtain ⟨h', h1, h2, h3⟩ := step_reserve_refines_strong cfg0 env0 (WFx_step WFx_init step1 trivial)
    (i := 0) (k := 9) rfl (Recycle.init 8) hv (v := .unit) rfl
  exact ⟨h', h1, h2, by decide, by decide⟩

end Example

end C18Refine
end BytesVerif.Core
