/-
C18 (refinement, continued) — the other operations of the recycling loop.  Props/C18Refine.lean ties
`Recycle.reserve` to M1's `mutReserve`; this file does the same for `advance`, `truncate`, `append`
(`extend_from_slice`), `split_to`, `split`, dropping a part, `split_off(len)`, `unsplit` and the round
trip `freeze` + `BytesMut::from` / `try_into_mut`, chains the steps along a history, and transfers the
allocation-size bound of Props/C18.lean to M1.  Every operation of `Recycle.Op` that touches the main
handle is covered (`dropPinned` / `dropOld` only concern `pinned`, which `RecView` does not constrain;
see `RecViewP` at the end).  Side conditions remain on `advance` (MAX_VEC_POS) and on the copying `unsplit`
(`Match.unsplitCopy`).
-/
import BytesVerif.Props.C18Refine
namespace BytesVerif.Core
namespace C18Refine
open OpsD OpsC
open BytesVerif.Recycle (Rec)

/-- what every refinement theorem below concludes: slot `i` of the new state `s'` holds a handle that
is related to the new record `r'`, and the number of byte-buffer allocations recorded in the event
list grew by exactly `r'.allocs - r.allocs` (additive form) -/
def Sim (s : St) (r : Rec) (i : Nat) (s' : St) (r' : Rec) : Prop :=
  ∃ h', s'.hs[i]? = some (some h') ∧ RecView s' h' r' ∧
    allocCount s'.events + r.allocs = allocCount s.events + r'.allocs

theorem RecView.is_mut {s : St} {h : Handle} {r : Rec} (hv : RecView s h r) :
    ∃ arc reg off len cap orig, h = .mut arc reg off len cap orig := by
  cases h with
  | bytes _ _ _ _ => exact hv.elim
  | vec _ _ _ => exact hv.elim
  | «mut» arc reg off len cap orig => exact ⟨_, _, _, _, _, _, rfl⟩

/-- `MAX_VEC_POS` of bytes_mut.rs on a 64-bit target -/
def maxVecPos : Nat := W / 32 - 1

/-- `Concl` is `Sim` before the new handle is stored back in its slot -/
theorem sim_of_concl {s s1 : St} {r r' : Rec} {i : Nat} {h h1 : Handle} (hi : s.hs[i]? = some (some h))
    (hc : Concl s r h1 s1 r') : Sim s r i (setH s1 i h1) r' :=
  ⟨h1, by show (s1.hs.set i (some h1))[i]? = _; rw [hc.1]; exact lookup_set_eq _ hi, hc.2.1, hc.2.2⟩

/-- the relation follows the view: another window `(o, l, cp)` on the same buffer -/
theorem RecViewL_view {R : List Region} {C : List CtrlE} {arc reg : Option Nat} {off len cap orig : Nat}
    {r : Rec} (hv : RecViewL R C (.mut arc reg off len cap orig) r) (o l cp : Nat) :
    RecViewL R C (.mut arc reg o l cp orig) { r with off := o, len := l, cap := cp } := by
  cases arc with
  | none =>
    obtain ⟨ra, _, _, _, rorig, rA, rp⟩ := hv
    exact ⟨ra, rfl, rfl, rfl, rorig, rA, rp⟩
  | some c =>
    obtain ⟨vreg, vlen, vcap, vorig, rc, he, ra, _, _, _, rorig, rA, rp⟩ := hv
    exact ⟨vreg, vlen, vcap, vorig, rc, he, ra, rfl, rfl, rfl, rorig, rA, rp⟩

theorem allocCount_skip {ev : Ev} (h : isAlloc ev = false) (evs : List Ev) :
    allocCount (ev :: evs) = allocCount evs := by
  simp [allocCount, h]

/-- `advance_unchecked(n)` on the main handle, general form: if a KIND_VEC handle is pushed beyond
`MAX_VEC_POS` M1 (like the crate) promotes it to KIND_ARC with reference count 1, which
`Recycle.step _ (.advance n)` does not model; everywhere else the two models agree. -/
theorem advance_refines_gen (cfg : Cfg) {s : St} (hI : Inv s) {i : Nat} {arc reg : Option Nat}
    {off len cap orig n : Nat} (hi : s.hs[i]? = some (some (.mut arc reg off len cap orig)))
    (hn : n ≤ len) (r : Rec) (hv : RecView s (.mut arc reg off len cap orig) r) {h' : Handle} {s' : St}
    (hok : mutAdvanceUnchecked cfg (.mut arc reg off len cap orig) n s = .ok h' s') :
    s'.hs = s.hs ∧ allocCount s'.events = allocCount s.events ∧
    RecViewL s'.regions s'.ctrls h'
      (if r.arc = false ∧ n ≠ 0 ∧ ¬ r.off + n ≤ maxVecPos
       then { Recycle.step r (.advance n) with arc := true } else Recycle.step r (.advance n)) := by
  obtain ⟨ro, rl, rcp⟩ := RecViewL_fields hv
  obtain ⟨hA, hR⟩ := RecView.layout hI hi hv
  have hnc : n ≤ cap := Nat.le_trans hn (rl ▸ rcp ▸ hR.len_le)
  rw [Recycle.step_advance r n (rl ▸ hn), ro, rl, rcp]
  cases arc with
  | some c =>
    rw [mutAdvanceUnchecked_arc cfg hnc s] at hok; cases hok
    have ⟨_, _, _, _, _, _, ra, _⟩ := hv
    rw [if_neg (fun h => Recycle.arc_absurd ra h.1)]
    exact ⟨rfl, rfl, RecViewL_view hv _ _ _⟩
  | none =>
    by_cases h0 : n = 0
    · subst h0
      cases (hok : R.ok (Handle.mut none reg off len cap orig) s = _)
      rw [if_neg (fun h => h.2.1 rfl)]
      exact ⟨rfl, rfl, RecViewL_view hv _ _ _⟩
    by_cases hpos : off + n ≤ W / 32 - 1
    · rw [mutAdvanceUnchecked_vec cfg hnc hpos] at hok; cases hok
      rw [if_neg (fun h => h.2.2 hpos)]
      exact ⟨rfl, rfl, RecViewL_view hv _ _ _⟩
    · -- promote_to_shared(1)
      rw [mutAdvanceUnchecked_promote cfg hnc h0 hpos] at hok; cases hok
      have ⟨ra, _, _, _, rorig, _, rp⟩ := hv
      rw [if_pos ⟨ra, h0, hpos⟩]
      exact ⟨rfl, allocCount_skip rfl _, reg, off + len, off + cap, orig, 1, List.getElem?_concat_length, rfl,
        rfl, rfl, rfl, rorig, (ro ▸ rcp ▸ hR.vec_exact ra).symm, rp⟩

/-- **`Op.advance i n` refines `Recycle.Op.advance n`**, provided a KIND_VEC handle is not pushed beyond
`MAX_VEC_POS = 2^59 - 1` (where the crate promotes the handle and the recycling model does not). -/
theorem step_advance_refines (cfg : Cfg) (e : Env) {s s' : St} (hw : WFx s) {i n : Nat} {v : Val}
    {arc reg : Option Nat} {off len cap orig : Nat}
    (hi : s.hs[i]? = some (some (.mut arc reg off len cap orig))) (r : Rec)
    (hv : RecView s (.mut arc reg off len cap orig) r)
    (hpos : r.arc = false → n = 0 ∨ r.off + n ≤ maxVecPos)
    (hok : step cfg e (.advance i n) s = .ok v s') :
    n ≤ len ∧ Sim s r i s' (Recycle.step r (.advance n)) := by
  replace hok := getHandle_bind_ok hi hok
  change (if n > len then panic else _) s = _ at hok
  by_cases hnl : n > len
  · rw [if_pos hnl] at hok; cases hok
  rw [if_neg hnl] at hok
  obtain ⟨h1, s1, hm, rfl, _⟩ := ok_set_pure hok
  obtain ⟨e1, e3, e4⟩ := advance_refines_gen cfg hw.inv hi (Nat.le_of_not_lt hnl) r hv hm
  rw [if_neg (fun ⟨a, b, c⟩ => (hpos a).elim b c)] at e4
  exact ⟨Nat.le_of_not_lt hnl, sim_of_concl hi
    ⟨e1, e4, by rw [e3, (Recycle.step_frame r (.advance n) rfl).2.1]⟩⟩

theorem step_truncate_refines (cfg : Cfg) (e : Env) {s s' : St} (_hw : WFx s) {i n : Nat} {v : Val}
    {arc reg : Option Nat} {off len cap orig : Nat}
    (hi : s.hs[i]? = some (some (.mut arc reg off len cap orig))) (r : Rec)
    (hv : RecView s (.mut arc reg off len cap orig) r)
    (hok : step cfg e (.truncate i n) s = .ok v s') :
    Sim s r i s' (Recycle.step r (.truncate n)) := by
  obtain ⟨ro, rl, rcp⟩ := RecViewL_fields hv
  subst ro rl rcp
  replace hok := getHandle_bind_ok hi hok
  change (if n ≤ r.len then _ else (pure Val.unit : M Val)) s = _ at hok
  by_cases hnl : n ≤ r.len
  · rw [if_pos hnl] at hok; cases hok
    rw [Recycle.step_truncate r n hnl]
    exact ⟨_, lookup_set_eq _ hi, RecViewL_view hv _ _ _, rfl⟩
  · rw [if_neg hnl] at hok; cases hok
    rw [Recycle.step_truncate_noop r n hnl]
    exact ⟨_, hi, hv, rfl⟩

/-- what a frame lemma says: handles, allocation count and region sizes are untouched -/
def Frame (s s' : St) : Prop :=
  s'.hs = s.hs ∧ allocCount s'.events = allocCount s.events ∧ ∀ x, bufSizeL s'.regions x = bufSizeL s.regions x

theorem Frame.trans {s s1 s2 : St} (h1 : Frame s s1) (h2 : Frame s1 s2) : Frame s s2 :=
  ⟨h2.1.trans h1.1, h2.2.1.trans h1.2.1, fun x => (h2.2.2 x).trans (h1.2.2 x)⟩

theorem writeRange_frame {reg : Option Nat} {off : Nat} {bs : List Byte} {s s' : St}
    (h : writeRange reg off bs s = .ok () s') :
    s'.ctrls = s.ctrls ∧ s'.hs = s.hs ∧ s'.events = s.events ∧
      ∀ x, bufSizeL s'.regions x = bufSizeL s.regions x := by
  unfold writeRange at h
  split at h
  · cases h; exact ⟨rfl, rfl, rfl, fun _ => rfl⟩
  cases reg with
  | none => cases h
  | some r0 =>
    obtain ⟨rg, s1, hg, h2⟩ := ok_of_bind h
    obtain ⟨rfl, hr⟩ := getRegion_ok hg
    split at h2
    · cases h2
    split at h2
    · cases h2
    cases hk : rg.kind with
    | heap o => rw [hk] at h2; cases h2; exact ⟨rfl, rfl, rfl, bufSizeL_set hr rfl⟩
    | static => rw [hk] at h2; cases h2
    | ownerMem o => rw [hk] at h2; cases h2

theorem RecViewL_congr_size {R R' : List Region} {C : List CtrlE} {h : Handle} {r : Rec}
    (hsz : ∀ x, bufSizeL R' x = bufSizeL R x) (hv : RecViewL R C h r) : RecViewL R' C h r := by
  cases h with
  | bytes _ _ _ _ => exact hv.elim
  | vec _ _ _ => exact hv.elim
  | «mut» arc reg off len cap orig =>
    cases arc with
    | none =>
      obtain ⟨ra, ro, rl, rcp, rorig, rA, rp⟩ := hv
      exact ⟨ra, ro, rl, rcp, rorig, by rw [hsz]; exact rA, rp⟩
    | some c => exact hv

/-- **`mutExtend` (= `extend_from_slice`) refines `Recycle.Op.append`** (under the weak invariant
`WInv`, which also holds in the middle of `unsplit`); a KIND_ARC handle stays on its block or moves to a
fresh KIND_VEC vector -/
theorem extend_refines_w (cfg : Cfg) (e : Env) {s : St} {arc reg : Option Nat} {off len cap orig : Nat}
    (hW : WInv s (.mut arc reg off len cap orig)) (bs : List Byte) (r : Rec)
    (hv : RecView s (.mut arc reg off len cap orig) r) (h' : Handle) (s' : St)
    (hok : mutExtend cfg e (.mut arc reg off len cap orig) bs s = .ok h' s') :
    Concl s r h' s' (Recycle.step r (.append bs.length)) ∧ (arcOf h' = arc ∨ arcOf h' = none) := by
  obtain ⟨h1, s1, hm, hok⟩ := ok_of_bind (hok : (mutReserve cfg e _ bs.length >>= _) s = _)
  obtain ⟨⟨e1, e2, e3⟩, hshape⟩ := reserve_refines_w cfg e hW bs.length r hv h1 s1 hm
  obtain ⟨arc1, reg1, off1, len1, cap1, orig1, rfl⟩ := RecView.is_mut (s := s1) e2
  obtain ⟨ro, rl, rcp⟩ := RecViewL_fields e2
  subst ro rl rcp
  change (if _ < bs.length then panic else dassert cfg _ >>= _) s1 = _ at hok
  by_cases hc : (Recycle.reserve r bs.length).cap - (Recycle.reserve r bs.length).len < bs.length
  · rw [if_pos hc] at hok; cases hok
  rw [if_neg hc, bind_of_ok (dassert_eq cfg (decide_eq_true (Nat.le_of_not_lt hc)) s1)] at hok
  obtain ⟨u, s2, hw, hok⟩ := ok_of_bind hok
  cases hok
  obtain ⟨f1, f2, f3, f4⟩ := writeRange_frame hw
  refine ⟨⟨f2.trans e1, ?_, f3 ▸ e3⟩, hshape⟩
  rw [f1]
  exact RecViewL_view (RecViewL_congr_size f4 e2) _ _ _

theorem step_extend_refines (cfg : Cfg) (e : Env) {s s' : St} (hw : WFx s) {i : Nat} {bs : List Byte}
    {v : Val} {arc reg : Option Nat} {off len cap orig : Nat}
    (hi : s.hs[i]? = some (some (.mut arc reg off len cap orig))) (r : Rec)
    (hv : RecView s (.mut arc reg off len cap orig) r)
    (hok : step cfg e (.extend i bs) s = .ok v s') :
    Sim s r i s' (Recycle.step r (.append bs.length)) := by
  replace hok := getHandle_bind_ok hi hok
  obtain ⟨h1, s1, hm, rfl, _⟩ := ok_set_pure hok
  exact sim_of_concl hi (extend_refines_w cfg e (winv_of_inv hw.inv hi) bs r hv h1 s1 hm).1

/-- `shallow_clone` of the main handle: afterwards *any* KIND_ARC handle `(o, l, cp)` on the returned
control block is related to the promoted record with one more part.  For KIND_VEC this is
`promote_to_shared(2)`: the fresh control block records the handle's `original_capacity_repr`, which
`RecView` (KIND_VEC clause) equates with `r.orig` — so `Recycle.promote` keeping `orig` is right. -/
theorem shallowClone_view {s : St} (hI : Inv s) {i : Nat} {arc reg : Option Nat} {off len cap orig : Nat}
    (hi : s.hs[i]? = some (some (.mut arc reg off len cap orig))) (r : Rec)
    (hv : RecView s (.mut arc reg off len cap orig) r) :
    ∃ (c : Nat) (C' : List CtrlE) (ev : List Ev),
      mutShallowClone (.mut arc reg off len cap orig) s =
        .ok (.mut (some c) reg off len cap orig, .mut (some c) reg off len cap orig)
          ⟨s.regions, C', s.hs, s.owners, ev⟩ ∧
      allocCount ev = allocCount s.events ∧
      ∀ o l cp, RecViewL s.regions C' (.mut (some c) reg o l cp orig)
        { r with arc := true, off := o, len := l, cap := cp, parts := r.parts + 1 } := by
  cases arc with
  | some c =>
    obtain ⟨vreg, vlen, vcap, vorig, rc, he, ra, ro, rl, rcp, rorig, rA, rp⟩ := hv
    have hrc1 : 1 ≤ rc := (hI.cok c _ he rfl).2.1
    exact ⟨c, _, s.events, bind_of_ok (incCtrl_eq he rfl), rfl, fun o l cp =>
      ⟨vreg, vlen, vcap, vorig, rc + 1, lookup_set_eq _ he, rfl, rfl, rfl, rfl, rorig, rA,
        by show r.parts + 1 = rc; rw [rp, Nat.sub_add_cancel hrc1]⟩⟩
  | none =>
    have hex := (RecView.layout hI hi hv).2.vec_exact hv.1
    obtain ⟨ra, ro, rl, rcp, rorig, rA, rp⟩ := hv
    exact ⟨s.ctrls.length, _, _, rfl, allocCount_skip rfl _, fun o l cp =>
      ⟨reg, off + len, off + cap, orig, 2, List.getElem?_concat_length, rfl, rfl, rfl, rfl, rorig,
        (ro ▸ rcp ▸ hex).symm, by show r.parts + 1 = 1; rw [rp]⟩⟩

/-- **`Op.splitTo i n` refines `Recycle.Op.splitTo n`** (no side condition; `n = 0` and `n = len`
included: both models take the shallow clone — and promote — even for an empty part) -/
theorem step_splitTo_refines (cfg : Cfg) (e : Env) {s s' : St} (hw : WFx s) {i n : Nat} {v : Val}
    {arc reg : Option Nat} {off len cap orig : Nat}
    (hi : s.hs[i]? = some (some (.mut arc reg off len cap orig))) (r : Rec)
    (hv : RecView s (.mut arc reg off len cap orig) r)
    (hok : step cfg e (.splitTo i n) s = .ok v s') :
    n ≤ len ∧ Sim s r i s' (Recycle.step r (.splitTo n)) := by
  obtain ⟨c, C', ev, hsc, hev, hview⟩ := shallowClone_view hw.inv hi r hv
  obtain ⟨ro, rl, rcp⟩ := RecViewL_fields hv
  have hlc : len ≤ cap := rl ▸ rcp ▸ (RecView.layout hw.inv hi hv).2.len_le
  replace hok := getHandle_bind_ok hi hok
  change (if n > len then panic else mutShallowClone _ >>= _) s = _ at hok
  by_cases hnl : n > len
  · rw [if_pos hnl] at hok; cases hok
  have hn : n ≤ len := Nat.le_of_not_lt hnl
  rw [if_neg hnl, bind_of_ok hsc] at hok
  change (mutAdvanceUnchecked cfg _ n >>= _) _ = _ at hok
  rw [bind_of_ok (mutAdvanceUnchecked_arc cfg (Nat.le_trans hn hlc) _)] at hok
  cases hok
  refine ⟨hn, _, lookup_append_of_some _ (lookup_set_eq _ hi), ?_, ?_⟩
  · rw [Recycle.step_splitTo r n (rl ▸ hn), ro, rl, rcp]
    exact hview _ _ _
  · show allocCount ev + r.allocs = _
    rw [hev, (Recycle.step_frame r (.splitTo n) rfl).2.1]

theorem step_split_refines (cfg : Cfg) (e : Env) {s s' : St} (hw : WFx s) {i : Nat} {v : Val}
    {arc reg : Option Nat} {off len cap orig : Nat}
    (hi : s.hs[i]? = some (some (.mut arc reg off len cap orig))) (r : Rec)
    (hv : RecView s (.mut arc reg off len cap orig) r)
    (hok : step cfg e (.split i) s = .ok v s') :
    Sim s r i s' (Recycle.step r .split) := by
  obtain ⟨_, rl, _⟩ := RecViewL_fields hv
  rw [Recycle.step_split, rl]
  exact (step_splitTo_refines cfg e hw hi r hv (getHandle_bind_ok hi hok)).2

theorem opDrop_ctrl {s : St} {j : Nat} {hj : Handle} {c : Nat} (hjl : s.hs[j]? = some (some hj))
    (hjc : ctrlOf hj = some c) :
    opDrop j s = (do releaseCtrl c; pure Val.unit) { s with hs := s.hs.set j none } := by
  change (getHandle j >>= _) s = _
  rw [bind_of_ok (getHandle_eq hjl)]
  cases hj with
  | bytes repr reg off len =>
    cases repr with
    | static => cases hjc
    | owned c' => cases hjc; rfl
    | shared c' => cases hjc; rfl
    | sharedV c' => cases hjc; rfl
    | prom vt oc =>
      cases oc with
      | none => cases hjc
      | some c' => cases hjc; rfl
  | «mut» arc reg off len cap orig =>
    cases arc with
    | none => cases hjc
    | some c' => cases hjc; rfl
  | vec reg len cap => cases hjc

/-- a KIND_ARC view, taken apart and put together again: the control block the record was read from,
and the relation for any window on that block after its reference count has changed -/
theorem RecViewL_arc {R : List Region} {C : List CtrlE} {c : Nat} {reg : Option Nat}
    {off len cap orig : Nat} {r : Rec} (hv : RecViewL R C (.mut (some c) reg off len cap orig) r) :
    ∃ vreg vlen rc, C[c]? = some ⟨.sharedV vreg vlen r.A r.orig, rc, true⟩ ∧ r.parts = rc - 1 ∧
      ∀ (rc' p o l cp g : Nat), p = rc' - 1 →
        RecViewL R (C.set c ⟨.sharedV vreg vlen r.A r.orig, rc', true⟩) (.mut (some c) reg o l cp g)
          { r with off := o, len := l, cap := cp, parts := p } := by
  obtain ⟨vreg, vlen, vcap, vorig, rc, he, ra, _, _, _, rorig, rA, rp⟩ := hv
  subst rorig rA
  exact ⟨vreg, vlen, rc, he, rp, fun rc' p o l cp g hp =>
    ⟨vreg, vlen, r.A, r.orig, rc', lookup_set_eq _ he, ra, rfl, rfl, rfl, rfl, rfl, hp⟩⟩

/-- two live handles on one control block: its count is at least 2, so a `release` only decrements it
(whatever has meanwhile happened to the handle table) -/
theorem release_second {s : St} (hI : Inv s) {i j c : Nat} {h hj : Handle} (hij : j ≠ i)
    (hi : s.hs[i]? = some (some h)) (hic : ctrlOf h = some c) (hjl : s.hs[j]? = some (some hj))
    (hjc : ctrlOf hj = some c) {ct : Ctrl} {rc : Nat} (he : s.ctrls[c]? = some ⟨ct, rc, true⟩) :
    2 ≤ rc ∧ ∀ hs', releaseCtrl c { s with hs := hs' } =
      .ok () { s with hs := hs', ctrls := s.ctrls.set c ⟨ct, rc - 1, true⟩ } := by
  have hrc : rc = refCountL s.hs c := (hI.cok c _ he rfl).1
  have hrc1 : 1 ≤ rc := (hI.cok c _ he rfl).2.1
  have hne1 : rc ≠ 1 := fun h1 => hij (refCountL_unique (hrc ▸ h1) hi hic hjl hjc)
  exact ⟨Nat.lt_of_le_of_ne hrc1 (Ne.symm hne1), fun hs' =>
    releaseCtrl_dec (s := { s with hs := hs' }) he rfl (Nat.ne_of_gt hrc1) hne1⟩

/-- **`Op.drop j` of another live handle on the main handle's control block refines
`Recycle.Op.dropPart`**: the other handle may be a split-off `BytesMut` part or a frozen `Bytes` clone
(`RecView` counts both in `parts`, as `rc - 1`).  In particular `r.parts ≥ 1`. -/
theorem step_dropPart_refines (cfg : Cfg) (e : Env) {s s' : St} (hw : WFx s) {i j c : Nat} {v : Val}
    {reg : Option Nat} {off len cap orig : Nat}
    (hi : s.hs[i]? = some (some (.mut (some c) reg off len cap orig))) (r : Rec)
    (hv : RecView s (.mut (some c) reg off len cap orig) r)
    (hij : j ≠ i) {hj : Handle} (hjl : s.hs[j]? = some (some hj)) (hjc : ctrlOf hj = some c)
    (hok : step cfg e (.drop j) s = .ok v s') :
    1 ≤ r.parts ∧ Sim s r i s' (Recycle.step r .dropPart) := by
  obtain ⟨ro, rl, rcp⟩ := RecViewL_fields hv
  subst ro rl rcp
  obtain ⟨vreg, vlen, rc, he, rp, hset⟩ := RecViewL_arc hv
  obtain ⟨hrc2, hrel⟩ := release_second hw.inv hij hi rfl hjl hjc he
  rw [show step cfg e (.drop j) s = opDrop j s from rfl, opDrop_ctrl hjl hjc, bind_of_ok (hrel _)] at hok
  cases hok
  have hi' : (s.hs.set j none)[i]? = some (some (.mut (some c) reg r.off r.len r.cap orig)) :=
    (List.getElem?_set_ne hij).trans hi
  exact ⟨rp ▸ Nat.le_sub_one_of_lt hrc2, _, hi', hset _ _ _ _ _ _ (by rw [rp]), rfl⟩

/-- `Op.splitOff i k` on the main handle, any `k ≤ cap`: the main handle keeps `[off, off + k)` -/
theorem splitOff_refines (cfg : Cfg) {s s' : St} (hI : Inv s) {i k : Nat} {v : Val}
    {arc reg : Option Nat} {off len cap orig : Nat}
    (hi : s.hs[i]? = some (some (.mut arc reg off len cap orig))) (r : Rec)
    (hv : RecView s (.mut arc reg off len cap orig) r)
    (hok : opSplitOff cfg i k s = .ok v s') :
    Sim s r i s' { r with arc := true, off := r.off, len := min r.len k, cap := k, parts := r.parts + 1 } := by
  obtain ⟨c, C', ev, hsc, hev, hview⟩ := shallowClone_view hI hi r hv
  obtain ⟨ro, rl, rcp⟩ := RecViewL_fields hv
  replace hok := getHandle_bind_ok hi hok
  change (if k > cap then panic else mutShallowClone _ >>= _) s = _ at hok
  by_cases hkc : k > cap
  · rw [if_pos hkc] at hok; cases hok
  have hk : k ≤ cap := Nat.le_of_not_lt hkc
  rw [if_neg hkc, bind_of_ok hsc] at hok
  change (mutAdvanceUnchecked cfg _ k >>= _) _ = _ at hok
  rw [bind_of_ok (mutAdvanceUnchecked_arc cfg hk _)] at hok
  cases hok
  refine ⟨_, lookup_append_of_some _ (lookup_set_eq _ hi), ?_, ?_⟩
  · rw [ro, rl]
    exact hview _ _ _
  · show allocCount ev + r.allocs = allocCount s.events + r.allocs
    rw [hev]

/-- **`Op.splitOff i len` refines `Recycle.Op.splitOffTail`** (the side condition `k = len` is what
`splitOffTail` means; for other `k ≤ cap` see `splitOff_refines`) -/
theorem step_splitOffTail_refines (cfg : Cfg) (e : Env) {s s' : St} (hw : WFx s) {i : Nat} {v : Val}
    {arc reg : Option Nat} {off len cap orig : Nat}
    (hi : s.hs[i]? = some (some (.mut arc reg off len cap orig))) (r : Rec)
    (hv : RecView s (.mut arc reg off len cap orig) r)
    (hok : step cfg e (.splitOff i len) s = .ok v s') :
    Sim s r i s' (Recycle.step r .splitOffTail) := by
  obtain ⟨ro, rl, rcp⟩ := RecViewL_fields hv
  have := splitOff_refines cfg hw.inv hi r hv (show opSplitOff cfg i len s = .ok v s' from hok)
  rw [Recycle.step_splitOffTail]
  rw [← rl, Nat.min_self] at this
  exact this

/-- `Op.unsplit i j` refuses `i = j` and fetches both handles -/
theorem unsplit_fetch {F : Handle → Handle → M Val} {s s' : St} {i j : Nat} {h o : Handle} {v : Val}
    (hi : s.hs[i]? = some (some h)) (hj : s.hs[j]? = some (some o))
    (hok : (if i = j then panic else do let h ← getHandle i; let o ← getHandle j; F h o) s = .ok v s') :
    i ≠ j ∧ F h o s = .ok v s' := by
  by_cases hij : i = j
  · rw [if_pos hij] at hok; cases hok
  · rw [if_neg hij, bind_of_ok (getHandle_eq hi), bind_of_ok (getHandle_eq hj)] at hok
    exact ⟨hij, hok⟩

/-- **`Op.unsplit i j` of a part `j` on the same control block that starts at the end of the main
handle's contents refines `Recycle.Op.unsplitLast olen ocap`** — no side condition: the three branches
M1 (like `BytesMut::unsplit` / `try_unsplit`) can take for such a part are the first three branches of
`Recycle.step _ (.unsplitLast _ _)`; M1 merges on `ptr + len == other.ptr` alone, the recycling model
asks for `len = cap`, which for a part with capacity is the same by exclusivity (`mut_adjacent_full`).
The fourth branch of the recycling model (fall-back to `extend_from_slice`) is not reachable for a
part in this position; it is what M1 does for a part of the same block elsewhere, see
`step_unsplit_copy_refines`. -/
theorem step_unsplitLast_refines (cfg : Cfg) (e : Env) {s s' : St} (hw : WFx s) {i j c : Nat} {v : Val}
    {reg : Option Nat} {off len cap orig olen ocap oorig : Nat}
    (hi : s.hs[i]? = some (some (.mut (some c) reg off len cap orig))) (r : Rec)
    (hv : RecView s (.mut (some c) reg off len cap orig) r)
    (hj : s.hs[j]? = some (some (.mut (some c) reg (off + len) olen ocap oorig)))
    (hok : step cfg e (.unsplit i j) s = .ok v s') :
    Sim s r i s' (Recycle.step r (.unsplitLast olen ocap)) := by
  obtain ⟨hij, hok⟩ := unsplit_fetch hi hj hok
  obtain ⟨ro, rl, rcp⟩ := RecViewL_fields hv
  subst ro rl rcp
  obtain ⟨vreg, vlen, rc, he, rp, hset⟩ := RecViewL_arc hv
  obtain ⟨_, hrel⟩ := release_second hw.inv (Ne.symm hij) hi rfl hj rfl he
  have hi' : (s.hs.set j none)[i]? = some (some (.mut (some c) reg r.off r.len r.cap orig)) :=
    (List.getElem?_set_ne (Ne.symm hij)).trans hi
  change (if r.len = 0 then _ else if ocap = 0 then _ else if _ then _ else _ : M Val) s = _ at hok
  -- in all three branches the part's slot is cleared and its reference released
  have hkr : ∀ F : Unit → M Val, (killHandle j >>= fun _ => releaseCtrl c >>= F) s = F () _ := fun F => by
    rw [bind_of_ok (killHandle_apply j s), bind_of_ok (hrel _)]
  by_cases hl0 : r.len = 0
  · -- `*self = other`: the old (empty) main handle is dropped, whatever capacity it had
    rw [if_pos hl0] at hok
    cases (hkr _).symm.trans hok
    rw [Recycle.step_unsplitLast_empty r olen ocap hl0]
    refine ⟨_, lookup_set_eq _ hi', ?_, rfl⟩
    rw [show r.off + r.len = r.off by rw [hl0]; rfl]
    exact hset _ _ _ _ _ _ (by rw [rp])
  rw [if_neg hl0] at hok
  by_cases hoc : ocap = 0
  · -- the empty part is dropped, whether or not the main handle is full
    rw [if_pos hoc] at hok
    cases (hkr _).symm.trans hok
    rw [Recycle.step_unsplitLast_drop r olen ocap hl0 hoc]
    exact ⟨_, hi', hset _ _ _ _ _ _ (by rw [rp]), rfl⟩
  · -- the two halves are merged; the main handle is full by exclusivity
    rw [if_neg hoc, if_pos ⟨rfl, rfl, rfl, rfl⟩] at hok
    cases (hkr _).symm.trans hok
    rw [Recycle.step_unsplitLast_merge r olen ocap hl0 hoc (mut_adjacent_full hw.inv hij hi hj hoc).symm]
    exact ⟨_, lookup_set_eq _ hi', hset _ _ _ _ _ _ (by rw [rp]), rfl⟩

theorem freeCtrl_frame {c : Nat} {s s' : St} (h : freeCtrl c s = .ok () s') : Frame s s' := by
  obtain ⟨e0, s1, hg, h⟩ := ok_of_bind h
  cases (getCtrl_ok hg).1
  cases h
  exact ⟨rfl, allocCount_skip rfl _, fun _ => rfl⟩

theorem freeRegion_frame {r size : Nat} {s s' : St} (h : freeRegion r size s = .ok () s') : Frame s s' := by
  obtain ⟨rg, s1, hg, h2⟩ := ok_of_bind h
  obtain ⟨rfl, hr⟩ := getRegion_ok hg
  split at h2
  · cases h2
  split at h2
  · cases h2
  cases hk : rg.kind with
  | heap o => rw [hk] at h2; cases h2; exact ⟨rfl, allocCount_dealloc _ _ _, bufSizeL_set hr rfl⟩
  | static => rw [hk] at h2; cases h2
  | ownerMem o => rw [hk] at h2; cases h2

theorem vecFree_frame {reg : Option Nat} {cap : Nat} {s s' : St} (h : vecFree reg cap s = .ok () s') : Frame s s' := by
  unfold vecFree at h
  split at h <;> split at h
  · cases h; exact ⟨rfl, rfl, fun _ => rfl⟩
  · cases h
  · cases h
  · exact freeRegion_frame h

/-- a successful `release` of a control block, whichever branch it takes -/
theorem releaseCtrl_frame {c : Nat} {s s' : St} (h : releaseCtrl c s = .ok () s') : Frame s s' := by
  obtain ⟨⟨ct, rc, live⟩, s1, hg, h⟩ := ok_of_bind h
  cases (getCtrl_ok hg).1
  split at h
  · cases h
  split at h
  · cases h; exact ⟨rfl, rfl, fun _ => rfl⟩
  -- the last reference: the count is set to 0 (which `Frame` does not see), then the buffer and the block go
  obtain ⟨_, _, hs, h⟩ := ok_of_bind h
  cases hs
  cases ct with
  | sharedB reg cap =>
    obtain ⟨_, s2, hf, h⟩ := ok_of_bind h
    have f1 := freeRegion_frame hf
    exact Frame.trans (show Frame s s2 from f1) (freeCtrl_frame h)
  | sharedV reg vlen vcap orig =>
    obtain ⟨_, s2, hf, h⟩ := ok_of_bind h
    have f1 := vecFree_frame hf
    exact Frame.trans (show Frame s s2 from f1) (freeCtrl_frame h)
  | owned o =>
    obtain ⟨_, _, he, h⟩ := ok_of_bind h
    cases he
    obtain ⟨_, _, hm, h⟩ := ok_of_bind h
    cases hm
    refine Frame.trans ?_ (freeCtrl_frame h)
    refine ⟨rfl, allocCount_skip rfl _, fun x => ?_⟩
    cases x with
    | none => rfl
    | some x =>
      show regionSizeL _ x = regionSizeL _ x
      simp only [regionSizeL_def, List.getElem?_map]
      cases s.regions[x]? with
      | none => rfl
      | some rg => simp only [Option.map_some]; split <;> rfl

/-- unless `reserve` moves the buffer to a fresh vector (which is KIND_VEC) it keeps the parts -/
theorem reserve_arc_parts {r : Rec} (hi : Recycle.RInv r) (k : Nat) (h : (Recycle.reserve r k).arc = true) :
    (Recycle.reserve r k).parts = r.parts := by
  obtain ⟨_, _, _, _, _, ⟨_, _, _, ep⟩ | ⟨_, _, _, ep, _⟩ | ⟨_, ea, _⟩⟩ := Recycle.reserve_spec k rfl hi
  · exact ep
  · exact ep
  · exact Recycle.arc_absurd h ea

/-- **`Op.unsplit i j` of a part `j` on the same control block that can *not* be merged refines the
fourth branch of `Recycle.Op.unsplitLast`**: the part does not start at the end of the main handle's
contents (`ooff ≠ off + len`; e.g. it lies behind spare capacity that the main handle got back), has
capacity, and the main handle is neither empty nor full.  M1 — like `BytesMut::unsplit` — falls back to
`extend_from_slice(other)` and then drops the part; `Recycle.step` does `append olen` and then
`parts - 1`.  If the copy does not fit the spare capacity, the part being alive forces a fresh
allocation in both models.  (For a part elsewhere the other three branches of `unsplitLast` are *not*
what M1 does in general: with `len = 0` the main handle takes over the part's offset `ooff`, which the
recycling model — told only `(olen, ocap)` — takes to be `off`; with `len = cap` M1 still copies where
the model merges.  Hence the hypotheses `hl0`, `hnf`.) -/
theorem step_unsplit_copy_refines (cfg : Cfg) (e : Env) {s s' : St} (hw : WFx s) {i j c : Nat} {v : Val}
    {reg : Option Nat} {off len cap orig ooff olen ocap oorig : Nat}
    (hi : s.hs[i]? = some (some (.mut (some c) reg off len cap orig))) (r : Rec)
    (hv : RecView s (.mut (some c) reg off len cap orig) r)
    (hj : s.hs[j]? = some (some (.mut (some c) reg ooff olen ocap oorig)))
    (hl0 : len ≠ 0) (hoc : ocap ≠ 0) (hne : ooff ≠ off + len) (hnf : len ≠ cap)
    (hok : step cfg e (.unsplit i j) s = .ok v s') :
    Sim s r i s' (Recycle.step r (.unsplitLast olen ocap)) := by
  obtain ⟨hij, hok⟩ := unsplit_fetch hi hj hok
  obtain ⟨ro, rl, rcp⟩ := RecViewL_fields hv
  subst ro rl rcp
  obtain ⟨_, _, hrdj⟩ := handleOKL_mutA.mp (hw.inv.hok j _ hj)
  obtain ⟨bs, hbs⟩ := Option.isSome_iff_exists.mp hrdj
  have hbl : bs.length = olen := rdL_length hw.inv.regs hbs
  obtain ⟨vreg, vlen, rc, he, rp, _⟩ := RecViewL_arc hv
  obtain ⟨hrc2, _⟩ := release_second hw.inv (Ne.symm hij) hi rfl hj rfl he
  have hi' : (s.hs.set j none)[i]? = some (some (.mut (some c) reg r.off r.len r.cap orig)) :=
    (List.getElem?_set_ne (Ne.symm hij)).trans hi
  change (if r.len = 0 then _ else if ocap = 0 then _ else if _ then _ else readRange _ _ _ >>= _ : M Val) s = _
    at hok
  rw [if_neg hl0, if_neg hoc, if_neg (fun h => hne h.2.1), bind_of_ok (readRange_of_rdL hbs),
    bind_of_ok (killHandle_apply j s)] at hok
  rw [Recycle.step_unsplitLast_copy r olen ocap hl0 hoc hnf, ← hbl]
  -- `extend_from_slice` in the state where slot `j` is already gone
  have hW : WInv { s with hs := s.hs.set j none } (.mut (some c) reg r.off r.len r.cap orig) :=
    ⟨hw.inv.regs, hw.inv.hok i _ hi, (winv_of_inv hw.inv hi).cok⟩
  cases hm : mutExtend cfg e (.mut (some c) reg r.off r.len r.cap orig) bs { s with hs := s.hs.set j none } with
  | ub w sx => rw [hm] at hok; cases hok
  | panic sx =>
    rw [hm] at hok
    obtain ⟨_, _, _, h⟩ := ok_of_bind hok
    cases h
  | ok h' sx =>
    rw [hm] at hok
    obtain ⟨⟨e1, e2, e3⟩, hsh⟩ := extend_refines_w cfg e hW bs r hv h' sx hm
    change (setHandle i h' >>= fun _ => releaseCtrl c >>= _) sx = _ at hok
    rw [bind_of_ok (setHandle_apply i h' sx)] at hok
    obtain ⟨u, sy, hrl, hok⟩ := ok_of_bind hok
    cases hok
    obtain ⟨f1, f2, f3⟩ := releaseCtrl_frame hrl
    have hlook : s'.hs[i]? = some (some h') := by
      rw [f1]
      show (sx.hs.set i (some h'))[i]? = some (some h')
      rw [e1]; exact lookup_set_eq _ hi'
    refine ⟨h', hlook, ?_, by rw [f2]; exact e3⟩
    obtain ⟨arc', reg', off', len', cap', orig', rfl⟩ := RecView.is_mut (s := sx) e2
    cases arc' with
    | none =>
      -- moved to a fresh vector: whatever `release` did to the old block does not matter
      obtain ⟨qa, qo, ql, qc, qorig, qA, qp⟩ := e2
      exact ⟨qa, qo, ql, qc, qorig, by rw [f3]; exact qA, by show _ - 1 = 0; rw [qp]⟩
    | some c1 =>
      obtain rfl : c1 = c := hsh.elim Option.some.inj (fun h => nomatch h)
      have qa : (Recycle.step r (.append bs.length)).arc = true := by
        obtain ⟨_, _, _, _, _, _, qa, _⟩ := e2; exact qa
      obtain ⟨qo, ql, qc⟩ := RecViewL_fields e2
      subst qo ql qc
      obtain ⟨vreg', vlen', rc', he', qp, hset'⟩ := RecViewL_arc e2
      have hrc' : 2 ≤ rc' := by
        have := qp.symm.trans ((reserve_arc_parts (RecView.layout hw.inv hi hv).2 bs.length qa).trans rp)
        omega
      rw [releaseCtrl_dec (s := { sx with hs := sx.hs.set i _ }) he' rfl (Nat.ne_of_gt (Nat.lt_of_succ_lt hrc'))
        (Nat.ne_of_gt hrc')] at hrl
      cases hrl
      exact hset' _ _ _ _ _ _ (by rw [qp])

/-- **The auxiliary view of a frozen main handle**: relates the `Bytes` handle that `freeze()` made of
the main handle to the record `r` the main handle had *before* the freeze.  A frozen KIND_ARC handle
(`SHARED_VTABLE` of bytes_mut.rs) has forgotten its capacity; a frozen KIND_VEC handle is promotable
(`len = cap`: it still owns its allocation, the `original_capacity_repr` is forgotten), lives on a fresh
`Shared { buf, cap, ref_cnt: 1 }` of bytes.rs (`len ≠ cap`), or is the static empty `Bytes`
(no allocation).  `freeze` never returns an already-promoted (`.prom _ (some c)`) or owner-backed `Bytes`,
so those shapes are related to nothing. -/
def FrozenViewL (R : List Region) (C : List CtrlE) (h : Handle) (r : Rec) : Prop :=
  match h with
  | .bytes (.sharedV c) _ off len =>
    ∃ vreg vlen vcap vorig rc, C[c]? = some ⟨.sharedV vreg vlen vcap vorig, rc, true⟩ ∧
      r.arc = true ∧ r.off = off ∧ r.len = len ∧ r.orig = vorig ∧ r.A = vcap ∧ r.parts = rc - 1
  | .bytes (.prom _ none) reg off len =>
    r.arc = false ∧ r.off = off ∧ r.len = len ∧ r.cap = len ∧ r.A = bufSizeL R reg ∧ r.A ≠ 0 ∧
      r.parts = 0 ∧ off ≤ maxVecPos
  | .bytes (.shared c) _ off len =>
    ∃ r0 bcap, C[c]? = some ⟨.sharedB r0 bcap, 1, true⟩ ∧
      r.arc = false ∧ r.off = off ∧ r.len = len ∧ r.len < r.cap ∧ off + r.cap = bcap ∧ r.A = bcap ∧
      r.parts = 0 ∧ off ≤ maxVecPos
  | .bytes .static reg off len =>
    reg = none ∧ off = 0 ∧ len = 0 ∧
      r.arc = false ∧ r.off = 0 ∧ r.len = 0 ∧ r.cap = 0 ∧ r.A = 0 ∧ r.parts = 0
  | _ => False

def FrozenView (s : St) (h : Handle) (r : Rec) : Prop := FrozenViewL s.regions s.ctrls h r

theorem FrozenView.is_bytes {s : St} {h : Handle} {r : Rec} (hv : FrozenView s h r) :
    ∃ repr reg off len, h = .bytes repr reg off len := by
  cases h with
  | bytes repr reg off len => exact ⟨_, _, _, _, rfl⟩
  | vec _ _ _ => exact hv.elim
  | «mut» arc reg off len cap orig => exact hv.elim

/-- `Bytes::from(Vec)` with spare capacity: a fresh `Shared { buf, cap, ref_cnt: 1 }` -/
theorem bytesFromVec_shared {s : St} {r len cap : Nat} (hne : len ≠ cap) :
    bytesFromVec (some r) len cap s = .ok (.bytes (.shared s.ctrls.length) (some r) 0 len)
      { s with ctrls := s.ctrls ++ [⟨.sharedB r cap, 1, true⟩],
               events := .allocCtrl s.ctrls.length :: s.events } :=
  congrFun (if_neg hne) s

/-- **`Op.freeze i` of the main handle** leads to a well-formed state in which slot `i` holds a `Bytes`
handle that is a frozen view of the same record; no byte buffer is allocated (a `Shared` header may be). -/
theorem step_freeze_view (cfg : Cfg) (e : Env) {s s1 : St} (hw : WFx s) {i : Nat} {v : Val}
    {arc reg : Option Nat} {off len cap orig : Nat}
    (hi : s.hs[i]? = some (some (.mut arc reg off len cap orig))) (r : Rec)
    (hv : RecView s (.mut arc reg off len cap orig) r)
    (hok : step cfg e (.freeze i) s = .ok v s1) :
    WFx s1 ∧ ∃ hb, s1.hs[i]? = some (some hb) ∧ FrozenView s1 hb r ∧
      allocCount s1.events = allocCount s.events := by
  refine ⟨WFx_step hw hok trivial, ?_⟩
  have hI := hw.inv
  have hok0 := hI.hok i _ hi
  replace hok := getHandle_bind_ok hi hok
  cases arc with
  | some c =>
    cases hok
    obtain ⟨vreg, vlen, vcap, vorig, rc, he, ra, ro, rl, rcp, rorig, rA, rp⟩ := hv
    exact ⟨_, lookup_set_eq _ hi, ⟨vreg, vlen, vcap, vorig, rc, he, ra, ro, rl, rorig, rA, rp⟩, rfl⟩
  | none =>
    obtain ⟨hlc, hoffb, hregc, hrd⟩ := handleOKL_mutV.mp hok0
    obtain ⟨ra, ro, rl, rcp, rorig, rA, rp⟩ := hv
    change (bytesFromVec reg (off + len) (off + cap) >>= _) s = _ at hok
    have hng : ¬ off > off + len := Nat.not_lt.mpr (Nat.le_add_right _ _)
    by_cases hlc' : len = cap
    · subst hlc'
      by_cases h0 : off + len = 0
      · obtain rfl := Nat.eq_zero_of_add_eq_zero_right h0
        obtain rfl := Nat.eq_zero_of_add_eq_zero_left h0
        have hreg0 : reg = none := by
          cases reg with
          | none => rfl
          | some r0 => exact absurd hregc.2.symm (heap_size_pos hI.regs hregc.1)
        subst hreg0
        cases hok
        exact ⟨_, lookup_set_eq _ hi, ⟨rfl, rfl, rfl, ra, ro, rl, rcp, rA, rp⟩, rfl⟩
      · cases reg with
        | none => exact absurd hregc h0
        | some r0 =>
          rw [bind_of_ok (OpsA.bytesFromVec_full h0 hregc.1)] at hok
          change (if off > off + len then panic else _) _ = _ at hok
          rw [if_neg hng] at hok; cases hok
          refine ⟨_, lookup_set_eq _ hi, ?_, rfl⟩
          show FrozenViewL _ _ (.bytes _ _ (0 + off) (off + len - off)) r
          rw [Nat.zero_add, Nat.add_sub_cancel_left]
          exact ⟨ra, ro, rl, rcp, rA, fun hA0 => h0 (hregc.2.trans (rA.symm.trans hA0)), rp, hoffb⟩
    · cases reg with
      | none =>
        exact absurd ((Nat.eq_zero_of_add_eq_zero_left (Nat.le_zero.mp (hregc ▸ Nat.add_le_add_left hlc off))).trans
          (Nat.eq_zero_of_add_eq_zero_left hregc).symm) hlc'
      | some r0 =>
        rw [bind_of_ok (bytesFromVec_shared (fun h => hlc' (Nat.add_left_cancel h)))] at hok
        change (if off > off + len then panic else _) _ = _ at hok
        rw [if_neg hng] at hok; cases hok
        refine ⟨_, lookup_set_eq _ hi, ?_, allocCount_skip rfl _⟩
        show FrozenViewL _ _ (.bytes _ _ (0 + off) (off + len - off)) r
        rw [Nat.zero_add, Nat.add_sub_cancel_left]
        exact ⟨r0, off + cap, List.getElem?_concat_length, ra, ro, rl, rl ▸ rcp ▸ Nat.lt_of_le_of_ne hlc hlc',
          by rw [rcp], rA.trans hregc.2.symm, rp, hoffb⟩

/-- `from_vec(…)` + `advance_unchecked(off)`: the KIND_VEC handle over the whole vector, moved to `off` -/
theorem fromVec_advance (cfg : Cfg) {reg : Option Nat} {len cap off : Nat} (hk : off ≤ cap)
    (hpos : off ≤ maxVecPos) (s : St) :
    mutAdvanceUnchecked cfg (mutFromVec reg len cap) off s =
      .ok (.mut none reg off (len - off) (cap - off) (originalCapacityToRepr cap)) s :=
  (mutAdvance_from_zero cfg hk s).elim (·.2) (fun h => absurd hpos h.1)

/-- a successful copy of the view into a fresh exact-size vector (`to_vec`): one byte-buffer allocation
unless the view is empty -/
theorem toVecCopy_ok (e : Env) {s sx : St} {reg : Option Nat} {off len : Nat} {v : List Byte} {x : Handle}
    (hv : rdL s.regions reg off len = some v) (h : toVecCopy e reg off len s = .ok x sx) :
    ∃ r', x = .vec r' len len ∧ bufSizeL sx.regions r' = len ∧ sx.ctrls = s.ctrls ∧ sx.hs = s.hs ∧
      allocCount sx.events = allocCount s.events + (if len = 0 then 0 else 1) := by
  rcases toVecCopy_cases e hv with ⟨hl0, hq⟩ | hq | ⟨hl0, _, hq⟩
  · rw [hq] at h; cases h
    exact ⟨none, rfl, hl0.symm, rfl, rfl, by rw [if_pos hl0]; rfl⟩
  · rw [hq] at h; cases h
  · rw [hq] at h; cases h
    exact ⟨_, rfl, bufSizeL_new _ _, rfl, rfl, by rw [if_neg hl0]; exact allocCount_alloc _ _ _⟩

/-- **`bytesIntoMut` (the vtable's `to_mut`, i.e. `BytesMut::from(Bytes)`) on a frozen main handle
refines `Recycle.Op.roundTrip`**, branch by branch: unique `shared_v_to_mut` hands back everything
behind the offset; a shared one is copied into a fresh exact-size vector; `promotable_to_mut` and
`shared_to_mut_impl` rebuild the KIND_VEC handle over the whole allocation and re-record
`original_capacity_repr`; the static empty handle becomes a fresh empty `BytesMut`. -/
theorem intoMut_refines (cfg : Cfg) (e : Env) {s1 : St} (hI : Inv s1) {i : Nat} {hb : Handle}
    (hi : s1.hs[i]? = some (some hb)) (r : Rec) (hv : FrozenView s1 hb r) {m : Handle} {s2 : St}
    (hok : bytesIntoMut cfg e hb s1 = .ok m s2) : Concl s1 r m s2 (Recycle.step r .roundTrip) := by
  unfold Concl
  obtain ⟨repr, reg, off, len, rfl⟩ := hv.is_bytes
  have hok0 := hI.hok i _ hi
  cases repr with
  | owned c => exact hv.elim
  | «static» =>
    obtain ⟨rfl, rfl, rfl, ra, ro, rl, rcp, rA, rp⟩ := hv
    -- the static empty `Bytes` converts by computation
    cases (hok : R.ok (Handle.mut none none 0 0 0 (originalCapacityToRepr 0)) s1 = _)
    rw [Recycle.step_roundTrip_vec r rp ra]
    exact ⟨rfl, ⟨ra, ro, rl, rcp, by show Recycle.origRepr r.A = _; rw [rA]; rfl, rA, rp⟩, rfl⟩
  | prom vt oc =>
    cases oc with
    | some c => exact hv.elim
    | none =>
      obtain ⟨ra, ro, rl, rcp, rA, rA0, rp, hpos⟩ := hv
      obtain ⟨⟨r0, hreg', hlive, hsz, hvt⟩, _⟩ := handleOKL_promV.mp hok0
      subst hreg'
      have hA : r.A = off + len := rA.trans hsz.symm
      rw [show bytesIntoMut cfg e (.bytes (.prom vt none) (some r0) off len) s1 = _ from
        (bind_of_ok (promDecode_eq hlive hvt)).trans (fromVec_advance cfg (Nat.le_add_right _ _) hpos s1)] at hok
      cases hok
      rw [Recycle.step_roundTrip_vec r rp ra]
      refine ⟨rfl, ⟨ra, ro, ?_, ?_, by show Recycle.origRepr r.A = _; rw [hA]; rfl, rA, rp⟩, rfl⟩
      · show r.len = off + len - off; rw [Nat.add_sub_cancel_left]; exact rl
      · show r.cap = off + len - off; rw [Nat.add_sub_cancel_left]; exact rcp
  | shared c =>
    obtain ⟨r0, bcap, he, ra, ro, rl, rne, rcp, rA, rp, hpos⟩ := hv
    obtain ⟨⟨r0', cap', h1', hreg', hb'⟩, _⟩ := handleOKL_shared.mp hok0
    have hlv : liveCtrlL s1.ctrls c = some (.sharedB r0 bcap) := liveCtrlL_of he rfl
    rw [hlv] at h1'
    cases Option.some.inj h1'
    subst hreg'
    obtain ⟨_, _, _, _, _, _, hbuf⟩ := hI.cok' hlv
    rw [show bytesIntoMut cfg e (.bytes (.shared c) (some r0) off len) s1 = _ from
      (bind_of_ok (ctrlIsUnique_eq he rfl)).trans ((bind_of_ok (takeSharedB_eq he rfl rfl)).trans
        (fromVec_advance cfg (Nat.le_trans (Nat.le_add_right _ _) hb') hpos _))] at hok
    cases hok
    rw [Recycle.step_roundTrip_vec r rp ra]
    refine ⟨rfl, ⟨ra, ro, ?_, ?_, by show Recycle.origRepr r.A = _; rw [rA]; rfl,
      rA.trans (hbuf : _ ∧ _).2.symm, rp⟩, congrArg (· + r.allocs) (allocCount_skip rfl _)⟩
    · show r.len = len + off - off; rw [Nat.add_sub_cancel]; exact rl
    · show r.cap = bcap - off; rw [← rcp, Nat.add_sub_cancel_left]
  | sharedV c =>
    obtain ⟨vreg, vlen, vcap, vorig, rc, he, ra, ro, rl, rorig, rA, rp⟩ := hv
    obtain ⟨⟨vlen', vcap', vorig', h1', hb'⟩, hrd⟩ := handleOKL_sharedV.mp hok0
    have hlv : liveCtrlL s1.ctrls c = some (.sharedV vreg vlen vcap vorig) := liveCtrlL_of he rfl
    rw [hlv] at h1'
    cases Option.some.inj h1'
    have hrc1 : 1 ≤ rc := (hI.cok c _ he rfl).2.1
    by_cases hu : rc = 1
    · subst hu
      rw [show bytesIntoMut cfg e (.bytes (.sharedV c) reg off len) s1 = _ from
        (bind_of_ok (ctrlIsUnique_eq he rfl)).trans (bind_of_ok (getCtrl_eq he rfl))] at hok
      cases hok
      rw [Recycle.step_roundTrip_arc r rp ra]
      exact ⟨rfl, ⟨reg, vlen, vcap, vorig, 1, he, ra, ro, rl, by show r.A - r.off = vcap - off; rw [rA, ro],
        rorig, rA, rp⟩, rfl⟩
    · have rp1 : r.parts ≠ 0 := rp ▸ Nat.sub_ne_zero_of_lt (Nat.lt_of_le_of_ne hrc1 (Ne.symm hu))
      obtain ⟨bs, hbs⟩ := Option.isSome_iff_exists.mp hrd
      rw [Recycle.step_roundTrip_copy r rp1]
      replace hok := (bind_of_ok (ctrlIsUnique_eq he rfl)).symm.trans hok
      rw [show ((⟨.sharedV reg vlen vcap vorig, rc, true⟩ : CtrlE).rc == 1) = false from beq_false_of_ne hu] at hok
      obtain ⟨x, sx, hq, hok⟩ :=
        ok_of_bind (hok : (toVecCopy e reg off len >>= fun v => releaseCtrl c >>= fun _ => _) s1 = _)
      obtain ⟨r', rfl, hsz, hC, hH, hev⟩ := toVecCopy_ok e hbs hq
      have he' : sx.ctrls[c]? = some ⟨.sharedV reg vlen vcap vorig, rc, true⟩ := hC ▸ he
      rw [bind_of_ok (releaseCtrl_dec he' rfl (Nat.ne_of_gt hrc1) hu)] at hok
      cases hok
      refine ⟨hH, ⟨rfl, rfl, rl, rl, by show Recycle.origRepr r.len = _; rw [rl]; rfl, rl.trans hsz.symm, rfl⟩, ?_⟩
      show allocCount sx.events + r.allocs = _ + (if r.len = 0 then r.allocs else r.allocs + 1)
      rw [hev, rl]
      by_cases h0 : len = 0
      · rw [if_pos h0, if_pos h0]; rfl
      · rw [if_neg h0, if_neg h0]; exact Nat.add_right_comm _ 1 _

/-- **`Op.intoMut i` (`BytesMut::from(Bytes)`) on the frozen main handle refines
`Recycle.Op.roundTrip`** (all three branches of the recycling model; no side condition) -/
theorem step_intoMut_refines (cfg : Cfg) (e : Env) {s1 s2 : St} (hw1 : WFx s1) {i : Nat} {v : Val}
    {hb : Handle} (hi : s1.hs[i]? = some (some hb)) (r : Rec) (hv : FrozenView s1 hb r)
    (hok : step cfg e (.intoMut i) s1 = .ok v s2) :
    Sim s1 r i s2 (Recycle.step r .roundTrip) := by
  obtain ⟨repr, reg, off, len, rfl⟩ := hv.is_bytes
  obtain ⟨m, sm, hm, rfl, _⟩ := ok_set_pure (getHandle_bind_ok hi hok)
  exact sim_of_concl hi (intoMut_refines cfg e hw1.inv hi r hv hm)

/-- `Bytes::is_unique` on the frozen main handle: unique iff nobody else is on the allocation and there
is an allocation (the static empty `Bytes` is never unique) -/
theorem frozen_isUnique {s1 : St} (hI : Inv s1) {hb : Handle} (r : Rec) (hv : FrozenView s1 hb r) :
    bytesIsUnique hb s1 = .ok (decide (r.parts = 0 ∧ (r.arc = true ∨ r.A ≠ 0))) s1 := by
  obtain ⟨repr, reg, off, len, rfl⟩ := hv.is_bytes
  cases repr with
  | owned c => exact hv.elim
  | «static» =>
    obtain ⟨_, _, _, ra, _, _, _, rA, rp⟩ := hv
    simp [bytesIsUnique, rA, ra]
  | prom vt oc =>
    cases oc with
    | some c => exact hv.elim
    | none =>
      obtain ⟨ra, ro, rl, rcp, rA, rA0, rp, hpos⟩ := hv
      simp [bytesIsUnique, rA0, rp]
  | shared c =>
    obtain ⟨r0, bcap, he, ra, ro, rl, rne, rcp, rA, rp, hpos⟩ := hv
    have : r.A ≠ 0 := by omega
    simp [bytesIsUnique, ctrlIsUnique_eq he rfl, this, rp]
  | sharedV c =>
    obtain ⟨vreg, vlen, vcap, vorig, rc, he, ra, ro, rl, rorig, rA, rp⟩ := hv
    simp only [bytesIsUnique, ctrlIsUnique_eq he rfl]
    by_cases h1 : rc = 1
    · subst h1; simp [rp, ra]
    · have := (hI.cok c _ he rfl).2.1
      simp only at this
      have hp : r.parts ≠ 0 := by omega
      simp [h1, hp]

/-- **`Op.tryIntoMut i` (`Bytes::try_into_mut`) on the frozen main handle**: it succeeds exactly when no
part is alive and there is something to be unique about (`is_unique` of the static empty `Bytes` — a
frozen KIND_VEC handle without allocation — is `false`), and then refines `Recycle.Op.roundTrip`;
otherwise it hands the `Bytes` back (`Err(self)`) and nothing changes. -/
theorem step_tryIntoMut_refines (cfg : Cfg) (e : Env) {s1 s2 : St} (hw1 : WFx s1) {i : Nat} {v : Val}
    {hb : Handle} (hi : s1.hs[i]? = some (some hb)) (r : Rec) (hv : FrozenView s1 hb r)
    (hok : step cfg e (.tryIntoMut i) s1 = .ok v s2) :
    (r.parts = 0 ∧ (r.arc = true ∨ r.A ≠ 0) ∧ v = .handle i ∧ Sim s1 r i s2 (Recycle.step r .roundTrip)) ∨
    (¬ (r.parts = 0 ∧ (r.arc = true ∨ r.A ≠ 0)) ∧ v = .err i ∧ s2 = s1) := by
  replace hok := getHandle_bind_ok hi hok
  rw [bind_of_ok (frozen_isUnique hw1.inv r hv)] at hok
  by_cases hu : r.parts = 0 ∧ (r.arc = true ∨ r.A ≠ 0)
  · rw [decide_eq_true hu, if_pos rfl] at hok
    obtain ⟨m, sm, hm, rfl, rfl⟩ := ok_set_pure hok
    exact .inl ⟨hu.1, hu.2, rfl, sim_of_concl hi (intoMut_refines cfg e hw1.inv hi r hv hm)⟩
  · rw [decide_eq_false hu, if_neg Bool.false_ne_true] at hok
    cases hok
    exact .inr ⟨hu, rfl, rfl⟩

/-- **The round trip refines `Recycle.Op.roundTrip`**: `Op.freeze i` followed by `Op.intoMut i`
(`BytesMut::from(m.freeze())`), or by an `Op.tryIntoMut i` that succeeds (returns the handle rather
than `Err`), leads to a well-formed state whose main handle is related to
`Recycle.step r .roundTrip`; the byte-buffer allocations recorded are the increase of `allocs`. -/
theorem step_roundTrip_refines (cfg : Cfg) (e : Env) {s s1 s2 : St} (hw : WFx s) {i : Nat} {v1 v2 : Val}
    {h : Handle} (hi : s.hs[i]? = some (some h)) (r : Rec) (hv : RecView s h r) {mop : Op}
    (hmop : mop = .intoMut i ∨ (mop = .tryIntoMut i ∧ v2 = .handle i))
    (hf : step cfg e (.freeze i) s = .ok v1 s1) (hm : step cfg e mop s1 = .ok v2 s2) :
    WFx s2 ∧ Sim s r i s2 (Recycle.step r .roundTrip) := by
  obtain ⟨arc, reg, off, len, cap, orig, rfl⟩ := RecView.is_mut hv
  obtain ⟨hw1, hb, hi1, hv1, ha1⟩ := step_freeze_view cfg e hw hi r hv hf
  have hw2 : WFx s2 := WFx_step hw1 hm (by rcases hmop with rfl | ⟨rfl, _⟩ <;> trivial)
  refine ⟨hw2, ?_⟩
  have key : Sim s1 r i s2 (Recycle.step r .roundTrip) := by
    rcases hmop with rfl | ⟨rfl, rfl⟩
    · exact step_intoMut_refines cfg e hw1 hi1 r hv1 hm
    · rcases step_tryIntoMut_refines cfg e hw1 hi1 r hv1 hm with ⟨_, _, _, h4⟩ | ⟨_, h2, _⟩
      · exact h4
      · cases h2
  obtain ⟨h', hi', hv', ha'⟩ := key
  exact ⟨h', hi', hv', ha1 ▸ ha'⟩

/-- **The round trip of a KIND_VEC handle re-records `original_capacity_repr`**, whether the handle
was full (promotable) or not: `promotable_to_mut` and `shared_to_mut_impl` of bytes.rs both end in
`BytesMut::from_vec(Vec::from_raw_parts(buf, _, cap))`, so afterwards the handle carries
`original_capacity_to_repr(off + cap)`.  This is why `Recycle.step _ .roundTrip` sets `orig` on the
KIND_VEC branch; the difference shows in the size of the next allocation made with live parts, see the
examples at the end of Props/C18.lean. -/
theorem roundTrip_rerecords_orig (cfg : Cfg) (e : Env) {s s1 s2 : St} (hw : WFx s) {i : Nat} {v1 v2 : Val}
    {reg : Option Nat} {off len cap orig : Nat}
    (hi : s.hs[i]? = some (some (.mut none reg off len cap orig))) {mop : Op}
    (hmop : mop = .intoMut i ∨ (mop = .tryIntoMut i ∧ v2 = .handle i))
    (hf : step cfg e (.freeze i) s = .ok v1 s1) (hm : step cfg e mop s1 = .ok v2 s2) :
    ∃ reg', s2.hs[i]? = some (some (.mut none reg' off len cap (originalCapacityToRepr (off + cap)))) := by
  have hv : RecView s (.mut none reg off len cap orig) ⟨bufSizeL s.regions reg, off, len, cap, false, orig, 0, [], 0⟩ :=
    ⟨rfl, rfl, rfl, rfl, rfl, rfl, rfl⟩
  have hex : off + cap = bufSizeL s.regions reg := (RecView.layout hw.inv hi hv).2.vec_exact rfl
  obtain ⟨_, h', hi', hv', _⟩ := step_roundTrip_refines cfg e hw hi _ hv hmop hf hm
  rw [Recycle.step_roundTrip_vec _ rfl rfl] at hv'
  obtain ⟨arc', reg', off', len', cap', orig', rfl⟩ := RecView.is_mut hv'
  cases arc' with
  | some c => obtain ⟨_, _, _, _, _, _, ra, _⟩ := hv'; cases ra
  | none =>
    obtain ⟨_, ro, rl, rc, rorig, _, _⟩ := hv'
    cases ro; cases rl; cases rc; cases rorig
    exact ⟨reg', hex ▸ hi'⟩

theorem Sim.trans {s s1 s2 : St} {r r1 r2 : Rec} {i : Nat} (h1 : Sim s r i s1 r1) (h2 : Sim s1 r1 i s2 r2) :
    Sim s r i s2 r2 := by
  obtain ⟨_, _, _, a1⟩ := h1
  obtain ⟨h', hi', hv', a2⟩ := h2
  exact ⟨h', hi', hv', by omega⟩

theorem Sim.refl {s : St} {r : Rec} {i : Nat} {h : Handle} (hi : s.hs[i]? = some (some h))
    (hv : RecView s h r) : Sim s r i s r := ⟨h, hi, hv, rfl⟩

/-- **The side conditions, step by step**: in state `s`, with the main handle in slot `i` related to
`r`, the M1 operation `mop` is the counterpart of the recycling-model operation `rop`. -/
inductive Match (i : Nat) (s : St) (r : Rec) : Recycle.Op → Op → Prop
  | reserve (k : Nat) : Match i s r (.reserve k) (.reserve i k)
  | append (bs : List Byte) : Match i s r (.append bs.length) (.extend i bs)
  /-- a KIND_VEC main handle is not pushed beyond `MAX_VEC_POS` -/
  | advance (n : Nat) (hpos : r.arc = false → n = 0 ∨ r.off + n ≤ maxVecPos) :
      Match i s r (.advance n) (.advance i n)
  | truncate (n : Nat) : Match i s r (.truncate n) (.truncate i n)
  | splitTo (n : Nat) : Match i s r (.splitTo n) (.splitTo i n)
  | split : Match i s r .split (.split i)
  /-- `j` is another live handle (part or frozen clone) on the main handle's control block -/
  | dropPart (j c : Nat) (hj : Handle) (reg : Option Nat) (off len cap orig : Nat) (hij : j ≠ i)
      (hi : s.hs[i]? = some (some (.mut (some c) reg off len cap orig)))
      (hjl : s.hs[j]? = some (some hj)) (hjc : ctrlOf hj = some c) :
      Match i s r .dropPart (.drop j)
  /-- `split_off` at the current length -/
  | splitOffTail (arc reg : Option Nat) (off len cap orig : Nat)
      (hi : s.hs[i]? = some (some (.mut arc reg off len cap orig))) :
      Match i s r .splitOffTail (.splitOff i len)
  /-- `j` is a part on the same control block that starts where the contents of the main handle end -/
  | unsplitLast (j c : Nat) (reg : Option Nat) (off len cap orig olen ocap oorig : Nat)
      (hi : s.hs[i]? = some (some (.mut (some c) reg off len cap orig)))
      (hj : s.hs[j]? = some (some (.mut (some c) reg (off + len) olen ocap oorig))) :
      Match i s r (.unsplitLast olen ocap) (.unsplit i j)
  /-- `j` is a part on the same control block that does *not* start where the contents of the main handle
  end and has capacity, the main handle is neither empty nor full: `unsplit` falls back to copying -/
  | unsplitCopy (j c : Nat) (reg : Option Nat) (off len cap orig ooff olen ocap oorig : Nat)
      (hi : s.hs[i]? = some (some (.mut (some c) reg off len cap orig)))
      (hj : s.hs[j]? = some (some (.mut (some c) reg ooff olen ocap oorig)))
      (hl0 : len ≠ 0) (hoc : ocap ≠ 0) (hne : ooff ≠ off + len) (hnf : len ≠ cap) :
      Match i s r (.unsplitLast olen ocap) (.unsplit i j)

/-- **One step of the simulation**: a successful M1 step that matches a recycling-model operation
leads to a well-formed state whose main handle is related to `Recycle.step r rop`. -/
theorem step_refines (cfg : Cfg) (e : Env) {s s' : St} (hw : WFx s) {i : Nat} {h : Handle}
    (hi : s.hs[i]? = some (some h)) (r : Rec) (hv : RecView s h r) {rop : Recycle.Op} {mop : Op}
    (hm : Match i s r rop mop) {v : Val} (hok : step cfg e mop s = .ok v s') :
    WFx s' ∧ Sim s r i s' (Recycle.step r rop) := by
  refine ⟨WFx_step hw hok (by cases hm <;> trivial), ?_⟩
  obtain ⟨arc, reg, off, len, cap, orig, rfl⟩ := RecView.is_mut hv
  cases hm with
  | reserve k => exact step_reserve_refines_strong cfg e hw hi r hv hok
  | append bs => exact step_extend_refines cfg e hw hi r hv hok
  | advance n hpos => exact (step_advance_refines cfg e hw hi r hv hpos hok).2
  | truncate n => exact step_truncate_refines cfg e hw hi r hv hok
  | splitTo n => exact (step_splitTo_refines cfg e hw hi r hv hok).2
  | split => exact step_split_refines cfg e hw hi r hv hok
  | dropPart j c hj reg' off' len' cap' orig' hij hi' hjl hjc =>
    cases Option.some.inj (Option.some.inj (hi.symm.trans hi'))
    exact (step_dropPart_refines cfg e hw hi r hv hij hjl hjc hok).2
  | splitOffTail arc' reg' off' len' cap' orig' hi' =>
    cases Option.some.inj (Option.some.inj (hi.symm.trans hi'))
    exact step_splitOffTail_refines cfg e hw hi r hv hok
  | unsplitLast j c reg' off' len' cap' orig' olen ocap oorig hi' hj =>
    cases Option.some.inj (Option.some.inj (hi.symm.trans hi'))
    exact step_unsplitLast_refines cfg e hw hi r hv hj hok
  | unsplitCopy j c reg' off' len' cap' orig' ooff olen ocap oorig hi' hj hl0 hoc hne hnf =>
    cases Option.some.inj (Option.some.inj (hi.symm.trans hi'))
    exact step_unsplit_copy_refines cfg e hw hi r hv hj hl0 hoc hne hnf hok

/-- a successful run of M1 operations from `s` to `s'`, each matched (in the state where it is
issued) with an operation of the recycling model.  `Recycle.Op.roundTrip` is the only operation of the
recycling model that takes two M1 operations: `Op.freeze i`, then the conversion `mop` listed in the
history — `Op.intoMut i`, or an `Op.tryIntoMut i` that succeeds. -/
inductive Run (cfg : Cfg) (e : Env) (i : Nat) : St → Rec → List (Recycle.Op × Op) → St → Prop
  | nil (s : St) (r : Rec) : Run cfg e i s r [] s
  | cons {s s1 s' : St} {r : Rec} {rop : Recycle.Op} {mop : Op} {v : Val} {ps : List (Recycle.Op × Op)}
      (hm : Match i s r rop mop) (hok : step cfg e mop s = .ok v s1)
      (hr : Run cfg e i s1 (Recycle.step r rop) ps s') : Run cfg e i s r ((rop, mop) :: ps) s'
  | roundTrip {s s1 s2 s' : St} {r : Rec} {mop : Op} {v1 v2 : Val} {ps : List (Recycle.Op × Op)}
      (hmop : mop = .intoMut i ∨ (mop = .tryIntoMut i ∧ v2 = .handle i))
      (hf : step cfg e (.freeze i) s = .ok v1 s1) (hok : step cfg e mop s1 = .ok v2 s2)
      (hr : Run cfg e i s2 (Recycle.step r .roundTrip) ps s') :
      Run cfg e i s r ((.roundTrip, mop) :: ps) s'

/-- **The simulation along a history**: after any matched run the state is well-formed and the main
handle is related to `Recycle.run r` of the recycling-model operations; the byte-buffer allocations
M1 recorded are exactly the increase of `allocs`. -/
theorem run_refines (cfg : Cfg) (e : Env) {i : Nat} {s s' : St} {r : Rec} {ps : List (Recycle.Op × Op)}
    (hr : Run cfg e i s r ps s') (hw : WFx s) {h : Handle} (hi : s.hs[i]? = some (some h))
    (hv : RecView s h r) :
    WFx s' ∧ Sim s r i s' (Recycle.run r (ps.map Prod.fst)) := by
  induction hr generalizing h with
  | nil s r => exact ⟨hw, Sim.refl hi hv⟩
  | cons hm hok hr ih =>
    obtain ⟨hw1, hs1⟩ := step_refines cfg e hw hi _ hv hm hok
    have ⟨h1, hi1, hv1, _⟩ := hs1
    obtain ⟨hw', hs'⟩ := ih hw1 hi1 hv1
    exact ⟨hw', Sim.trans hs1 hs'⟩
  | roundTrip hmop hf hok hr ih =>
    obtain ⟨hw1, hs1⟩ := step_roundTrip_refines cfg e hw hi _ hv hmop hf hok
    have ⟨h1, hi1, hv1, _⟩ := hs1
    obtain ⟨hw', hs'⟩ := ih hw1 hi1 hv1
    exact ⟨hw', Sim.trans hs1 hs'⟩

theorem step_withCapacity_view (cfg : Cfg) (e : Env) {s s' : St} {A₀ : Nat} {v : Val}
    (hok : step cfg e (.mutWithCapacity A₀) s = .ok v s') :
    v = .handle s.hs.length ∧ Sim s { Recycle.init A₀ with allocs := 0 } s.hs.length s' (Recycle.init A₀) := by
  change (vecNew e [] A₀ >>= _) s = _ at hok
  rw [bind_apply] at hok
  rcases vecNew_cases e [] A₀ s with ⟨h0, hq⟩ | ⟨hp, hq⟩ | ⟨h0, hle, hq⟩
  · subst h0
    rw [hq] at hok
    obtain ⟨rfl, rfl⟩ := R.ok.inj hok
    refine ⟨rfl, _, List.getElem?_concat_length, ?_, rfl⟩
    exact ⟨rfl, rfl, rfl, rfl, rfl, rfl, rfl⟩
  · rw [hq] at hok; cases hok
  · rw [hq] at hok
    obtain ⟨rfl, rfl⟩ := R.ok.inj hok
    refine ⟨rfl, _, List.getElem?_concat_length, ?_, ?_⟩
    · refine ⟨rfl, rfl, rfl, rfl, rfl, ?_, rfl⟩
      show A₀ = bufSizeL _ (some s.regions.length)
      simp [bufSizeL, regionSizeL_new]
    · simp [Recycle.init, h0]

/-- **Every allocation the main handle ever lives in is bounded, in M1**: along any matched run of M1
operations whose recycling-model history respects the refill bound `M` (`HistOK`), starting from a
record that satisfies the invariant `SInv` of Props/C18.lean for a bound `Bd ≥ max (4M) 8`, the region
the main handle points into has at most `Bd` bytes. -/
theorem run_region_bounded (cfg : Cfg) (e : Env) {i : Nat} {s s' : St} {r : Rec}
    {ps : List (Recycle.Op × Op)} (M Bd : Nat) (h4 : 4 * M ≤ Bd) (h8 : 8 ≤ Bd)
    (hr : Run cfg e i s r ps s') (hw : WFx s) {h : Handle} (hi : s.hs[i]? = some (some h))
    (hv : RecView s h r) (hS : Recycle.SInv Bd r) (hh : Recycle.HistOK M r (ps.map Prod.fst)) :
    ∃ arc reg off len cap orig, s'.hs[i]? = some (some (.mut arc reg off len cap orig)) ∧
      bufSizeL s'.regions reg ≤ Bd ∧ off + cap ≤ Bd := by
  obtain ⟨hw', h', hi', hv', _⟩ := run_refines cfg e hr hw hi hv
  obtain ⟨arc, reg, off, len, cap, orig, rfl⟩ := RecView.is_mut hv'
  have hS' := Recycle.sinv_run M Bd h4 h8 _ r hS hh
  obtain ⟨hA, hR⟩ := RecView.layout hw'.inv hi' hv'
  obtain ⟨ro, rl, rcp⟩ := RecViewL_fields hv'
  exact ⟨arc, reg, off, len, cap, orig, hi', hA ▸ hS'.hA, ro ▸ rcp ▸ Nat.le_trans hR.in_alloc hS'.hA⟩

/-- … in particular from `BytesMut::with_capacity(A₀)`: the bound of `Recycle.alloc_size_bounded`,
`max(A₀, 4M, 8)`, holds for the region of the main handle of M1 after the run (hence, a prefix of a
matched run being a matched run, at every point of it). -/
theorem alloc_size_bounded_M1 (cfg : Cfg) (e : Env) {s0 s s' : St} {A₀ M : Nat} {v : Val}
    {ps : List (Recycle.Op × Op)} (hw0 : WFx s0)
    (h0 : step cfg e (.mutWithCapacity A₀) s0 = .ok v s)
    (hr : Run cfg e s0.hs.length s (Recycle.init A₀) ps s')
    (hh : Recycle.HistOK M (Recycle.init A₀) (ps.map Prod.fst)) :
    ∃ arc reg off len cap orig,
      s'.hs[s0.hs.length]? = some (some (.mut arc reg off len cap orig)) ∧
      bufSizeL s'.regions reg ≤ Recycle.B A₀ M ∧ off + cap ≤ Recycle.B A₀ M ∧
      allocCount s'.events =
        allocCount s0.events + (Recycle.run (Recycle.init A₀) (ps.map Prod.fst)).allocs := by
  have hw : WFx s := WFx_step hw0 h0 trivial
  obtain ⟨_, h, hi, hv, ha⟩ := step_withCapacity_view cfg e h0
  obtain ⟨arc, reg, off, len, cap, orig, hi', hb1, hb2⟩ :=
    run_region_bounded cfg e M (Recycle.B A₀ M) (Recycle.four_le_B A₀ M) (Recycle.eight_le_B A₀ M) hr hw hi hv
      (Recycle.sinv_init A₀ M) hh
  obtain ⟨_, _, _, _, ha'⟩ := run_refines cfg e hr hw hi hv
  refine ⟨arc, reg, off, len, cap, orig, hi', hb1, hb2, ?_⟩
  simp only at ha
  omega

/-- **Disagreement (advance).**  When `advance` pushes a KIND_VEC handle beyond `MAX_VEC_POS`, M1 —
like `advance_unchecked` of the crate — promotes it to KIND_ARC (`promote_to_shared(1)`), whereas
`Recycle.step _ (.advance n)` leaves `arc = false`: the resulting handle is *not* related to
`Recycle.step r (.advance n)` (it is related to that record with `arc := true`, see
`advance_refines_gen`).  Needs a position above `2^59 - 1`, i.e. an allocation of more than half an
exabyte, which `Inv` does not exclude (`isize::MAX = 2^63 - 1`). -/
theorem advance_promote_disagrees (cfg : Cfg) {s : St} (hI : Inv s) {i : Nat} {arc reg : Option Nat}
    {off len cap orig n : Nat} (hi : s.hs[i]? = some (some (.mut arc reg off len cap orig)))
    (hn : n ≤ len) (r : Rec) (hv : RecView s (.mut arc reg off len cap orig) r) {h' : Handle} {s' : St}
    (hok : mutAdvanceUnchecked cfg (.mut arc reg off len cap orig) n s = .ok h' s')
    (hbig : r.arc = false ∧ n ≠ 0 ∧ ¬ r.off + n ≤ maxVecPos) :
    ¬ RecViewL s'.regions s'.ctrls h' (Recycle.step r (.advance n)) := by
  obtain ⟨_, _, e4⟩ := advance_refines_gen cfg hI hi hn r hv hok
  rw [if_pos hbig] at e4
  obtain ⟨arc', reg', off', len', cap', orig', rfl⟩ := RecView.is_mut (s := s') e4
  obtain ⟨_, rl, _⟩ := RecViewL_fields hv
  cases arc' with
  | none => exact fun _ => Bool.noConfusion e4.1
  | some c =>
    intro hv2
    obtain ⟨_, _, _, _, _, _, ra, _⟩ := hv2
    rw [Recycle.step_advance r n (by omega)] at ra
    simp only at ra
    rw [hbig.1] at ra; cases ra

namespace Witness
open Example

/-- after `with_capacity(8)`, `split_to(0)`: main handle `(off 0, len 0, cap 8)`, an empty
zero-capacity part at offset 0, both on control block 0 -/
def sA : St :=
  { regions := [⟨8, [none, none, none, none, none, none, none, none], true, .heap false⟩],
    ctrls := [⟨.sharedV (some 0) 0 8 0, 2, true⟩],
    hs := [some (.mut (some 0) (some 0) 0 0 8 0), some (.mut (some 0) (some 0) 0 0 0 0)],
    owners := 0, events := [.allocCtrl 0, .alloc 0 8] }
/-- … `unsplit`: `*self = other`, the main handle has lost its capacity -/
def sA' : St :=
  { regions := [⟨8, [none, none, none, none, none, none, none, none], true, .heap false⟩],
    ctrls := [⟨.sharedV (some 0) 0 8 0, 1, true⟩],
    hs := [some (.mut (some 0) (some 0) 0 0 0 0), none],
    owners := 0, events := [.allocCtrl 0, .alloc 0 8] }

def rA : Rec := { A := 8, off := 0, len := 0, cap := 8, arc := true, orig := 0, parts := 1, pinned := [], allocs := 1 }

theorem stepA1 : step cfg0 env0 (.splitTo 0 0) s1 = .ok (.handle 1) sA := rfl
theorem stepA2 : step cfg0 env0 (.unsplit 0 1) sA = .ok .unit sA' := rfl
theorem wfxA : WFx sA := WFx_step (WFx_step WFx_init step1 trivial) stepA1 trivial
theorem viewA : RecView sA (.mut (some 0) (some 0) 0 0 8 0) rA :=
  ⟨some 0, 0, 8, 0, 2, rfl, rfl, rfl, rfl, rfl, rfl, rfl, rfl⟩
/-- `rA` is what the recycling model computes for this history -/
example : Recycle.run (Recycle.init 8) [.splitTo 0] = rA := by decide
/-- the history respects every side condition of Props/C18.lean -/
example : Recycle.HistOK 16 (Recycle.init 8) [.splitTo 0, .unsplitLast 0 0] := by decide

/-- **Agreement 1 (unsplit onto an empty main handle with spare capacity).**  In `sA` (a reachable, well-formed state; the part in slot 1 starts at `off + len` and is
on the same control block) `BytesMut::unsplit` executes `*self = other` because `self.is_empty()`: the
main handle ends up with capacity 0 and nobody else on the block.  `Recycle.step rA (.unsplitLast 0 0)`
does the same (`cap = 0`, `parts = 0`), and the handle of `sA'` is related to it — by computation
and as an instance of `step_unsplitLast_refines`. -/
theorem unsplit_empty_agrees :
    WFx sA ∧ sA.hs[0]? = some (some (.mut (some 0) (some 0) 0 0 8 0)) ∧
    RecView sA (.mut (some 0) (some 0) 0 0 8 0) rA ∧
    sA.hs[1]? = some (some (.mut (some 0) (some 0) (0 + 0) 0 0 0)) ∧
    step cfg0 env0 (.unsplit 0 1) sA = .ok .unit sA' ∧
    sA'.hs[0]? = some (some (.mut (some 0) (some 0) 0 0 0 0)) ∧
    Recycle.step rA (.unsplitLast 0 0) = { rA with cap := 0, parts := 0 } ∧
    RecView sA' (.mut (some 0) (some 0) 0 0 0 0) (Recycle.step rA (.unsplitLast 0 0)) :=
  ⟨wfxA, rfl, viewA, rfl, stepA2, rfl, by decide, ⟨some 0, 0, 8, 0, 1, rfl, rfl, rfl, rfl, rfl, rfl, rfl, rfl⟩⟩

example : Sim sA rA 0 sA' (Recycle.step rA (.unsplitLast 0 0)) :=
  step_unsplitLast_refines cfg0 env0 wfxA (i := 0) (j := 1) rfl rA viewA rfl stepA2

/-- `with_capacity(8)`, `extend(4 bytes)`, `split_off(4)` (slot 1: the tail), `split_to(0)` on the tail
(slot 2: an empty zero-capacity part at offset 4), `unsplit` of the tail: the main handle is
`(off 0, len 4, cap 8)` and the empty part sits at `off + len` -/
def sB : St :=
  { regions := [⟨8, [some 1, some 2, some 3, some 4, none, none, none, none], true, .heap false⟩],
    ctrls := [⟨.sharedV (some 0) 4 8 0, 2, true⟩],
    hs := [some (.mut (some 0) (some 0) 0 4 8 0), none, some (.mut (some 0) (some 0) 4 0 0 0)],
    owners := 0, events := [.allocCtrl 0, .alloc 0 8] }
def sB' : St :=
  { regions := [⟨8, [some 1, some 2, some 3, some 4, none, none, none, none], true, .heap false⟩],
    ctrls := [⟨.sharedV (some 0) 4 8 0, 1, true⟩],
    hs := [some (.mut (some 0) (some 0) 0 4 8 0), none, none],
    owners := 0, events := [.allocCtrl 0, .alloc 0 8] }

def rB : Rec := { A := 8, off := 0, len := 4, cap := 8, arc := true, orig := 0, parts := 1, pinned := [], allocs := 1 }

theorem reachB : ∃ t1 t2 v1 v2 v3, step cfg0 env0 (.splitOff 0 4) s2 = .ok v1 t1 ∧
    step cfg0 env0 (.splitTo 1 0) t1 = .ok v2 t2 ∧ step cfg0 env0 (.unsplit 0 1) t2 = .ok v3 sB :=
  ⟨_, _, _, _, _, rfl, rfl, rfl⟩
theorem wfxB : WFx sB := by
  obtain ⟨t1, t2, v1, v2, v3, h1, h2, h3⟩ := reachB
  exact WFx_step (WFx_step (WFx_step (WFx_step (WFx_step WFx_init step1 trivial) step2 trivial) h1 trivial)
    h2 trivial) h3 trivial
theorem stepB : step cfg0 env0 (.unsplit 0 2) sB = .ok .unit sB' := rfl

/-- **Agreement 2 (unsplit of an empty part onto a main handle that is not full).**  M1 (like the crate: `other.capacity() == 0` ⇒ `Ok(())`, `other` dropped)
releases the part's reference, so `parts` goes from 1 to 0; `Recycle.step rB (.unsplitLast 0 0)` drops
the part too although `len ≠ cap`. -/
theorem unsplit_notfull_agrees :
    WFx sB ∧ sB.hs[0]? = some (some (.mut (some 0) (some 0) 0 4 8 0)) ∧
    RecView sB (.mut (some 0) (some 0) 0 4 8 0) rB ∧
    sB.hs[2]? = some (some (.mut (some 0) (some 0) (0 + 4) 0 0 0)) ∧
    step cfg0 env0 (.unsplit 0 2) sB = .ok .unit sB' ∧
    sB'.hs[0]? = some (some (.mut (some 0) (some 0) 0 4 8 0)) ∧
    Recycle.step rB (.unsplitLast 0 0) = { rB with parts := 0 } ∧
    RecView sB' (.mut (some 0) (some 0) 0 4 8 0) (Recycle.step rB (.unsplitLast 0 0)) :=
  ⟨wfxB, rfl, ⟨some 0, 4, 8, 0, 2, rfl, rfl, rfl, rfl, rfl, rfl, rfl, rfl⟩, rfl, stepB, rfl, by decide,
    ⟨some 0, 4, 8, 0, 1, rfl, rfl, rfl, rfl, rfl, rfl, rfl, rfl⟩⟩

example : Sim sB rB 0 sB' (Recycle.step rB (.unsplitLast 0 0)) :=
  step_unsplitLast_refines cfg0 env0 wfxB (i := 0) (j := 2) rfl rB
    ⟨some 0, 4, 8, 0, 2, rfl, rfl, rfl, rfl, rfl, rfl, rfl, rfl⟩ rfl stepB

end Witness

namespace Example

/-- one round of the recycling loop, M1 side by side with the recycling model: fill, split the message
off, drop it, refill (which reclaims the buffer in place) -/
def round : List (Recycle.Op × Op) :=
  [(.append 4, .extend 0 [1, 2, 3, 4]), (.splitTo 2, .splitTo 0 2), (.advance 1, .advance 0 1),
   (.truncate 0, .truncate 0 0), (.dropPart, .drop 1), (.append 6, .extend 0 [5, 6, 7, 8, 9, 10]),
   (.split, .split 0), (.splitOffTail, .splitOff 0 0)]

/-- the state a successful M1 step leads to -/
def exec (mop : Op) (s : St) : St :=
  match step cfg0 env0 mop s with
  | .ok _ s' => s'
  | _ => s

def sEnd : St := round.foldl (fun s p => exec p.2 s) s1

theorem round_run : Run cfg0 env0 0 s1 (Recycle.init 8) round sEnd := by
  refine Run.cons (s' := sEnd) (Match.append [1, 2, 3, 4]) (v := .unit) rfl ?_
  refine Run.cons (s' := sEnd) (Match.splitTo 2) (v := .handle 1) rfl ?_
  refine Run.cons (s' := sEnd) (Match.advance 1 (by decide)) (v := .unit) rfl ?_
  refine Run.cons (s' := sEnd) (Match.truncate 0) (v := .unit) rfl ?_
  refine Run.cons (s' := sEnd) (Match.dropPart 1 0 _ _ _ _ _ _ (by decide) rfl rfl rfl) (v := .unit) rfl ?_
  refine Run.cons (s' := sEnd) (Match.append [5, 6, 7, 8, 9, 10]) (v := .unit) rfl ?_
  refine Run.cons (s' := sEnd) Match.split (v := .handle 2) rfl ?_
  refine Run.cons (s' := sEnd) (Match.splitOffTail _ _ _ 0 _ _ rfl) (v := .handle 3) rfl ?_
  exact Run.nil _ _

example : Recycle.HistOK 16 (Recycle.init 8) (round.map Prod.fst) := by decide

/-- the conclusion of `run_refines` holds for it -/
example : ∃ s', Run cfg0 env0 0 s1 (Recycle.init 8) round s' ∧ WFx s' ∧
    Sim s1 (Recycle.init 8) 0 s' (Recycle.run (Recycle.init 8) (round.map Prod.fst)) := by
  obtain ⟨s', hr⟩ : ∃ s', Run cfg0 env0 0 s1 (Recycle.init 8) round s' := ⟨_, round_run⟩
  have hv : RecView s1 (.mut none (some 0) 0 0 8 0) (Recycle.init 8) :=
    ⟨rfl, rfl, rfl, rfl, by decide, rfl, rfl⟩
  exact ⟨s', hr, run_refines cfg0 env0 hr (WFx_step WFx_init step1 trivial) (i := 0) rfl hv⟩

example : Recycle.run (Recycle.init 8) (round.map Prod.fst) =
    { A := 8, off := 6, len := 0, cap := 0, arc := true, orig := 0, parts := 2, pinned := [], allocs := 1 } := by
  decide

/-- a second history, through `split_off`, `unsplit` (contiguous halves merged) and `reserve` -/
def round2 : List (Recycle.Op × Op) :=
  [(.append 4, .extend 0 [1, 2, 3, 4]), (.splitOffTail, .splitOff 0 4), (.unsplitLast 0 4, .unsplit 0 1),
   (.reserve 20, .reserve 0 20)]

def sEnd2 : St := round2.foldl (fun s p => exec p.2 s) s1

theorem round2_run : Run cfg0 env0 0 s1 (Recycle.init 8) round2 sEnd2 := by
  refine Run.cons (s' := sEnd2) (Match.append [1, 2, 3, 4]) (v := .unit) rfl ?_
  refine Run.cons (s' := sEnd2) (Match.splitOffTail _ _ _ 4 _ _ rfl) (v := .handle 1) rfl ?_
  refine Run.cons (s' := sEnd2) (Match.unsplitLast 1 0 (some 0) 0 4 4 0 0 4 0 rfl rfl)
    (v := .unit) rfl ?_
  refine Run.cons (s' := sEnd2) (Match.reserve 20) (v := .unit) rfl ?_
  exact Run.nil _ _

example : Recycle.run (Recycle.init 8) (round2.map Prod.fst) =
    { A := 24, off := 0, len := 4, cap := 24, arc := true, orig := 0, parts := 0, pinned := [], allocs := 2 } := by
  decide

example : sEnd2.hs[0]? = some (some (.mut (some 0) (some 1) 0 4 24 0)) ∧ allocCount sEnd2.events = 2 := by
  decide

/-- a third history: the round trip through `Bytes` in all its branches — a KIND_VEC handle with spare
capacity (`Shared { buf, cap }` of bytes.rs and back), a handle with a live part (copied into a fresh
exact-size vector; the old allocation stays with the part), the resulting full KIND_VEC handle
(promotable, through `try_into_mut`), and a unique KIND_ARC handle (`shared_v_to_mut`) -/
def round3 : List (Recycle.Op × Op) :=
  [(.append 4, .extend 0 [1, 2, 3, 4]), (.roundTrip, .intoMut 0), (.splitTo 2, .splitTo 0 2),
   (.roundTrip, .intoMut 0), (.roundTrip, .tryIntoMut 0), (.splitTo 1, .splitTo 0 1), (.dropPart, .drop 2),
   (.roundTrip, .tryIntoMut 0)]

/-- the M1 operations of a history, with the `freeze` of every round trip spelled out -/
def mops (i : Nat) : List (Recycle.Op × Op) → List Op
  | [] => []
  | (.roundTrip, mop) :: ps => .freeze i :: mop :: mops i ps
  | (_, mop) :: ps => mop :: mops i ps

def sEnd3 : St := (mops 0 round3).foldl (fun s mop => exec mop s) s1

theorem round3_run : Run cfg0 env0 0 s1 (Recycle.init 8) round3 sEnd3 := by
  refine Run.cons (s' := sEnd3) (Match.append [1, 2, 3, 4]) (v := .unit) rfl ?_
  refine Run.roundTrip (s' := sEnd3) (.inl rfl) (v1 := .handle 0) (v2 := .handle 0) rfl rfl ?_
  refine Run.cons (s' := sEnd3) (Match.splitTo 2) (v := .handle 1) rfl ?_
  refine Run.roundTrip (s' := sEnd3) (.inl rfl) (v1 := .handle 0) (v2 := .handle 0) rfl rfl ?_
  refine Run.roundTrip (s' := sEnd3) (.inr ⟨rfl, rfl⟩) (v1 := .handle 0) (v2 := .handle 0) rfl rfl ?_
  refine Run.cons (s' := sEnd3) (Match.splitTo 1) (v := .handle 2) rfl ?_
  refine Run.cons (s' := sEnd3) (Match.dropPart 2 2 _ _ _ _ _ _ (by decide) rfl rfl rfl) (v := .unit) rfl ?_
  refine Run.roundTrip (s' := sEnd3) (.inr ⟨rfl, rfl⟩) (v1 := .handle 0) (v2 := .handle 0) rfl rfl ?_
  exact Run.nil _ _

/-- what the recycling model computes for it: the copy made the second allocation (2 bytes, exact
size), the 8-byte one is pinned by the part; the last round trip gives the capacity behind the offset
back (`cap = A - off = 1`) -/
example : Recycle.run (Recycle.init 8) (round3.map Prod.fst) =
    { A := 2, off := 1, len := 1, cap := 1, arc := true, orig := 0, parts := 0, pinned := [8], allocs := 2 } := by
  decide

/-- … and M1 agrees (`run_refines` says so in general) -/
example : sEnd3.hs[0]? = some (some (.mut (some 2) (some 1) 1 1 1 0)) ∧ allocCount sEnd3.events = 2 ∧
    Sim s1 (Recycle.init 8) 0 sEnd3 (Recycle.run (Recycle.init 8) (round3.map Prod.fst)) :=
  ⟨by decide, by decide,
    (run_refines cfg0 env0 round3_run (WFx_step WFx_init step1 trivial) (i := 0) rfl
      ⟨rfl, rfl, rfl, rfl, by decide, rfl, rfl⟩).2⟩

example : Recycle.HistOK 16 (Recycle.init 8) (round3.map Prod.fst) := by decide

theorem WFx_exec {mop : Op} {s : St} (hw : WFx s) (ho : OpOK mop) : WFx (exec mop s) := by
  unfold exec
  cases h : step cfg0 env0 mop s with
  | ok v s' => exact WFx_step hw h ho
  | panic s' => exact hw
  | ub w s' => exact hw

/-- `with_capacity(8)`, 4 bytes, `split_off(4)` (slot 1: the spare capacity), `truncate(2)`, 3 bytes
written into the tail: the main handle is `(off 0, len 2, cap 4)`, the part `(off 4, len 3, cap 4)` does
not start at `off + len = 2` -/
def sC : St :=
  [Op.extend 0 [1, 2, 3, 4], .splitOff 0 4, .truncate 0 2, .extend 1 [9, 9, 9]].foldl (fun s m => exec m s) s1

theorem wfxC : WFx sC :=
  -- bottom-up: with `WFx sC` as expected type the elaborator unfolds `WFx` before it finds the state
  have h1 := WFx_exec (mop := .extend 0 [1, 2, 3, 4]) (WFx_step WFx_init step1 trivial) trivial
  have h2 := WFx_exec (mop := .splitOff 0 4) h1 trivial
  have h3 := WFx_exec (mop := .truncate 0 2) h2 trivial
  have h4 := WFx_exec (mop := .extend 1 [9, 9, 9]) h3 trivial
  h4

def rC : Rec := { A := 8, off := 0, len := 2, cap := 4, arc := true, orig := 0, parts := 1, pinned := [], allocs := 1 }

/-- `unsplit` cannot merge and copies the 3 bytes; they do not fit the 2 bytes of spare capacity and
the part is alive, so the main handle moves to a fresh 5-byte vector (M1 then frees the old allocation
with the part; the recycling model keeps it in `pinned` until a `dropPinned`) -/
example : Recycle.step rC (.unsplitLast 3 4) =
      { A := 5, off := 0, len := 5, cap := 5, arc := false, orig := 0, parts := 0, pinned := [8], allocs := 2 } ∧
    (exec (.unsplit 0 1) sC).hs[0]? = some (some (.mut none (some 1) 0 5 5 0)) ∧
    Sim sC rC 0 (exec (.unsplit 0 1) sC) (Recycle.step rC (.unsplitLast 3 4)) :=
  ⟨by decide, by decide,
    step_unsplit_copy_refines cfg0 env0 wfxC (i := 0) (j := 1) (c := 0) (reg := some 0) (off := 0) (len := 2)
      (cap := 4) (orig := 0) (ooff := 4) (olen := 3) (ocap := 4) (oorig := 0) rfl rC
      ⟨some 0, 4, 8, 0, 2, rfl, rfl, rfl, rfl, rfl, rfl, rfl, rfl⟩ rfl (by decide) (by decide) (by decide)
      (by decide) (v := .unit) rfl⟩

/-- `try_into_mut` does not succeed on the frozen *empty* KIND_VEC handle without allocation
(`BytesMut::new().freeze()` is the static empty `Bytes`, whose `is_unique` is `false`): the handle comes
back as `Err`, so the round trip through `try_into_mut` only refines `roundTrip` when there is an
allocation (`step_tryIntoMut_refines`); through `BytesMut::from` it always does. -/
example : ∃ s0 sF, step cfg0 env0 (.mutWithCapacity 0) {} = .ok (.handle 0) s0 ∧
    step cfg0 env0 (.freeze 0) s0 = .ok (.handle 0) sF ∧
    sF.hs[0]? = some (some (.bytes .static none 0 0)) ∧
    step cfg0 env0 (.tryIntoMut 0) sF = .ok (.err 0) sF ∧
    ∃ sM, step cfg0 env0 (.intoMut 0) sF = .ok (.handle 0) sM ∧
      RecView sM (.mut none none 0 0 0 0) (Recycle.step (Recycle.init 0) .roundTrip) :=
  ⟨_, _, rfl, rfl, rfl, rfl, _, rfl, ⟨rfl, rfl, rfl, rfl, by decide, rfl, rfl⟩⟩

end Example

/-- what a control block contributes to the pinned list: a live `Shared` of bytes_mut.rs keeps its
vector (of capacity `vcap`, possibly 0) alive -/
def ctrlPinned : CtrlE → Option Nat
  | ⟨.sharedV _ _ vcap _, _, true⟩ => some vcap
  | _ => none

/-- the capacities of the vectors of the live `Shared` blocks other than `c0`, *oldest first*
(`k` is the index of the head of the list) -/
def sharedSizes (c0 : Option Nat) : List CtrlE → Nat → List Nat
  | [], _ => []
  | e :: es, k => (if some k = c0 then [] else (ctrlPinned e).toList) ++ sharedSizes c0 es (k + 1)

/-- … newest first, as `Rec.pinned` lists them -/
def pinnedL (C : List CtrlE) (c0 : Option Nat) : List Nat := (sharedSizes c0 C 0).reverse

/-- **`RecView` with `pinned` tied down**: in addition to `RecView`, `r.pinned` lists (newest first)
the sizes of the older allocations that are kept alive only by parts — the vectors of all live `Shared`
blocks of bytes_mut.rs other than the one the main handle is on — and the main handle's block, if it
has one, is the newest of them (blocks are created by `promote_to_shared`, always on the current
allocation).  Meant for the states of a recycling loop, where every such block stems from the main
handle; `allocs` stays unconstrained (it is tied to the event list by `Sim`). -/
def RecViewP (s : St) (h : Handle) (r : Rec) : Prop :=
  RecView s h r ∧ r.pinned = pinnedL s.ctrls (arcOf h) ∧
    ∀ c, arcOf h = some c → ∀ (c' : Nat) (e : CtrlE), c < c' → s.ctrls[c']? = some e → ctrlPinned e = none

theorem RecViewP.view {s : St} {h : Handle} {r : Rec} (hv : RecViewP s h r) : RecView s h r := hv.1

/-- replacing a block by one with the same contribution (e.g. another reference count) -/
theorem sharedSizes_set_same (c0 : Option Nat) {e e' : CtrlE} (he : ctrlPinned e' = ctrlPinned e) :
    ∀ (es : List CtrlE) (k c : Nat), es[c]? = some e → sharedSizes c0 (es.set c e') k = sharedSizes c0 es k := by
  intro es
  induction es with
  | nil => intro k c h; simp at h
  | cons x xs ih =>
    intro k c h
    cases c with
    | zero =>
      simp only [List.getElem?_cons_zero, Option.some.injEq] at h
      subst h
      simp only [List.set_cons_zero, sharedSizes, he]
    | succ c =>
      simp only [List.getElem?_cons_succ] at h
      simp only [List.set_cons_succ, sharedSizes, ih (k + 1) c h]

/-- blocks that pin nothing contribute nothing -/
theorem sharedSizes_nil : ∀ (ys : List CtrlE) (j : Nat) (c0 : Option Nat),
    (∀ (c' : Nat) (e' : CtrlE), ys[c']? = some e' → ctrlPinned e' = none) → sharedSizes c0 ys j = [] := by
  intro ys
  induction ys with
  | nil => intros; rfl
  | cons y ys ihy =>
    intro j c0 hy
    have h0 := hy 0 y rfl
    simp only [sharedSizes, h0, Option.toList_none, ite_self, List.nil_append]
    exact ihy (j + 1) c0 (fun c' e' hc' => hy (c' + 1) e' (by simpa using hc'))

/-- the main handle leaves its block `c`, the newest one: the block joins the list at the new end -/
theorem sharedSizes_leave {e : CtrlE} {v : Nat} (he : ctrlPinned e = some v) :
    ∀ (es : List CtrlE) (k c : Nat), es[c]? = some e →
      (∀ (c' : Nat) (e' : CtrlE), c < c' → es[c']? = some e' → ctrlPinned e' = none) →
      sharedSizes none es k = sharedSizes (some (k + c)) es k ++ [v] := by
  intro es
  induction es with
  | nil => intro k c h; simp at h
  | cons x xs ih =>
    intro k c h hnew
    cases c with
    | zero =>
      simp only [List.getElem?_cons_zero, Option.some.injEq] at h
      subst h
      have hxs : ∀ (c' : Nat) (e' : CtrlE), xs[c']? = some e' → ctrlPinned e' = none :=
        fun c' e' hc' => hnew (c' + 1) e' (by omega) (by simpa using hc')
      simp [sharedSizes, he, sharedSizes_nil xs (k + 1) _ hxs]
    | succ c =>
      simp only [List.getElem?_cons_succ] at h
      have hnew' : ∀ (c' : Nat) (e' : CtrlE), c < c' → xs[c']? = some e' → ctrlPinned e' = none :=
        fun c' e' hlt hc' => hnew (c' + 1) e' (by omega) (by simpa using hc')
      have := ih (k + 1) c h hnew'
      have hk : k + 1 + c = k + (c + 1) := by omega
      rw [hk] at this
      have hne : ¬ (some k = some (k + (c + 1))) := by intro h; injection h with h; omega
      simp only [sharedSizes, this, hne, if_false, reduceCtorEq, List.append_assoc]

/-- the oldest contributing block dies -/
theorem sharedSizes_kill (c0 : Option Nat) {e e' : CtrlE} {v : Nat} (he : ctrlPinned e = some v)
    (he' : ctrlPinned e' = none) :
    ∀ (es : List CtrlE) (k c : Nat), es[c]? = some e → some (k + c) ≠ c0 →
      (∀ (c'' : Nat) (e'' : CtrlE), c'' < c → es[c'']? = some e'' → some (k + c'') ≠ c0 → ctrlPinned e'' = none) →
      sharedSizes c0 es k = v :: sharedSizes c0 (es.set c e') k := by
  intro es
  induction es with
  | nil => intro k c h; simp at h
  | cons x xs ih =>
    intro k c h hc0 hold
    cases c with
    | zero =>
      simp only [List.getElem?_cons_zero, Option.some.injEq] at h
      subst h
      have hc0' : ¬ some k = c0 := by simpa using hc0
      simp [sharedSizes, hc0', he, he']
    | succ c =>
      simp only [List.getElem?_cons_succ] at h
      have hk : k + 1 + c = k + (c + 1) := by omega
      have := ih (k + 1) c h (by rw [hk]; exact hc0)
        (fun c'' e'' hlt hc'' hne => hold (c'' + 1) e'' (by omega) (by simpa using hc'')
          (by rw [show k + (c'' + 1) = k + 1 + c'' by omega]; exact hne))
      have hx : (if some k = c0 then [] else (ctrlPinned x).toList) = [] := by
        by_cases hk0 : some k = c0
        · simp [hk0]
        · have := hold 0 x (by omega) rfl (by simpa using hk0)
          simp [hk0, this]
      simp only [List.set_cons_succ, sharedSizes, hx, List.nil_append, this]

/-- **The shared branch of `reserve` preserves `RecViewP`**: when the main handle shares its block with
live parts and has to grow (`Recycle.reserve`'s last branch: `pinned := r.A :: r.pinned`), the old
allocation — still held by the parts through the block the main handle leaves — becomes the newest
entry of the pinned list. -/
theorem step_reserve_shared_refinesP (cfg : Cfg) (e : Env) {s s' : St} (hw : WFx s) {i k : Nat} {v : Val}
    {c : Nat} {reg : Option Nat} {off len cap orig : Nat}
    (hi : s.hs[i]? = some (some (.mut (some c) reg off len cap orig))) (r : Rec)
    (hv : RecViewP s (.mut (some c) reg off len cap orig) r)
    (hadd : ¬ k ≤ cap - len) (hp : r.parts ≠ 0)
    (hok : step cfg e (.reserve i k) s = .ok v s') :
    (Recycle.reserve r k).pinned = r.A :: r.pinned ∧
    ∃ h', s'.hs[i]? = some (some h') ∧ RecViewP s' h' (Recycle.reserve r k) ∧
      allocCount s'.events + r.allocs = allocCount s.events + (Recycle.reserve r k).allocs := by
  obtain ⟨hv1, hpin, hnew⟩ := hv
  have ⟨vreg, vlen, vcap, vorig, rc, he, ra, ro, rl, rcp, rorig, rA, rp⟩ := hv1
  have hu : rc ≠ 1 := fun h => hp (by rw [rp, h])
  have epin : (Recycle.reserve r k).pinned = r.A :: r.pinned := by
    rw [Recycle.reserve_arc_shared r k (by rw [rcp, rl]; exact hadd) ra hp]
  replace hok := getHandle_bind_ok hi hok
  obtain ⟨h1, s1, hm, rfl, _⟩ := ok_set_pure hok
  -- the handle moves to a fresh KIND_VEC vector, its old block only loses one reference
  obtain ⟨_, _, hrd⟩ := handleOKL_mutA.mp (hw.inv.hok i _ hi)
  obtain ⟨bs, hbs⟩ := Option.isSome_iff_exists.mp hrd
  obtain ⟨b, hin⟩ := mutReserve_ok_inner hadd hm
  obtain ⟨hh, hC, _⟩ := mri_arc_shared cfg e he (hw.inv.cok c _ he rfl).2.1 hu
    (fun (h : k = 0) => hadd (h ▸ Nat.zero_le _)) hbs hin
  have harc : arcOf h1 = none := hh ▸ rfl
  obtain ⟨hH, hv', ha'⟩ := (reserve_refines_w cfg e (winv_of_inv hw.inv hi) k r hv1 h1 s1 hm).1
  refine ⟨epin, h1, by show (s1.hs.set i (some h1))[i]? = _; rw [hH]; exact lookup_set_eq _ hi,
    ⟨hv', ?_, ?_⟩, ha'⟩
  · -- the pinned list: the block the handle leaves joins it at the new end
    show _ = pinnedL s1.ctrls (arcOf h1)
    rw [epin, harc, hC, hpin, rA]
    unfold pinnedL
    rw [sharedSizes_set_same none (e := ⟨.sharedV vreg vlen vcap vorig, rc, true⟩)
      (e' := ⟨.sharedV vreg vlen vcap vorig, rc - 1, true⟩) rfl _ 0 c he,
      sharedSizes_leave (e := ⟨.sharedV vreg vlen vcap vorig, rc, true⟩) (v := vcap) rfl s.ctrls 0 c he
        (hnew c rfl), Nat.zero_add, List.reverse_append]
    rfl
  · -- a KIND_VEC handle has no block
    intro c0 hc0
    rw [harc] at hc0; cases hc0

/-- **`Op.drop j` of the last handle on the oldest pinned allocation refines `Recycle.Op.dropPinned`
and preserves `RecViewP`**: `j` holds the only reference (`rc = 1`) to a live `Shared` block `c'` of
bytes_mut.rs that is not the main handle's, and no older block is pinned.  The block and its vector
are freed; the main handle is untouched; the oldest entry leaves the pinned list. -/
theorem step_dropPinned_refinesP (cfg : Cfg) (e : Env) {s s' : St} (hw : WFx s) {i j c' : Nat} {v : Val}
    {h hj : Handle} (hi : s.hs[i]? = some (some h)) (r : Rec) (hv : RecViewP s h r)
    (hjl : s.hs[j]? = some (some hj)) (hjc : ctrlOf hj = some c') (hne : arcOf h ≠ some c')
    {vreg : Option Nat} {vlen vcap vorig : Nat}
    (he : s.ctrls[c']? = some ⟨.sharedV vreg vlen vcap vorig, 1, true⟩)
    (hold : ∀ (c'' : Nat) (e'' : CtrlE), c'' < c' → s.ctrls[c'']? = some e'' → some c'' ≠ arcOf h →
      ctrlPinned e'' = none)
    (hok : step cfg e (.drop j) s = .ok v s') :
    s'.hs[i]? = some (some h) ∧ RecViewP s' h (Recycle.step r .dropPinned) ∧
      allocCount s'.events + r.allocs = allocCount s.events + (Recycle.step r .dropPinned).allocs := by
  have hI := hw.inv
  obtain ⟨hv1, hpin, hnew⟩ := hv
  obtain ⟨arc, reg, off, len, cap, orig, rfl⟩ := RecView.is_mut hv1
  have hij : j ≠ i := by
    rintro rfl
    cases Option.some.inj (Option.some.inj (hi.symm.trans hjl))
    cases arc with
    | none => cases hjc
    | some c => exact hne hjc
  rw [show step cfg e (.drop j) s = opDrop j s from rfl, opDrop_ctrl hjl hjc] at hok
  obtain ⟨_, sy, hrl, hok⟩ := ok_of_bind hok
  cases hok
  obtain ⟨f1, f2, f3⟩ := releaseCtrl_frame hrl
  -- the last reference: the block is marked dead
  have hC : s'.ctrls = s.ctrls.set c' ⟨.sharedV vreg vlen vcap vorig, 0, false⟩ := by
    obtain ⟨ev, hq⟩ := releaseCtrl_last (s := { s with hs := s.hs.set j none }) he rfl rfl
      (hI.cok c' _ he rfl).2.2 hI.regs
    cases hq.symm.trans hrl
    rfl
  have hi' : s'.hs[i]? = some (some (.mut arc reg off len cap orig)) := by
    rw [f1]; exact (List.getElem?_set_ne hij).trans hi
  refine ⟨hi', ⟨?_, ?_, ?_⟩, by rw [Recycle.step_dropPinned]; exact congrArg (· + r.allocs) f2⟩
  · -- the main handle is untouched
    rw [Recycle.step_dropPinned]
    cases arc with
    | none => exact RecViewL_congr_size f3 hv1
    | some c =>
      have hcc : c' ≠ c := fun h => hne (congrArg some h.symm)
      obtain ⟨vreg0, vlen0, vcap0, vorig0, rc0, he0, ra, ro, rl, rcp, rorig, rA, rp⟩ := hv1
      exact ⟨vreg0, vlen0, vcap0, vorig0, rc0, by rw [hC, List.getElem?_set_ne hcc]; exact he0, ra, ro, rl, rcp,
        rorig, rA, rp⟩
  · -- the oldest entry leaves the pinned list
    rw [Recycle.step_dropPinned]
    show r.pinned.dropLast = pinnedL s'.ctrls arc
    rw [hC, hpin]
    show (sharedSizes arc s.ctrls 0).reverse.dropLast = (sharedSizes arc (s.ctrls.set c' _) 0).reverse
    rw [sharedSizes_kill arc (e := ⟨.sharedV vreg vlen vcap vorig, 1, true⟩)
      (e' := ⟨.sharedV vreg vlen vcap vorig, 0, false⟩) (v := vcap) rfl rfl s.ctrls 0 c' he
      (by rw [Nat.zero_add]; exact fun h => hne h.symm)
      (fun c'' e'' hlt hc'' hn => hold c'' e'' hlt hc'' (by rw [Nat.zero_add] at hn; exact hn)),
      List.reverse_cons, List.dropLast_concat]
  · -- the main handle's block is still the newest
    intro c hc c'' e'' hlt hc''
    rw [hC] at hc''
    by_cases hcc : c'' = c'
    · subst hcc
      rw [lookup_set_eq _ he] at hc''
      obtain rfl := Option.some.inj hc''
      rfl
    · rw [List.getElem?_set_ne (Ne.symm hcc)] at hc''
      exact hnew c hc c'' e'' hlt hc''

namespace Example

/-- `BytesMut::with_capacity` on a state without `Shared` blocks gives a `RecViewP`-related handle -/
example : RecViewP s1 (.mut none (some 0) 0 0 8 0) (Recycle.init 8) :=
  ⟨⟨rfl, rfl, rfl, rfl, by decide, rfl, rfl⟩, rfl, fun c hc => by cases hc⟩

/-- in `s3` (main handle on block 0 with one part) nothing is pinned -/
theorem viewP3 : RecViewP s3 (.mut (some 0) (some 0) 2 2 6 0) r3 :=
  ⟨view3, rfl, fun c hc c' e hlt hc' => by
    cases hc
    cases c' with
    | zero => exact absurd hlt (Nat.lt_irrefl 0)
    | succ k => cases hc'⟩

/-- … `reserve(10)` takes the shared branch: the 8-byte allocation is pinned (by the part in slot 1) … -/
example : ∃ s', step cfg0 env0 (.reserve 0 10) s3 = .ok .unit s' ∧
    ∃ h', s'.hs[0]? = some (some h') ∧ RecViewP s' h' (Recycle.reserve r3 10) ∧
      (Recycle.reserve r3 10).pinned = [8] := by
  refine ⟨_, rfl, ?_⟩
  obtain ⟨hp, h', h1, h2, _⟩ := step_reserve_shared_refinesP cfg0 env0 wfx3 (i := 0) (k := 10) rfl r3 viewP3
    (by decide) (by decide) (v := .unit) rfl
  exact ⟨h', h1, h2, hp⟩

/-- … and dropping that part (`dropPinned`) frees it: the pinned list is empty again -/
example : ∃ s4 s5, step cfg0 env0 (.reserve 0 10) s3 = .ok .unit s4 ∧
    step cfg0 env0 (.drop 1) s4 = .ok .unit s5 ∧
    RecViewP s5 (.mut none (some 1) 0 2 12 0) (Recycle.step (Recycle.reserve r3 10) .dropPinned) ∧
    (Recycle.step (Recycle.reserve r3 10) .dropPinned).pinned = [] ∧
    s5.regions[0]? = some ⟨8, [some 1, some 2, some 3, some 4, none, none, none, none], false, .heap false⟩ := by
  refine ⟨_, _, rfl, rfl, ?_, by decide, rfl⟩
  have hw4 : WFx (setH s4 0 (.mut none (some 1) 0 2 12 0)) :=
    WFx_step (cfg := cfg0) (e := env0) wfx3 (op := .reserve 0 10) (v := .unit) rfl trivial
  obtain ⟨_, h', h1, h2, _⟩ := step_reserve_shared_refinesP cfg0 env0 wfx3 (i := 0) (k := 10) rfl r3 viewP3
    (by decide) (by decide) (v := .unit) (s' := setH s4 0 (.mut none (some 1) 0 2 12 0)) rfl
  obtain rfl : Handle.mut none (some 1) 0 2 12 0 = h' := Option.some.inj (Option.some.inj h1)
  exact (step_dropPinned_refinesP cfg0 env0 hw4 (i := 0) (j := 1) (c' := 0) rfl _ h2 rfl rfl (by decide)
    (vreg := some 0) (vlen := 4) (vcap := 8) (vorig := 0) rfl (fun c'' e'' h => by omega)
    (v := .unit) rfl).2.1

end Example

end C18Refine
end BytesVerif.Core
