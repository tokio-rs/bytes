/-
C07 — sharing operations are zero-copy: the resulting handles start at the source address plus
their logical offset (same region, offset shifted), no byte buffer is allocated and no byte of any
region moves.  One theorem per operation family; `addrOf` is (region, offset).
-/
import BytesVerif.Lemmas.Core.Sound
import BytesVerif.Lemmas.Core.PropC07
namespace BytesVerif.Core

/-- clone of a `Bytes`: the clone is at the same address, the original stays where it is -/
theorem zero_copy_clone (cfg : Cfg) (e : Env) (i : Nat) (s s' : St) (h : WFx s) (j : Nat) (x : Handle)
    (hx : s.hs[i]? = some (some x)) (hb : kindOf x = .bytes) (hs : step cfg e (.clone i) s = .ok (.handle j) s') :
    NoCopy s s' ∧ ∃ y x', s'.hs[j]? = some (some y) ∧ s'.hs[i]? = some (some x') ∧
      (lenOf y ≠ 0 → addrOf y = addrOf x) ∧ addrOf x' = addrOf x := by
  rw [step] at hs
  have hs := getHandle_bind_ok hx hs
  cases x with
  | bytes repr reg off len =>
    simp only at hs
    obtain ⟨c, s1, hc, hs⟩ := ok_of_bind hs
    obtain ⟨crepr, repr', rfl, hhs, hnc⟩ := bytesClone_ok hx hc
    obtain ⟨j', s2, hn, hs⟩ := ok_of_bind hs
    cases hn; cases hs
    refine ⟨noCopy hnc, .bytes crepr reg off len, .bytes repr' reg off len,
      List.getElem?_concat_length, ?_, fun _ => rfl, rfl⟩
    simp only [hhs]
    exact lookup_old hx
  | «mut» | vec => simp [kindOf] at hb

/-- `slice(lo..hi)`: a non-empty result starts at the source address + lo -/
theorem zero_copy_slice (cfg : Cfg) (e : Env) (i lo hi : Nat) (s s' : St) (h : WFx s) (j : Nat) (x : Handle)
    (hx : s.hs[i]? = some (some x)) (hs : step cfg e (.slice i lo hi) s = .ok (.handle j) s') :
    NoCopy s s' ∧ ∃ y, s'.hs[j]? = some (some y) ∧ (lenOf y ≠ 0 → addrOf y = shift (addrOf x) lo) := by
  rw [step] at hs
  have hs := getHandle_bind_ok hx hs
  cases x with
  | bytes repr reg off len =>
    rcases ite_ok hs with ⟨_, hs⟩ | ⟨_, hs⟩
    · cases hs
    · rcases ite_ok hs with ⟨_, hs⟩ | ⟨_, hs⟩
      · cases hs
      · rcases ite_ok hs with ⟨_, hs⟩ | ⟨_, hs⟩
        · obtain ⟨j', s2, hn, hs⟩ := ok_of_bind hs
          cases hn; cases hs
          exact ⟨noCopy (NC.refl _), .bytes .static none 0 0, List.getElem?_concat_length,
            fun h => (h rfl).elim⟩
        · obtain ⟨c, s1, hc, hs⟩ := ok_of_bind hs
          obtain ⟨crepr, repr', rfl, hhs, hnc⟩ := bytesClone_ok hx hc
          simp only at hs
          obtain ⟨j', s2, hn, hs⟩ := ok_of_bind hs
          cases hn; cases hs
          exact ⟨noCopy hnc, .bytes crepr reg (off + lo) (hi - lo),
            List.getElem?_concat_length, fun _ => rfl⟩
  | «mut» | vec => cases hs

/-- `split_off(k)`: self keeps its address, the returned part starts at + k — for `Bytes` also when
one of them is empty; for `BytesMut` whenever the returned part has capacity -/
theorem zero_copy_splitOff (cfg : Cfg) (e : Env) (i k : Nat) (s s' : St) (h : WFx s) (j : Nat) (x : Handle)
    (hx : s.hs[i]? = some (some x)) (hs : step cfg e (.splitOff i k) s = .ok (.handle j) s') :
    NoCopy s s' ∧ ∃ y x', s'.hs[j]? = some (some y) ∧ s'.hs[i]? = some (some x') ∧
      addrOf x' = addrOf x ∧ addrOf y = shift (addrOf x) k := by
  cases x with
  | bytes repr reg off len =>
    rw [step, opSplitOff] at hs
    have hs := getHandle_bind_ok hx hs
    simp only at hs
    obtain ⟨o, s1, hc, hs⟩ := ok_of_bind hs
    obtain ⟨hnc, orepr, repr', l1, l2, rfl, hhs⟩ := bytesSplitOffCore_ok hx hc
    obtain ⟨j', s2, hn, hs⟩ := ok_of_bind hs
    cases hn; cases hs
    refine ⟨noCopy hnc, .bytes orepr reg (off + k) l2, .bytes repr' reg off l1,
      List.getElem?_concat_length, ?_, rfl, rfl⟩
    simp only [hhs]
    exact lookup_old hx
  | «mut» arc reg off len cap orig =>
    obtain ⟨_, hj, hnc, c, arc', cap', hhs⟩ := splitOff_mut_ok hx cfg e hs
    cases hj
    exact ⟨hnc, .mut arc' reg (off + k) (len - k) cap' orig, .mut (some c) reg off (min len k) k orig,
      by rw [hhs]; exact lookup_new, by rw [hhs]; exact lookup_old hx, rfl, rfl⟩
  | vec =>
    rw [step, opSplitOff] at hs
    cases getHandle_bind_ok hx hs

/-- `split_to(k)`: the returned part starts at the old address, self moves by k -/
theorem zero_copy_splitTo (cfg : Cfg) (e : Env) (i k : Nat) (s s' : St) (h : WFx s) (j : Nat) (x : Handle)
    (hx : s.hs[i]? = some (some x)) (hs : step cfg e (.splitTo i k) s = .ok (.handle j) s') :
    NoCopy s s' ∧ ∃ y x', s'.hs[j]? = some (some y) ∧ s'.hs[i]? = some (some x') ∧
      addrOf y = addrOf x ∧ addrOf x' = shift (addrOf x) k := by
  cases x with
  | bytes repr reg off len =>
    rw [step, opSplitTo] at hs
    have hs := getHandle_bind_ok hx hs
    rcases ite_ok hs with ⟨_, hs⟩ | ⟨_, hs⟩
    · obtain ⟨u, s1, h1, hs⟩ := ok_of_bind hs
      cases h1
      obtain ⟨j', s2, hn, hs⟩ := ok_of_bind hs
      cases hn; cases hs
      exact ⟨noCopy (NC.refl _), .bytes repr reg off len, .bytes .static reg (off + k) 0,
        List.getElem?_concat_length, lookup_old hx, rfl, rfl⟩
    · rcases ite_ok hs with ⟨hk0, hs⟩ | ⟨_, hs⟩
      · obtain ⟨j', s2, hn, hs⟩ := ok_of_bind hs
        cases hn; cases hs
        exact ⟨noCopy (NC.refl _), .bytes .static reg off 0, .bytes repr reg off len,
          List.getElem?_concat_length, lookup_append_of_some _ hx, rfl, by rw [hk0]; rfl⟩
      · rcases ite_ok hs with ⟨_, hs⟩ | ⟨_, hs⟩
        · cases hs
        · obtain ⟨c, s1, hc, hs⟩ := ok_of_bind hs
          obtain ⟨crepr, repr', rfl, hhs, hnc⟩ := bytesClone_ok hx hc
          have hi2 : s1.hs[i]? = some (some (.bytes repr' reg off len)) := by
            rw [hhs]; exact lookup_set_eq _ hx
          have hs := getHandle_bind_ok hi2 hs
          simp only at hs
          obtain ⟨u, s2, h2, hs⟩ := ok_of_bind hs
          cases h2
          obtain ⟨j', s3, hn, hs⟩ := ok_of_bind hs
          cases hn; cases hs
          exact ⟨noCopy hnc, .bytes crepr reg off k, .bytes repr' reg (off + k) (len - k),
            List.getElem?_concat_length, lookup_old hi2, rfl, rfl⟩
  | «mut» arc reg off len cap orig =>
    obtain ⟨_, hj, hnc, c, arc', cap', hhs⟩ := splitTo_mut_ok hx cfg e hs
    cases hj
    exact ⟨hnc, .mut (some c) reg off k k orig, .mut arc' reg (off + k) (len - k) cap' orig,
      by rw [hhs]; exact lookup_new, by rw [hhs]; exact lookup_old hx, rfl, rfl⟩
  | vec =>
    rw [step, opSplitTo] at hs
    cases getHandle_bind_ok hx hs

/-- `truncate`, `clear`, `freeze`, `Bytes::from(Vec)`: in place -/
theorem zero_copy_inplace (cfg : Cfg) (e : Env) (op : Op) (i : Nat) (s s' : St) (h : WFx s) (v : Val) (x : Handle)
    (hop : op = .truncate i (lenOf x - 1) ∨ (∃ n, op = .truncate i n) ∨ op = .clear i ∨ op = .freeze i ∨ op = .fromVec i)
    (hx : s.hs[i]? = some (some x)) (hs : step cfg e op s = .ok v s') :
    NoCopy s s' ∧ ∃ x', s'.hs[i]? = some (some x') ∧ (lenOf x' ≠ 0 → addrOf x' = addrOf x) := by
  -- `truncate` and `clear` both run `opTruncate`
  have trunc : ∀ n, opTruncate i n s = .ok v s' →
      NoCopy s s' ∧ ∃ x', s'.hs[i]? = some (some x') ∧ (lenOf x' ≠ 0 → addrOf x' = addrOf x) := by
    intro n hs
    obtain ⟨hnc, x', h1, h2⟩ := opTruncate_ok hx hs
    exact ⟨noCopy hnc, x', h1, fun _ => h2⟩
  rcases hop with rfl | ⟨n, rfl⟩ | rfl | rfl | rfl
  · exact trunc _ hs
  · exact trunc _ hs
  · exact trunc 0 hs
  · -- freeze
    rw [step] at hs
    have hs := getHandle_bind_ok hx hs
    cases x with
    | bytes | vec => cases hs
    | «mut» arc reg off len cap orig =>
      cases arc with
      | none =>
        simp only at hs
        obtain ⟨b, s1, hb, hs⟩ := ok_of_bind hs
        obtain ⟨f, repr, reg', rfl, hreg⟩ := bytesFromVec_ok hb
        rcases ite_ok hs with ⟨_, hs⟩ | ⟨_, hs⟩
        · cases hs
        · obtain ⟨u, s2, h2, hs⟩ := ok_of_bind hs
          cases h2; cases hs
          refine ⟨noCopy f.1, .bytes repr reg' (0 + off) (off + len - off),
            by simp only [f.2]; exact lookup_set_eq _ hx, ?_⟩
          intro hl
          have hr : reg' = reg := hreg (by simp only [lenOf] at hl; omega)
          subst hr
          simp [addrOf]
      | some c =>
        simp only at hs
        obtain ⟨u, s2, h2, hs⟩ := ok_of_bind hs
        cases h2; cases hs
        exact ⟨noCopy (NC.refl _), .bytes (.sharedV c) reg off len, lookup_set_eq _ hx,
          fun _ => rfl⟩
  · -- fromVec
    rw [step] at hs
    have hs := getHandle_bind_ok hx hs
    cases x with
    | bytes | «mut» => cases hs
    | vec reg len cap =>
      simp only at hs
      obtain ⟨b, s1, hb, hs⟩ := ok_of_bind hs
      obtain ⟨f, repr, reg', rfl, hreg⟩ := bytesFromVec_ok hb
      obtain ⟨u, s2, h2, hs⟩ := ok_of_bind hs
      cases h2; cases hs
      refine ⟨noCopy f.1, .bytes repr reg' 0 len,
        by simp only [f.2]; exact lookup_set_eq _ hx, ?_⟩
      intro hl
      have hr : reg' = reg := hreg hl
      subst hr
      rfl

theorem zero_copy_advance (cfg : Cfg) (e : Env) (i n : Nat) (s s' : St) (h : WFx s) (v : Val) (x : Handle)
    (hx : s.hs[i]? = some (some x)) (hs : step cfg e (.advance i n) s = .ok v s') :
    NoCopy s s' ∧ ∃ x', s'.hs[i]? = some (some x') ∧ (lenOf x' ≠ 0 → addrOf x' = shift (addrOf x) n) := by
  rw [step] at hs
  have hs := getHandle_bind_ok hx hs
  cases x with
  | bytes repr reg off len =>
    rcases ite_ok hs with ⟨_, hs⟩ | ⟨_, hs⟩
    · cases hs
    · obtain ⟨u, s2, h2, hs⟩ := ok_of_bind hs
      cases h2; cases hs
      exact ⟨noCopy (NC.refl _), .bytes repr reg (off + n) (len - n), lookup_set_eq _ hx,
        fun _ => rfl⟩
  | «mut» arc reg off len cap orig =>
    rcases ite_ok hs with ⟨_, hs⟩ | ⟨_, hs⟩
    · cases hs
    · obtain ⟨o', s1, ha, hs⟩ := ok_of_bind hs
      obtain ⟨f, arc', cap', rfl⟩ := mutAdvanceUnchecked_ok ha
      obtain ⟨u, s2, h2, hs⟩ := ok_of_bind hs
      cases h2; cases hs
      exact ⟨noCopy f.1, .mut arc' reg (off + n) (len - n) cap' orig,
        by simp only [f.2]; exact lookup_set_eq _ hx, fun _ => rfl⟩
  | vec => cases hs

/-- `unsplit` of adjacent halves of one shared buffer: merged in place -/
theorem zero_copy_unsplit (cfg : Cfg) (e : Env) (i j : Nat) (s s' : St) (h : WFx s) (v : Val)
    (c r off len cap orig ooff olen ocap oorig : Nat)
    (hi : s.hs[i]? = some (some (.mut (some c) (some r) off len cap orig)))
    (hj : s.hs[j]? = some (some (.mut (some c) (some r) ooff olen ocap oorig)))
    (hne : i ≠ j) (hlen : len ≠ 0) (hocap : ocap ≠ 0) (hadj : ooff = off + len)
    (hs : step cfg e (.unsplit i j) s = .ok v s') :
    NoCopy s s' ∧ ∃ cap', s'.hs[i]? = some (some (.mut (some c) (some r) off (len + olen) cap' orig)) := by
  rw [step] at hs
  rw [if_neg hne] at hs
  have hs := getHandle_bind_ok hi hs
  have hs := getHandle_bind_ok hj hs
  simp only [hlen, hocap, if_false, hadj, Option.isSome_some, and_self, if_true] at hs
  obtain ⟨u, s1, h1, hs⟩ := ok_of_bind hs
  cases h1
  obtain ⟨u, s2, h2, hs⟩ := ok_of_bind hs
  have f := FrM_mutDrop _ _ _ _ h2
  obtain ⟨u, s3, h3, hs⟩ := ok_of_bind hs
  cases h3; cases hs
  refine ⟨noCopy f.1, cap + ocap, ?_⟩
  simp only [f.2]
  have hi' : (s.hs.set j none)[i]? = some (some (.mut (some c) (some r) off len cap orig)) := by
    rw [List.getElem?_set_ne (Ne.symm hne)]; exact hi
  exact lookup_set_eq _ hi'

/-- the `Bytes` → `BytesMut` conversion of a uniquely held buffer returns the same memory -/
theorem zero_copy_tryIntoMut (cfg : Cfg) (e : Env) (i : Nat) (s s' : St) (h : WFx s) (x : Handle)
    (hx : s.hs[i]? = some (some x)) (hs : step cfg e (.tryIntoMut i) s = .ok (.handle i) s') :
    NoCopy s s' ∧ ∃ x', s'.hs[i]? = some (some x') ∧ kindOf x' = .mut ∧ (lenOf x' ≠ 0 → addrOf x' = addrOf x) := by
  have hI := h.inv
  rw [step] at hs
  have hs := getHandle_bind_ok hx hs
  obtain ⟨u, s0, hu, hs⟩ := ok_of_bind hs
  cases u with
  | false => simp only [Bool.false_eq_true, ↓reduceIte] at hs; cases hs
  | true =>
    simp only [↓reduceIte] at hs
    obtain ⟨m, s1, hm, hs⟩ := ok_of_bind hs
    obtain ⟨u', s2, h2, hs⟩ := ok_of_bind hs
    cases h2; cases hs
    have key : Fr s s1 ∧ kindOf m = .mut ∧ (lenOf m ≠ 0 → addrOf m = addrOf x) := by
      cases x with
      | «mut» | vec => cases hu
      | bytes repr reg off len =>
        -- SHARED and promoted PROMOTABLE: `shared_to_mut_impl`, unique branch
        have shared : ∀ c r cap : Nat, liveCtrlL s.ctrls c = some (.sharedB r cap) → reg = some r →
            ctrlIsUnique c s = .ok true s0 → OpsC.sharedToMut cfg e c reg off len s0 = .ok m s1 →
            Fr s s1 ∧ kindOf m = .mut ∧ (lenOf m ≠ 0 → addrOf m = (reg, off)) := by
          intro c r0 cap0 hlc hreg hu' hm'
          obtain ⟨e0, he0, _, hc0⟩ := liveCtrlL_some_iff.mp hlc
          have hs0 : s0 = s := (ctrlIsUnique_ok hu').1
          subst hs0
          unfold OpsC.sharedToMut at hm'
          obtain ⟨u2, s2, h1, hm'⟩ := ok_of_bind hm'
          rw [hu'] at h1; cases h1
          simp only [↓reduceIte] at hm'
          obtain ⟨⟨r, cap⟩, s3, ht, hm'⟩ := ok_of_bind hm'
          obtain ⟨f1, e1, he1, _, hc1⟩ := takeSharedB_ok ht
          simp only [mutFromVec] at hm'
          obtain ⟨f2, arc', cap', rfl⟩ := mutAdvanceUnchecked_ok hm'
          rw [he0] at he1; cases he1
          rw [hc0] at hc1; cases hc1
          exact ⟨f1.trans f2, rfl, fun _ => by simp [addrOf, hreg]⟩
        cases repr with
        | «static» | owned => cases hu
        | shared c =>
          obtain ⟨⟨r, cap, h1, h2, _⟩, _⟩ := handleOKL_shared.mp (hI.hok i _ hx)
          exact shared c r cap h1 h2 hu hm
        | sharedV c =>
          have hu' : ctrlIsUnique c s = .ok true s0 := hu
          obtain ⟨rfl, e0, he0, hl0, _⟩ := ctrlIsUnique_ok hu'
          simp only [bytesIntoMut] at hm
          obtain ⟨u2, s2, h1, hm⟩ := ok_of_bind hm
          rw [hu'] at h1; cases h1
          simp only [↓reduceIte] at hm
          obtain ⟨ce, s3, h3, hm⟩ := ok_of_bind hm
          obtain ⟨rfl, _, _⟩ := getCtrl_ok h3
          obtain ⟨ct, rc, live⟩ := ce
          cases ct with
          | sharedV a b vcap orig => cases hm; exact ⟨Fr.refl _, rfl, fun _ => rfl⟩
          | sharedB | owned => cases hm
        | prom vt oc =>
          cases oc with
          | some c =>
            obtain ⟨⟨r, cap, h1, h2, _⟩, _⟩ := handleOKL_promA.mp (hI.hok i _ hx)
            exact shared c r cap h1 h2 hu hm
          | none =>
            cases hu
            simp only [bytesIntoMut] at hm
            obtain ⟨u2, s2, h1, hm⟩ := ok_of_bind hm
            have f1 := FrM_promDecode _ _ _ _ _ h1
            simp only [mutFromVec] at hm
            obtain ⟨f2, arc', cap', rfl⟩ := mutAdvanceUnchecked_ok hm
            exact ⟨f1.trans f2, rfl, fun _ => by simp [addrOf]⟩
    exact ⟨noCopy key.1.1, m, by simp only [key.1.2]; exact lookup_set_eq _ hx, key.2.1, key.2.2⟩

end BytesVerif.Core
