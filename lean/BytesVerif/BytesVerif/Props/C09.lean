/-
C09 — every `Buf` in the crate is a faithful cursor over one byte sequence.
Property theorems only (helper lemmas live in Lemmas/Buf.lean).  All statements are by
structural induction over the adapter tree: any nesting depth, any fragmentation of `seg`
leaves (including empty chunks), any contents, any argument value.  The first four laws are
what the loop lemmas of Lemmas/Buf.lean rest on, so they are proved there and restated here.
-/
import BytesVerif.Lemmas.Buf
namespace BytesVerif.Buf

/-- `remaining()` is the length of the denoted sequence. -/
theorem remaining_eq (b : BufT) (h : wf b) : remaining b = (den b).length :=
  remaining_eq' b h

/-- `chunk()` is a prefix of the sequence … -/
theorem chunk_prefix (b : BufT) (h : wf b) : chunk b <+: den b :=
  chunk_prefix' b h

/-- … that is empty only when nothing remains. -/
theorem chunk_nil_iff (b : BufT) (h : wf b) : chunk b = [] ↔ remaining b = 0 :=
  chunk_nil_iff' b h

/-- `advance(n)` removes exactly the first `n` bytes … -/
theorem advance_ok (b : BufT) (n : Nat) (h : wf b) (hn : n ≤ remaining b) :
    ∃ b', advance b n = .ok b' ∧ den b' = (den b).drop n ∧ wf b' :=
  advance_ok' b n h hn

/-- … and panics if `n > remaining()`. -/
theorem advance_panic (b : BufT) (n : Nat) (h : wf b) (hn : remaining b < n) :
    advance b n = .panic := by
  induction b generalizing n with
  | chain a b iha ihb =>
    rw [remaining_chain h] at hn
    obtain ⟨ha, hb, -⟩ := h
    simp only [advance]
    by_cases h0 : remaining a = 0
    · rw [if_neg (fun hne => hne h0), ihb n hb (by omega)]; rfl
    · obtain ⟨a', ha', -, -⟩ := advance_ok a (remaining a) ha (Nat.le_refl _)
      rw [if_pos h0, if_neg (show ¬ remaining a ≥ n by omega), ha', ihb _ hb (by omega)]; rfl
  | take i lim ih =>
    simp only [remaining] at hn
    simp only [advance]
    split
    · rw [ih n h.1 (by omega)]; rfl
    · rfl
  | refMut i ih | box i ih => simp only [advance, ih n h hn, Res.map]
  | _ => exact if_pos hn  -- leaves: the model's range test is `remaining b < n` itself

/-- `chunks_vectored` fills at most `dst.len()` slices (slots beyond the returned count are
untouched by construction of the model: only the returned list is written) … -/
theorem chunksVectored_length (b : BufT) (k : Nat) : (chunksVectored b k).length ≤ k := by
  induction b generalizing k with
  | seg cs => exact leafSlices_length (.seg cs) k
  | flat f bs => exact leafSlices_length (.flat f bs) k
  | cursor d p => exact leafSlices_length (.cursor d p) k
  | deque s1 s2 =>
    simp only [chunksVectored]
    split
    · exact Nat.zero_le _
    · split
      · simp only [List.length_cons, List.length_nil]; omega
      · simp only [List.length_cons, List.length_nil]; omega
  | chain a b iha ihb =>
    simp only [chunksVectored]
    have h1 := iha k
    split
    · have h2 := ihb (k - (chunksVectored a k).length)
      simp only [List.length_append]; omega
    · exact h1
  | take i lim ih =>
    simp only [chunksVectored]
    split
    · exact Nat.zero_le _
    · exact Nat.le_trans (takeLoop_length _ lim) (Nat.le_trans (ih _) (Nat.min_le_left _ _))
  | refMut i ih | box i ih => exact ih k

/-- … whose concatenation is a prefix of the sequence … -/
theorem chunksVectored_prefix (b : BufT) (k : Nat) (h : wf b) :
    (chunksVectored b k).flatten <+: den b := by
  induction b generalizing k with
  | seg cs => exact leafSlices_prefix (.seg cs) k h
  | flat f bs => exact leafSlices_prefix (.flat f bs) k h
  | cursor d p => exact leafSlices_prefix (.cursor d p) k h
  | deque s1 s2 =>
    simp only [chunksVectored, den]
    split
    · simp
    · split <;> simp
  | chain a b iha ihb =>
    obtain ⟨ha, hb, _⟩ := h
    simp only [chunksVectored, den]
    split
    · next htot =>
      have hpa := iha k ha
      have heq : (chunksVectored a k).flatten = den a := by
        apply hpa.eq_of_length
        rw [← remaining_eq a ha]; exact htot
      rw [List.flatten_append, heq]
      exact (List.prefix_append_right_inj _).mpr (ihb _ hb)
    · exact (iha k ha).trans (List.prefix_append _ _)
  | take i lim ih =>
    obtain ⟨hi, _⟩ := h
    simp only [chunksVectored, den]
    split
    · simp
    · rw [takeLoop_flatten]
      obtain ⟨t, ht⟩ := ih (min k 16) hi
      rw [← ht, List.take_append]
      exact List.prefix_append _ _
  | refMut i ih | box i ih => exact ih k h

/-- … with at least one non-empty slice when bytes remain and `dst` is non-empty. -/
theorem chunksVectored_nonempty (b : BufT) (k : Nat) (h : wf b) (hr : 0 < remaining b) (hk : 0 < k) :
    ∃ s ∈ chunksVectored b k, s ≠ [] := by
  induction b generalizing k with
  | seg cs => exact leafSlices_nonempty (.seg cs) k h hr hk
  | flat f bs => exact leafSlices_nonempty (.flat f bs) k h hr hk
  | cursor d p => exact leafSlices_nonempty (.cursor d p) k h hr hk
  | deque s1 s2 =>
    simp only [remaining] at hr
    have h1 : s1 ≠ [] := by
      intro e
      have e2 := h.2 e
      subst e e2
      simp at hr
    refine ⟨s1, ?_, h1⟩
    simp only [chunksVectored]
    rw [if_neg (by omega)]
    split <;> simp
  | chain a b iha ihb =>
    obtain ⟨ha, hb, hlt⟩ := h
    simp only [chunksVectored]
    by_cases h0 : remaining a = 0
    · have hb0 : 0 < remaining b :=
        Nat.pos_of_ne_zero fun hb0 => Nat.ne_of_gt hr (satAdd_eq_zero_iff.mpr ⟨h0, hb0⟩)
      have hnil := chunksVectored_nil_of_remaining a k ha h0
      obtain ⟨s, hs, hne⟩ := ihb k hb hb0 hk
      refine ⟨s, ?_, hne⟩
      simpa [hnil, totalLen, h0] using hs
    · obtain ⟨s, hs, hne⟩ := iha k ha (Nat.pos_of_ne_zero h0) hk
      refine ⟨s, ?_, hne⟩
      split
      · exact List.mem_append_left _ hs
      · exact hs
  | take i lim ih =>
    obtain ⟨hi, _⟩ := h
    simp only [remaining] at hr
    simp only [chunksVectored]
    rw [if_neg (by omega)]
    exact takeLoop_nonempty _ _ (by omega) (ih (min k 16) hi (by omega) (by omega))
  | refMut i ih | box i ih => exact ih k h hr hk

/-- `try_copy_to_slice` / `copy_to_slice` return exactly the next bytes and consume exactly that
many (the fuel `n + 1` of the model's loop always suffices: a termination fact). -/
theorem tryCopyToSlice_ok (b : BufT) (n : Nat) (h : wf b) (hn : n ≤ remaining b) :
    ∃ b', tryCopyToSlice b n = .ok (some ((den b).take n), b') ∧ den b' = (den b).drop n ∧ wf b' := by
  obtain ⟨b', hb', hadv⟩ := tryCopyToSlice_adv b n h hn
  exact ⟨b', hb', hadv.spec h⟩

theorem tryCopyToSlice_err (b : BufT) (n : Nat) (hn : remaining b < n) :
    tryCopyToSlice b n = .ok (none, b) := by
  simp [tryCopyToSlice, hn]

theorem copyToSlice_ok (b : BufT) (n : Nat) (h : wf b) (hn : n ≤ remaining b) :
    ∃ b', copyToSlice b n = .ok ((den b).take n, b') ∧ den b' = (den b).drop n ∧ wf b' := by
  induction b generalizing n with
  | flat k bs =>
    cases k with
    | slice => exact ⟨_, if_neg (Nat.not_lt.mpr hn), rfl, wf_flat_drop n h⟩
    | _ => exact copyToSliceDefault_spec _ n h hn
  | refMut i ih | box i ih =>
    obtain ⟨i', hi', hd, hw⟩ := ih n h hn
    rw [copyToSlice, hi']
    exact ⟨_, rfl, hd, hw⟩
  | _ => exact copyToSliceDefault_spec _ n h hn

theorem copyToSlice_panic (b : BufT) (n : Nat) (hn : remaining b < n) :
    copyToSlice b n = .panic := by
  induction b with
  | flat k bs =>
    cases k with
    | slice => exact if_pos hn
    | _ => exact copyToSliceDefault_panic _ n hn
  | refMut i ih | box i ih => simp [copyToSlice, ih hn, Res.map]
  | _ => exact copyToSliceDefault_panic _ n hn

/-- `copy_to_bytes` (default, and the overrides of `Bytes`, `BytesMut`, `Chain`, `Take`). -/
theorem copyToBytes_ok (b : BufT) (n : Nat) (h : wf b) (hn : n ≤ remaining b) :
    ∃ b', copyToBytes b n = .ok ((den b).take n, b') ∧ den b' = (den b).drop n ∧ wf b' := by
  induction b generalizing n with
  | flat k bs =>
    cases k with
    | slice =>
      exact copyToBytesDefault_spec _ n h hn
    | bytes | bytesMut => exact ⟨_, if_neg (Nat.not_lt.mpr hn), rfl, wf_flat_drop n h⟩
  | chain a b iha ihb =>
    obtain ⟨a', b', he, hda, hdb, hwa, hwb⟩ := copyToBytes_chain_aux a b n h
      (fun n hn => iha n h.1 hn) (fun n hn => ihb n h.2.1 hn) hn
    exact ⟨.chain a' b', he, chain_of_inner h hda hdb hwa hwb⟩
  | take i lim ih =>
    obtain ⟨i', he, hd, hwi⟩ := copyToBytes_take_aux i lim n (fun n hn => ih n h.1 hn) hn
    refine ⟨.take i' (lim - n), he.trans ?_, take_of_inner h hd hwi⟩
    simp only [den, List.take_take, Nat.min_eq_left (Nat.le_trans hn (Nat.min_le_right _ _))]
  | refMut i ih | box i ih =>
    obtain ⟨i', hi', hd, hw⟩ := ih n h hn
    rw [copyToBytes, hi']
    exact ⟨_, rfl, hd, hw⟩
  | _ =>
    exact copyToBytesDefault_spec _ n h hn

theorem copyToBytes_panic (b : BufT) (n : Nat) (h : wf b) (hn : remaining b < n) :
    copyToBytes b n = .panic := by
  induction b generalizing n with
  | flat k bs =>
    cases k with
    | slice => exact copyToBytesDefault_panic _ n hn
    | bytes | bytesMut => exact if_pos hn
  | chain a b iha ihb =>
    rw [remaining_chain h] at hn
    obtain ⟨ha, hb, _⟩ := h
    rw [copyToBytes.eq_3, if_neg (by omega)]
    by_cases h0 : remaining a = 0
    · rw [if_pos h0, ihb n hb (by omega)]; rfl
    · rw [if_neg h0, if_neg (by omega)]
  | take i lim ih =>
    simp only [remaining] at hn
    simp only [copyToBytes]
    rw [if_neg (by omega)]
  | refMut i ih | box i ih => simp [copyToBytes, ih n h hn, Res.map]
  | _ => exact copyToBytesDefault_panic _ n hn

/-- `into_iter().next()` yields the next byte and consumes exactly one. -/
theorem iterNext_some (b : BufT) (h : wf b) (x : Nat) (r : Bs) (hd : den b = x :: r) :
    ∃ b', iterNext b = .ok (some x, b') ∧ den b' = r ∧ wf b' := by
  have hr : remaining b = r.length + 1 := by rw [remaining_eq b h, hd]; rfl
  have hcne : chunk b ≠ [] := fun e => by
    have := (chunk_nil_iff b h).mp e; omega
  obtain ⟨t, ht⟩ : ∃ t, chunk b = x :: t := by
    obtain ⟨u, hu⟩ := chunk_prefix b h
    rw [hd] at hu
    cases hc : chunk b with
    | nil => exact absurd hc hcne
    | cons y t =>
      rw [hc] at hu
      simp only [List.cons_append, List.cons.injEq] at hu
      exact ⟨t, by rw [hu.1]⟩
  obtain ⟨b', hb', hd', hw'⟩ := advance_ok b 1 h (by omega)
  refine ⟨b', ?_, by rw [hd', hd]; rfl, hw'⟩
  simp only [iterNext]
  rw [if_neg (by omega), ht]
  simp only [hb', Res.map]

theorem iterNext_none (b : BufT) (h : wf b) (hd : den b = []) : iterNext b = .ok (none, b) := by
  have hr : remaining b = 0 := by rw [remaining_eq b h, hd]; rfl
  simp [iterNext, hr]

-- Non-vacuity: a depth-4 tree over fragmented leaves with empty chunks satisfies `wf`, and the
-- laws evaluate as stated on it.
def sampleTree : BufT :=
  .chain (.take (.box (.chain (.seg [[1], [], [2, 3]]) (.deque [4] [5]))) 4) (.refMut (.cursor [9, 6, 7] 1))
example : wf sampleTree := by simp [sampleTree, wf, den, W_eq]
example : den sampleTree = [1, 2, 3, 4, 6, 7] := by decide
example : chunksVectored sampleTree 8 = [[1]] := by decide
example : (advance sampleTree 5).map den = .ok [7] := by decide

end BytesVerif.Buf
