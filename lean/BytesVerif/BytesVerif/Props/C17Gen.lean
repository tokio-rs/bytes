/-
C17 over the general adversary (Model/AdvGen.lean) — a safe-but-lying `Buf` whose answers may change on EVERY call
(interior mutability: `chunk()` long on one call, short on the next, no `advance` in between; `remaining()` different
on two successive reads) cannot drive the crate's consumers into undefined behaviour.  For every answer function,
every argument and every fuel, no consumer evaluates to `.ub`; the length / bound theorems of Props/C17.lean hold
unchanged.  The last section shows that the generalisation is strict: the `flicker` adversary does something no
scripted adversary of Model/Adv.lean can, and a check-then-re-fetch consumer (which the crate does not contain) is
safe against every scripted adversary yet reaches `ub` on `flicker`.
-/
import BytesVerif.Model.AdvGen
import BytesVerif.Props.C17
namespace BytesVerif.AdvGen
open BytesVerif.Adv

/-! ### the primitives themselves -/

theorem remaining_no_ub (b : GAdv) : NoUB (remaining b) := by
  unfold remaining
  exact Safe.ite (fun _ => safe_panic) fun _ => safe_ok _

theorem chunk_no_ub (b : GAdv) : NoUB (chunk b) := by
  unfold chunk
  exact Safe.ite (fun _ => safe_panic) fun _ => safe_ok _

theorem advance_no_ub (b : GAdv) (cnt : Nat) : NoUB (advance b cnt) := by
  unfold advance
  exact Safe.ite (fun _ => safe_panic) fun _ => safe_ok _

/-- whatever is claimed, the slice handed out lies inside the adversary's own memory -/
theorem chunk_length_le {b b' : GAdv} {s : Bs} (h : chunk b = .ok (s, b')) : s.length ≤ b.backing.length := by
  unfold chunk at h
  split at h
  · cases h
  · cases h; simp [List.length_take]; omega

theorem tryCopyLoop_no_ub (fuel : Nat) (b : GAdv) (need : Nat) (acc : Bs) : NoUB (tryCopyLoop fuel b need acc) := by
  induction fuel generalizing b need acc with
  | zero => exact safe_hang
  | succ fuel ih =>
    simp only [tryCopyLoop]
    apply Safe.ite (fun _ => safe_ok _) fun _ => ?_
    refine Safe.bind (chunk_no_ub b) fun src _ => ?_
    refine Safe.bind (sliceTo_safe _ _) fun part _ => ?_
    exact Safe.bind (advance_no_ub _ _) fun b' _ => ih _ _ _

theorem tryCopyToSlice_no_ub (fuel : Nat) (b : GAdv) (n : Nat) : NoUB (tryCopyToSlice fuel b n) := by
  unfold tryCopyToSlice
  refine Safe.bind (remaining_no_ub b) fun r _ => ?_
  apply Safe.ite (fun _ => safe_ok _) fun _ => ?_
  exact Safe.bind (tryCopyLoop_no_ub _ _ _ _) fun p _ => safe_ok _

theorem copyToSlice_no_ub (fuel : Nat) (b : GAdv) (n : Nat) : NoUB (copyToSlice fuel b n) := by
  unfold copyToSlice
  refine Safe.bind (tryCopyToSlice_no_ub _ _ _) fun p _ => ?_
  obtain ⟨o, b'⟩ := p
  cases o <;> simp

/-- the typed getters' fast path: the unsafe array read never leaves the slice that the ONE `chunk()` call returned,
whatever `remaining()` claimed and whatever a later `chunk()` would have returned -/
theorem tryGetFixed_no_ub (fuel : Nat) (b : GAdv) (size : Nat) : NoUB (tryGetFixed fuel b size) := by
  unfold tryGetFixed
  refine Safe.bind (remaining_no_ub b) fun r _ => ?_
  apply Safe.ite (fun _ => safe_ok _) fun _ => ?_
  refine Safe.bind (chunk_no_ub _) fun c _ => ?_
  apply Safe.ite (fun hc => ?_) fun _ => ?_
  · refine Safe.bind (unsafeRead_safe_of_le ?_) fun bytes _ => ?_
    · simp [List.length_take]; omega
    · exact Safe.bind (advance_no_ub _ _) fun b' _ => safe_ok _
  · exact Safe.bind (copyToSlice_no_ub _ _ _) fun p _ => safe_ok _

theorem tryGetVar_no_ub (fuel : Nat) (b : GAdv) (nbytes : Nat) : NoUB (tryGetVar fuel b nbytes) := by
  unfold tryGetVar
  exact Safe.ite (fun _ => safe_panic) (fun _ => tryCopyToSlice_no_ub _ _ _)

theorem getU8_no_ub (b : GAdv) : NoUB (getU8 b) := by
  unfold getU8
  refine Safe.bind (remaining_no_ub b) fun r _ => ?_
  apply Safe.ite (fun _ => safe_panic) fun _ => ?_
  refine Safe.bind (chunk_no_ub _) fun ⟨s, b1⟩ _ => ?_
  cases s with
  | nil => exact safe_panic
  | cons x xs => exact Safe.bind (advance_no_ub _ _) fun b' _ => safe_ok _

theorem putFixedLoop_no_ub (fuel : Nat) (b : GAdv) (room : Nat) (acc : Bs) : NoUB (putFixedLoop fuel b room acc) := by
  induction fuel generalizing b room acc with
  | zero => exact safe_hang
  | succ fuel ih =>
    simp only [putFixedLoop]
    refine Safe.bind (remaining_no_ub b) fun r _ => ?_
    apply Safe.ite (fun _ => safe_ok _) fun _ => ?_
    refine Safe.bind (chunk_no_ub _) fun s _ => ?_
    refine Safe.bind (sliceTo_safe _ _) fun part _ => ?_
    apply Safe.ite (fun _ => safe_panic) fun _ => ?_
    refine Safe.bind (advance_no_ub _ _) fun b' _ => ?_
    exact ih _ _ _

theorem putFixed_no_ub (fuel : Nat) (b : GAdv) (room : Nat) : NoUB (putFixed fuel b room) := by
  unfold putFixed
  refine Safe.bind (remaining_no_ub b) fun r _ => ?_
  exact Safe.ite (fun _ => safe_panic) fun _ => putFixedLoop_no_ub _ _ _ _

/-- growing destinations (`BytesMut::put`, `Vec::put`): every unsafe copy fits the capacity reserved for the real
length of the very slice that is copied -/
theorem putGrowLoop_no_ub (fuel : Nat) (b : GAdv) (len cap : Nat) : NoUB (putGrowLoop fuel b len cap) := by
  induction fuel generalizing b len cap with
  | zero => exact safe_hang
  | succ fuel ih =>
    simp only [putGrowLoop]
    refine Safe.bind (remaining_no_ub b) fun r _ => ?_
    apply Safe.ite (fun _ => safe_ok _) fun _ => ?_
    refine Safe.bind (chunk_no_ub _) fun s _ => ?_
    refine Safe.bind (unsafeWrite_safe_of_le ?_) fun _ _ => ?_
    · split <;> omega
    · refine Safe.bind (advance_no_ub _ _) fun b' _ => ?_
      exact ih _ _ _

theorem vecPut_no_ub (fuel : Nat) (b : GAdv) (len cap : Nat) : NoUB (vecPut fuel b len cap) := by
  unfold vecPut
  exact Safe.bind (remaining_no_ub b) fun _ _ => putGrowLoop_no_ub _ _ _ _

theorem iterNext_no_ub (b : GAdv) : NoUB (iterNext b) := by
  unfold iterNext
  refine Safe.bind (remaining_no_ub b) fun r _ => ?_
  apply Safe.ite (fun _ => safe_ok _) fun _ => ?_
  refine Safe.bind (chunk_no_ub _) fun ⟨s, b1⟩ _ => ?_
  cases s with
  | nil => exact safe_panic
  | cons x xs => exact Safe.bind (advance_no_ub _ _) fun b' _ => safe_ok _

theorem readerRead_no_ub (fuel : Nat) (b : GAdv) (n : Nat) : NoUB (readerRead fuel b n) := by
  unfold readerRead
  exact Safe.bind (remaining_no_ub b) fun r _ => copyToSlice_no_ub _ _ _

theorem takeChunksVectored_no_ub (b : GAdv) (limit dstLen : Nat) : NoUB (takeChunksVectored b limit dstLen) := by
  unfold takeChunksVectored
  apply Safe.ite (fun _ => safe_ok _) fun _ => ?_
  apply Safe.ite (fun _ => safe_ok _) fun _ => ?_
  refine Safe.bind (remaining_no_ub b) fun r _ => ?_
  apply Safe.ite (fun _ => safe_ok _) fun _ => ?_
  exact Safe.bind (chunk_no_ub _) fun c _ => safe_ok _

/-! ### `Take` / `Chain` / `Limit` wrapped around the adversary -/

theorem takeRemaining_no_ub (b : GAdv) (limit : Nat) : NoUB (takeRemaining b limit) := by
  unfold takeRemaining
  exact Safe.bind (remaining_no_ub b) fun _ _ => safe_ok _

theorem takeChunk_no_ub (b : GAdv) (limit : Nat) : NoUB (takeChunk b limit) := by
  unfold takeChunk
  exact Safe.bind (chunk_no_ub b) fun _ _ => Safe.bind (sliceTo_safe _ _) fun _ _ => safe_ok _

theorem takeAdvance_no_ub (b : GAdv) (limit cnt : Nat) : NoUB (takeAdvance b limit cnt) := by
  unfold takeAdvance
  exact Safe.ite (fun _ => safe_panic) fun _ => Safe.bind (advance_no_ub _ _) fun _ _ => safe_ok _

theorem takeChunk_length {b b' : GAdv} {limit : Nat} {s : Bs} (h : takeChunk b limit = .ok (s, b')) :
    s.length ≤ limit := by
  unfold takeChunk at h
  obtain ⟨c, _, h⟩ := bind_eq_ok h
  obtain ⟨s1, hs, h⟩ := bind_eq_ok h
  cases h
  have := sliceTo_length hs
  omega

theorem takeAdvance_eq_ok {b b' : GAdv} {limit cnt limit' : Nat} (h : takeAdvance b limit cnt = .ok (b', limit')) :
    cnt ≤ limit ∧ limit' = limit - cnt := by
  unfold takeAdvance at h
  split at h
  · cases h
  · obtain ⟨b1, _, h⟩ := bind_eq_ok h
    cases h
    exact ⟨by omega, rfl⟩

/-- `BytesMut::put(adv.take(limit))`: the unsafe copy of `extend_from_slice` always fits what `reserve` made room for -/
theorem putGrowTakeLoop_no_ub (fuel : Nat) (b : GAdv) (limit len cap : Nat) :
    NoUB (putGrowTakeLoop fuel b limit len cap) := by
  induction fuel generalizing b limit len cap with
  | zero => exact safe_hang
  | succ fuel ih =>
    simp only [putGrowTakeLoop]
    refine Safe.bind (takeRemaining_no_ub b limit) fun r _ => ?_
    apply Safe.ite (fun _ => safe_ok _) fun _ => ?_
    refine Safe.bind (takeChunk_no_ub _ limit) fun s _ => ?_
    refine Safe.bind (unsafeWrite_safe_of_le (reserveCap_ge _ _ _)) fun _ _ => ?_
    refine Safe.bind (takeAdvance_no_ub _ _ _) fun p _ => ?_
    exact ih _ _ _ _

theorem defaultCopyToBytes_no_ub (fuel : Nat) (b : GAdv) (len : Nat) : NoUB (defaultCopyToBytes fuel b len) := by
  unfold defaultCopyToBytes
  refine Safe.bind (remaining_no_ub b) fun r _ => ?_
  apply Safe.ite (fun _ => safe_panic) fun _ => ?_
  exact Safe.bind (putGrowTakeLoop_no_ub _ _ _ _ _) fun _ _ => safe_ok _

theorem takeCopyToBytes_no_ub (fuel : Nat) (b : GAdv) (lim len : Nat) : NoUB (takeCopyToBytes fuel b lim len) := by
  unfold takeCopyToBytes
  refine Safe.bind (takeRemaining_no_ub b lim) fun r _ => ?_
  exact Safe.ite (fun _ => safe_panic) fun _ => defaultCopyToBytes_no_ub _ _ _

theorem chainCopyToBytes_no_ub (fuel : Nat) (b : GAdv) (bLen len : Nat) : NoUB (chainCopyToBytes fuel b bLen len) := by
  unfold chainCopyToBytes
  refine Safe.bind (remaining_no_ub b) fun r _ => ?_
  apply Safe.ite (fun _ => defaultCopyToBytes_no_ub _ _ _) fun _ => ?_
  apply Safe.ite (fun _ => Safe.ite (fun _ => safe_panic) fun _ => safe_ok _) fun _ => ?_
  apply Safe.ite (fun _ => safe_panic) fun _ => ?_
  refine Safe.bind (putGrowLoop_no_ub _ _ _ _) fun p _ => ?_
  refine Safe.bind (unsafeWrite_safe_of_le ?_) fun _ _ => safe_ok _
  simpa using reserveCap_ge p.1 p.2 (len - r.1)

theorem chainChunksVectored_no_ub (b : GAdv) (bLen : Nat) : NoUB (chainChunksVectored b bLen) := by
  unfold chainChunksVectored
  refine Safe.bind (remaining_no_ub b) fun r _ => ?_
  apply Safe.ite (fun _ => Safe.bind (remaining_no_ub _) fun _ _ => safe_ok _) fun _ => ?_
  refine Safe.bind (chunk_no_ub _) fun c _ => ?_
  exact Safe.bind (remaining_no_ub _) fun _ _ => safe_ok _

theorem chainGetFixed_no_ub (fuel : Nat) (pre : Bs) (b : GAdv) (size : Nat) : NoUB (chainGetFixed fuel pre b size) := by
  unfold chainGetFixed
  refine Safe.bind (remaining_no_ub b) fun r _ => ?_
  apply Safe.ite (fun _ => safe_panic) fun _ => ?_
  refine Safe.bind (remaining_no_ub _) fun r2 _ => ?_
  apply Safe.ite (fun _ => safe_panic) fun _ => ?_
  exact Safe.bind (tryCopyLoop_no_ub _ _ _ _) fun _ _ => safe_ok _

theorem putLimitLoop_no_ub (fuel : Nat) (b : GAdv) (limit len cap : Nat) : NoUB (putLimitLoop fuel b limit len cap) := by
  induction fuel generalizing b limit len cap with
  | zero => exact safe_hang
  | succ fuel ih =>
    simp only [putLimitLoop]
    refine Safe.bind (remaining_no_ub b) fun r _ => ?_
    apply Safe.ite (fun _ => safe_ok _) fun _ => ?_
    refine Safe.bind (chunk_no_ub _) fun s _ => ?_
    refine Safe.bind (sliceTo_safe _ _) fun _ _ => ?_
    apply Safe.ite (fun _ => safe_panic) fun _ => ?_
    apply Safe.ite (fun _ => safe_panic) fun _ => ?_
    refine Safe.bind (advance_no_ub _ _) fun b' _ => ?_
    exact ih _ _ _ _

theorem putLimit_no_ub (fuel : Nat) (b : GAdv) (limit len cap : Nat) : NoUB (putLimit fuel b limit len cap) := by
  unfold putLimit
  refine Safe.bind (remaining_no_ub b) fun r _ => ?_
  exact Safe.ite (fun _ => safe_panic) fun _ => putLimitLoop_no_ub _ _ _ _ _

/-! ### bounds: what comes back is exactly as long as the destination; wrappers keep their limits -/

theorem tryCopyLoop_length (fuel : Nat) (b b' : GAdv) (need : Nat) (acc bs : Bs)
    (hr : tryCopyLoop fuel b need acc = .ok (bs, b')) : bs.length = acc.length + need := by
  induction fuel generalizing b need acc with
  | zero => simp [tryCopyLoop] at hr
  | succ fuel ih =>
    simp only [tryCopyLoop] at hr
    split at hr
    · cases hr; omega
    · obtain ⟨src, _, hr⟩ := bind_eq_ok hr
      obtain ⟨part, hp, hr⟩ := bind_eq_ok hr
      obtain ⟨b1, _, hr⟩ := bind_eq_ok hr
      have hl := sliceTo_length hp
      have := ih _ _ _ hr
      simp only [List.length_append, hl] at this
      omega

theorem tryCopyToSlice_length (fuel : Nat) (b b' : GAdv) (n : Nat) (bs : Bs)
    (hr : tryCopyToSlice fuel b n = .ok (some bs, b')) : bs.length = n := by
  unfold tryCopyToSlice at hr
  obtain ⟨r, _, hr⟩ := bind_eq_ok hr
  split at hr
  · cases hr
  · obtain ⟨⟨bs1, b1⟩, h1, hr⟩ := bind_eq_ok hr
    have := tryCopyLoop_length _ _ _ _ _ _ h1
    cases hr
    simpa using this

theorem copyToSlice_length (fuel : Nat) (b b' : GAdv) (n : Nat) (bs : Bs)
    (hr : copyToSlice fuel b n = .ok (bs, b')) : bs.length = n := by
  unfold copyToSlice at hr
  obtain ⟨⟨o, b1⟩, h1, hr⟩ := bind_eq_ok hr
  cases o with
  | none => simp at hr
  | some bs1 =>
    cases hr
    exact tryCopyToSlice_length _ _ _ _ _ h1

theorem tryGetFixed_length (fuel : Nat) (b b' : GAdv) (size : Nat) (bs : Bs)
    (hr : tryGetFixed fuel b size = .ok (some bs, b')) : bs.length = size := by
  unfold tryGetFixed at hr
  obtain ⟨r, _, hr⟩ := bind_eq_ok hr
  split at hr
  · cases hr
  · obtain ⟨c, _, hr⟩ := bind_eq_ok hr
    split at hr
    · obtain ⟨bytes, hb, hr⟩ := bind_eq_ok hr
      obtain ⟨b1, _, hr⟩ := bind_eq_ok hr
      cases hr
      exact unsafeRead_length hb
    · obtain ⟨⟨bs1, b1⟩, h1, hr⟩ := bind_eq_ok hr
      cases hr
      exact copyToSlice_length _ _ _ _ _ h1

/-- a fixed destination is never written past its end: the bytes written plus the room left is the room it had -/
theorem putFixedLoop_room (fuel : Nat) (b : GAdv) (room room' : Nat) (acc out : Bs)
    (hr : putFixedLoop fuel b room acc = .ok (out, room')) : out.length + room' = acc.length + room := by
  induction fuel generalizing b room acc with
  | zero => simp [putFixedLoop] at hr
  | succ fuel ih =>
    simp only [putFixedLoop] at hr
    obtain ⟨r, _, hr⟩ := bind_eq_ok hr
    split at hr
    · cases hr
      rfl
    · obtain ⟨s, _, hr⟩ := bind_eq_ok hr
      obtain ⟨part, hp, hr⟩ := bind_eq_ok hr
      have hl := sliceTo_length hp
      split at hr
      · cases hr
      · obtain ⟨b1, _, hr⟩ := bind_eq_ok hr
        have := ih _ _ _ hr
        simp only [List.length_append, hl] at this
        omega

theorem putGrowLoop_len_le_cap (fuel : Nat) (b : GAdv) (len cap len' cap' : Nat) (h : len ≤ cap)
    (hr : putGrowLoop fuel b len cap = .ok (len', cap')) : len' ≤ cap' := by
  induction fuel generalizing b len cap with
  | zero => simp [putGrowLoop] at hr
  | succ fuel ih =>
    simp only [putGrowLoop] at hr
    obtain ⟨r, _, hr⟩ := bind_eq_ok hr
    split at hr
    · cases hr
      exact h
    · obtain ⟨s, _, hr⟩ := bind_eq_ok hr
      obtain ⟨_, _, hr⟩ := bind_eq_ok hr
      obtain ⟨b1, _, hr⟩ := bind_eq_ok hr
      refine ih _ _ _ ?_ hr
      split <;> omega

/-- `Take` bounds a flickering source too: at most `limit` bytes are appended; `len ≤ cap` is kept -/
theorem putGrowTakeLoop_bound (fuel : Nat) (b : GAdv) (limit len cap len' cap' : Nat) (h : len ≤ cap)
    (hr : putGrowTakeLoop fuel b limit len cap = .ok (len', cap')) : len' ≤ len + limit ∧ len ≤ len' ∧ len' ≤ cap' := by
  induction fuel generalizing b limit len cap with
  | zero => simp [putGrowTakeLoop] at hr
  | succ fuel ih =>
    simp only [putGrowTakeLoop] at hr
    obtain ⟨r, _, hr⟩ := bind_eq_ok hr
    split at hr
    · cases hr
      omega
    · obtain ⟨⟨s, b0⟩, hs, hr⟩ := bind_eq_ok hr
      obtain ⟨_, _, hr⟩ := bind_eq_ok hr
      obtain ⟨⟨b1, l1⟩, ha, hr⟩ := bind_eq_ok hr
      dsimp only at ha hr
      have hsl := takeChunk_length hs
      obtain ⟨_, rfl⟩ := takeAdvance_eq_ok ha
      have hm := add_le_reserveCap len cap s.length h
      have := ih _ _ _ _ hm hr
      omega

/-- the `Bytes` returned by the default `copy_to_bytes` is never longer than requested -/
theorem defaultCopyToBytes_len_le (fuel : Nat) (b : GAdv) (len n : Nat)
    (hr : defaultCopyToBytes fuel b len = .ok n) : n ≤ len := by
  unfold defaultCopyToBytes at hr
  obtain ⟨r, _, hr⟩ := bind_eq_ok hr
  split at hr
  · cases hr
  · obtain ⟨⟨n', c'⟩, hp, hr⟩ := bind_eq_ok hr
    cases hr
    have := putGrowTakeLoop_bound _ _ _ _ _ _ _ (Nat.zero_le _) hp
    omega

theorem chainChunksVectored_count (b : GAdv) (bLen n : Nat) (hr : chainChunksVectored b bLen = .ok n) : n ≤ 2 := by
  unfold chainChunksVectored at hr
  obtain ⟨r, _, hr⟩ := bind_eq_ok hr
  split at hr
  · obtain ⟨r2, _, hr⟩ := bind_eq_ok hr
    cases hr
    split
    · split <;> omega
    · omega
  · obtain ⟨c, _, hr⟩ := bind_eq_ok hr
    obtain ⟨r2, _, hr⟩ := bind_eq_ok hr
    cases hr
    split
    · split <;> omega
    · omega

theorem chainGetFixed_length (fuel : Nat) (pre : Bs) (b : GAdv) (size : Nat) (bs : Bs) (hp : pre.length ≤ size)
    (hr : chainGetFixed fuel pre b size = .ok bs) : bs.length = size := by
  unfold chainGetFixed at hr
  obtain ⟨r, _, hr⟩ := bind_eq_ok hr
  split at hr
  · cases hr
  · obtain ⟨r2, _, hr⟩ := bind_eq_ok hr
    split at hr
    · cases hr
    · obtain ⟨⟨bs', b'⟩, hl, hr⟩ := bind_eq_ok hr
      cases hr
      exact (tryCopyLoop_length _ _ _ _ _ _ hl).trans (by omega)

/-- `Limit` holds against a flickering source: bytes written + limit left = limit before, and `len ≤ cap` is kept -/
theorem putLimitLoop_bound (fuel : Nat) (b : GAdv) (limit len cap len' cap' limit' : Nat) (h : len ≤ cap)
    (hr : putLimitLoop fuel b limit len cap = .ok (len', cap', limit')) :
    len' + limit' = len + limit ∧ len' ≤ cap' := by
  induction fuel generalizing b limit len cap with
  | zero => simp [putLimitLoop] at hr
  | succ fuel ih =>
    simp only [putLimitLoop] at hr
    obtain ⟨r, _, hr⟩ := bind_eq_ok hr
    split at hr
    · cases hr
      exact ⟨rfl, h⟩
    · obtain ⟨s, _, hr⟩ := bind_eq_ok hr
      obtain ⟨_, _, hr⟩ := bind_eq_ok hr
      split at hr
      · cases hr
      · split at hr
        · cases hr
        · obtain ⟨b1, _, hr⟩ := bind_eq_ok hr
          have hc : len ≤ chunkMutCap len cap := by unfold chunkMutCap; split <;> omega
          have := ih _ _ _ _ (by omega) hr
          omega

/-! ### the generalisation is strict -/

/-- `chunk()` answers 80 bytes on the first call after an advance and 0 bytes on every later one -/
def flicker : GAdv :=
  { answers := fun _ c => if c = 0 then ⟨1, 80, 0⟩ else ⟨1, 0, 0⟩, backing := List.replicate 512 0 }

/-- two successive `chunk()` calls on `flicker`, no `advance` in between (`k` unchanged), return slices of different
lengths: 80 bytes, then none -/
theorem flicker_chunk_changes :
    ∃ s1 b1 s2 b2, chunk flicker = .ok (s1, b1) ∧ chunk b1 = .ok (s2, b2) ∧
      b1.k = flicker.k ∧ b2.k = flicker.k ∧ s1.length = 80 ∧ s2.length = 0 := by
  refine ⟨_, _, _, _, rfl, rfl, rfl, rfl, ?_, ?_⟩ <;>
    simp [flicker, GAdv.cur, -List.reduceReplicate]

/-- an adversary whose answers ignore the call index: exactly what Model/Adv.lean's script can express -/
def Scripted (b : GAdv) : Prop := ∀ k c c', b.answers k c = b.answers k c'

theorem ofScript_scripted (script : List Lie) (backing : Bs) : Scripted (ofScript script backing) := by
  intro k c c'; rfl

/-- a scripted adversary cannot flicker: two successive `chunk()` calls return the same slice -/
theorem scripted_chunk_stable {b b1 b2 : GAdv} {s1 s2 : Bs} (hb : Scripted b)
    (h1 : chunk b = .ok (s1, b1)) (h2 : chunk b1 = .ok (s2, b2)) : s1 = s2 := by
  unfold chunk at h1
  split at h1
  · cases h1
  · simp only [Res.ok.injEq, Prod.mk.injEq] at h1
    obtain ⟨rfl, rfl⟩ := h1
    unfold chunk at h2
    split at h2
    · cases h2
    · simp only [Res.ok.injEq, Prod.mk.injEq] at h2
      obtain ⟨rfl, _⟩ := h2
      simp only [GAdv.cur, hb b.k (b.c + 1) b.c]

theorem flicker_not_scripted : ¬ Scripted flicker := by
  intro h
  exact absurd (congrArg Lie.chunk (h 0 0 1)) (by decide)

/-- NOT in the crate: the length check is made on one `chunk()` and the unsafe read goes through a second one -/
def getFixedRefetch (b : GAdv) (size : Nat) : Res Bs := do
  let c1 ← chunk b
  if size ≤ c1.1.length then do
    let c2 ← chunk c1.2
    unsafeRead c2.1 size
  else .panic

/-- against every scripted adversary (all that Model/Adv.lean can express) the re-fetching read is fine … -/
theorem getFixedRefetch_scripted_no_ub (b : GAdv) (hb : Scripted b) (size : Nat) : NoUB (getFixedRefetch b size) := by
  unfold getFixedRefetch
  refine Safe.bind (chunk_no_ub b) fun c1 h1 => ?_
  apply Safe.ite (fun hc => ?_) fun _ => safe_panic
  refine Safe.bind (chunk_no_ub _) fun c2 h2 => ?_
  have hs : c1.1 = c2.1 := scripted_chunk_stable hb h1 h2
  exact unsafeRead_safe_of_le (hs ▸ hc)

/-- … and on `flicker` it reads past the end of the slice: `ub` is reachable in the general model exactly through
the power the generalisation adds -/
theorem getFixedRefetch_flicker_ub : ∃ w, getFixedRefetch flicker 8 = .ub w := by
  refine ⟨"read past the end of the slice returned by chunk()", ?_⟩
  simp [getFixedRefetch, chunk, unsafeRead, flicker, GAdv.cur, -List.reduceReplicate]

/-- the crate's own fast path on the same adversary does not, for any size and fuel: one `chunk()`, checked and read -/
theorem tryGetFixed_flicker_no_ub (fuel size : Nat) : NoUB (tryGetFixed fuel flicker size) := by
  exact tryGetFixed_no_ub fuel flicker size

end BytesVerif.AdvGen
