/-
C14 — equality, ordering and hashing depend on the bytes only, in both operand orders.
The rows come from Generated/CmpImpls.lean; the per-run certificate
(Cert/C14.lean) shows `rowOK` for every regenerated row.
-/
import BytesVerif.Model.Cmp
namespace BytesVerif.Cmp

theorem lexCmp_swap (x y : Bs) : lexCmp y x = (lexCmp x y).swap := by
  induction x generalizing y with
  | nil => cases y <;> simp [lexCmp, Ordering.swap]
  | cons a as ih =>
    cases y with
    | nil => simp [lexCmp, Ordering.swap]
    | cons b bs =>
      simp only [lexCmp]
      by_cases h1 : a < b
      · have h2 : ¬ b < a := by omega
        simp [h1, h2, Ordering.swap]
      · by_cases h2 : b < a
        · simp [h1, h2, Ordering.swap]
        · simp [h1, h2, ih]

theorem lexCmp_eq_iff (x y : Bs) : lexCmp x y = .eq ↔ x = y := by
  induction x generalizing y with
  | nil => cases y <;> simp [lexCmp]
  | cons a as ih =>
    cases y with
    | nil => simp [lexCmp]
    | cons b bs =>
      simp only [lexCmp]
      by_cases h1 : a < b
      · simp [h1]; omega
      · by_cases h2 : b < a
        · simp [h1, h2]; omega
        · have : a = b := by omega
          simp [ih, this]

/-- `lexCmp x y = .lt` is the textbook lexicographic order: a common prefix, then either `x` ends
or the next byte of `x` is smaller. -/
theorem lexCmp_lt_iff (x y : Bs) :
    lexCmp x y = .lt ↔
      ∃ p, (∃ b t, x = p ∧ y = p ++ b :: t) ∨ (∃ a b s t, x = p ++ a :: s ∧ y = p ++ b :: t ∧ a < b) := by
  induction x generalizing y with
  | nil => cases y <;> simp [lexCmp]
  | cons a as ih =>
    cases y with
    | nil =>
      simp only [lexCmp]
      constructor
      · intro h; cases h
      · rintro ⟨p, h | h⟩
        · obtain ⟨b, t, h1, h2⟩ := h
          cases p <;> simp at h2
        · obtain ⟨a', b, s, t, h1, h2, _⟩ := h
          cases p <;> simp at h2
    | cons b bs =>
      simp only [lexCmp]
      by_cases h1 : a < b
      · simp only [h1, if_true, true_iff]
        exact ⟨[], Or.inr ⟨a, b, as, bs, by simp, by simp, h1⟩⟩
      · by_cases h2 : b < a
        · simp only [h1, h2, if_false, if_true]
          constructor
          · intro h; cases h
          · rintro ⟨p, h | h⟩
            · obtain ⟨b', t, hx, hy⟩ := h
              subst hx
              simp at hy
              omega
            · obtain ⟨a', b', s, t, hx, hy, hlt⟩ := h
              cases p with
              | nil => simp at hx hy; omega
              | cons c p => simp at hx hy; omega
        · have hab : a = b := by omega
          subst hab
          simp only [h1, if_false, ih]
          constructor
          · rintro ⟨p, h | h⟩
            · obtain ⟨b', t, hx, hy⟩ := h
              exact ⟨a :: p, Or.inl ⟨b', t, by simp [hx], by simp [hy]⟩⟩
            · obtain ⟨a', b', s, t, hx, hy, hlt⟩ := h
              exact ⟨a :: p, Or.inr ⟨a', b', s, t, by simp [hx], by simp [hy], hlt⟩⟩
          · rintro ⟨p, h | h⟩
            · obtain ⟨b', t, hx, hy⟩ := h
              cases p with
              | nil => simp at hx
              | cons c p =>
                simp at hx hy
                exact ⟨p, Or.inl ⟨b', t, hx.2, hy.2⟩⟩
            · obtain ⟨a', b', s, t, hx, hy, hlt⟩ := h
              cases p with
              | nil => simp at hx hy; omega
              | cons c p =>
                simp at hx hy
                exact ⟨p, Or.inr ⟨a', b', s, t, hx.2, hy.2, hlt⟩⟩

/-- Soundness of the decision procedure, for every possible row: an OK row computes the slice
operator on the byte views of (`self`, `other`), for all byte strings. -/
theorem rowOK_sound (r : Row) (h : rowOK r = true) (x y : Bs) :
    eval r x y = some (spec r.trait x y) := by
  obtain ⟨impl, t, body⟩ := r
  cases body with
  | unknown s => simp [rowOK] at h
  | call op l rr =>
    cases l <;> cases rr <;> cases op <;> cases t <;>
      simp_all [rowOK, eval, spec, pick, applyOp]
    exact Bool.beq_comm

/-- Completeness: a row that is not OK differs from the specification on the concrete pair
`witness` (the failing input used for the replay on the real code). -/
theorem rowOK_complete (r : Row) (h : rowOK r = false) :
    eval r witness.1 witness.2 ≠ some (spec r.trait witness.1 witness.2) := by
  obtain ⟨impl, t, body⟩ := r
  cases body with
  | unknown s => simp [eval]
  | call op l rr =>
    cases l <;> cases rr <;> cases op <;> cases t <;>
      simp_all [rowOK, eval, spec, pick, applyOp, witness, lexCmp]

/-- `a < b` exactly when `b > a`, for every pair of OK rows implementing the two operand orders
(any two impls, e.g. `PartialOrd<BytesMut> for Vec<u8>` and `PartialOrd<Vec<u8>> for BytesMut`). -/
theorem antisym (r₁ r₂ : Row) (h₁ : rowOK r₁ = true) (h₂ : rowOK r₂ = true)
    (t₁ : r₁.trait = .partialCmp) (t₂ : r₂.trait = .partialCmp) (x y : Bs) :
    eval r₁ x y = some (.pord (some .lt)) ↔ eval r₂ y x = some (.pord (some .gt)) := by
  rw [rowOK_sound r₁ h₁, rowOK_sound r₂ h₂, t₁, t₂]
  simp only [spec, applyOp, Option.some.injEq, Val.pord.injEq]
  rw [lexCmp_swap x y]
  cases lexCmp x y <;> simp [Ordering.swap]

/-- Equality rows agree with `partial_cmp = Equal` (consistency of `==` with the order). -/
theorem eq_iff_cmp_eq (x y : Bs) : spec .eq x y = .bool true ↔ spec .cmp x y = .ord .eq := by
  simp [spec, applyOp, lexCmp_eq_iff]

/-- An OK hash row feeds exactly the byte view to the hasher, so equal contents hash equally and
the hash equals that of the borrowed `[u8]`. -/
theorem hashRow_sound (r : HashRow) (h : hashRowOK r = true) (x : Bs) : hashFeed r x = some x := by
  unfold hashRowOK at h
  unfold hashFeed
  cases hb : r.body <;> simp_all

-- Non-vacuity: concrete OK and not-OK rows, and the failing input for the not-OK one.
example : rowOK ⟨"PartialOrd<Vec<u8>> for BytesMut", .partialCmp, .call .partialCmp .self .other⟩ = true := by decide
example : rowOK ⟨"PartialOrd<BytesMut> for Vec<u8>", .partialCmp, .call .partialCmp .other .self⟩ = false := by decide
example : eval ⟨"PartialOrd<BytesMut> for Vec<u8>", .partialCmp, .call .partialCmp .other .self⟩ [0] [1]
    = some (.pord (some .gt)) := by decide
example : spec .partialCmp [0] [1] = .pord (some .lt) := by decide

end BytesVerif.Cmp
