/-
C05 / C06 for promotable handles — theorems over M5p (Model/Promo.lean): any number of threads sharing the
root handle by reference, racing promotions, any number of clones, conversions and drops, every stale read
the release/acquire view semantics allows, for every assignment of orderings satisfying `Sufficient`.
-/
import BytesVerif.Lemmas.Promo
namespace BytesVerif.Promo

def totalHandles (s : St) (n : Nat) : Nat := ((List.range n).map fun t => (s.th t).handles).sum

/-- no data race on buffer memory, no unordered access to the non-atomically initialised control block, no access to
freed memory or to a freed / not yet existing control block, no double free — in every reachable state -/
theorem promo_safe (o : POrds) (hs : Sufficient o = true) (n : Nat) (s : St) (hr : Reach o n s) :
    s.race = false ∧ s.ctrlRace = false ∧ s.uaf = false ∧ s.doubleFree = false := by
  rcases Nat.eq_zero_or_pos n with rfl | hn
  · rw [reach_zero hr]; exact ⟨rfl, rfl, rfl, rfl⟩
  · exact (reach_inv hs hn hr).safe

/-- however many threads race to promote, at most one CAS wins -/
theorem promo_once (o : POrds) (n : Nat) (s : St) (hr : Reach o n s) : s.promotions ≤ 1 := by
  rcases Nat.eq_zero_or_pos n with rfl | hn
  · rw [reach_zero hr]; exact Nat.zero_le _
  · exact (reach_basic hn hr).prom1

/-- the owner can never read a stale KIND_VEC word when it is about to consume the root: once every borrow has
ended, a promotion that happened is visible to the owner (so `dropRootVec` / `takeRootVec` fire only on a root
that really was never promoted) -/
theorem owner_sees_promotion (o : POrds) (n : Nat) (s : St) (hr : Reach o n s) (ho : s.owner < n)
    (hl : s.rootLive = true) (hnb : noBorrows s n) (hd : s.data.isSome = true) :
    (s.th s.owner).dataSeen = true := by
  have hb := reach_basic (Nat.lt_of_le_of_lt (Nat.zero_le _) ho) hr
  obtain ⟨v, hv, hc, hdv⟩ := hb.wit (by intro e; rw [e] at hd; cases hd) hl
  rcases hc with hc | hc
  · rw [hc]; exact hdv
  · rw [hnb v hv] at hc; cases hc

theorem totalHandles_eq (s : St) (n : Nat) : totalHandles s n = total s n :=
  BytesVerif.Conc.sum_range_eq _ n

/-- the buffer is deallocated only when the root is gone and no handle is left anywhere -/
theorem promo_freed_no_users (o : POrds) (hs : Sufficient o = true) (n : Nat) (s : St) (hr : Reach o n s)
    (hf : s.freed = true) : s.rootLive = false ∧ totalHandles s n = 0 := by
  rcases Nat.eq_zero_or_pos n with rfl | hn
  · rw [reach_zero hr] at hf; cases hf
  · have h := reach_inv hs hn hr
    obtain ⟨hrl, hc⟩ := h.freed_cases hf
    rcases hc with hc | hc
    · rw [totalHandles_eq]; exact h.ctrlFreed_dead hc
    · refine ⟨hrl, ?_⟩
      rw [totalHandles_eq]
      exact BytesVerif.Conc.sumTo_zero_fun n _ (h.no_handles hc)

/-- the control block is freed / dismantled only when the root is gone and no handle is left -/
theorem promo_ctrlFreed_no_users (o : POrds) (hs : Sufficient o = true) (n : Nat) (s : St) (hr : Reach o n s)
    (hf : s.ctrlFreed = true) : s.rootLive = false ∧ totalHandles s n = 0 := by
  rcases Nat.eq_zero_or_pos n with rfl | hn
  · rw [reach_zero hr] at hf; cases hf
  · rw [totalHandles_eq]; exact (reach_inv hs hn hr).ctrlFreed_dead hf

/-! ### the three promotion bounds of `Sufficient` are necessary -/

def srcOrds : POrds :=
  { cloneAdd := .relaxed, dropSub := .release, dropLoad := .acquire, toVecCasOk := .acqRel, toVecCasFail := .relaxed,
    uniqueLoad := .acquire, promLoad := .acquire, promCasOk := .acqRel, promCasFail := .acquire }

example : Sufficient srcOrds = true := by decide

/-- The scenario of the first two tightness theorems: the owner (thread 0) lends the root to thread 1, which promotes it;
the owner then loads the pointer from `data` and `fetch_add`s the counter behind it. -/
def ownerAdds (o : POrds) : { s : St // Reach o 2 s } :=
  ⟨_, Reach.init
    |>.step (.lend init 0 1 (by decide) (by decide) (by decide) rfl rfl rfl rfl)
    |>.step (.cloneSeesVec _ 1 (by decide) ⟨rfl, .inr rfl⟩ rfl rfl)
    |>.step (.casOk _ 1 (by decide) rfl rfl)
    |>.step (.cloneSeesArc' _ 0 (by decide) ⟨rfl, .inl rfl⟩ rfl rfl)
    |>.step (.arcAdd _ 0 (by decide) rfl)⟩

/-- `promLoad ⊒ Acquire` is necessary: a borrower promotes, the owner's relaxed load sees the pointer and touches
the counter without being ordered after its initialisation -/
theorem relaxed_promLoad_races : ∃ s, Reach { srcOrds with promLoad := .relaxed } 2 s ∧ s.ctrlRace = true :=
  ⟨_, (ownerAdds _).2, by decide⟩

/-- `promCasOk ⊒ Release` is necessary: the promoting CAS publishes nothing, so the owner's acquire load has nothing to
synchronise with -/
theorem nonrelease_promCas_races : ∃ s, Reach { srcOrds with promCasOk := .acquire } 2 s ∧ s.ctrlRace = true :=
  ⟨_, (ownerAdds _).2, by decide⟩

/-- `promCasFail ⊒ Acquire` is necessary: both threads load KIND_VEC and race to promote; the owner loses, its relaxed
failure ordering acquires nothing, and it goes on to `fetch_add` the winner's counter -/
theorem relaxed_promCasFail_races : ∃ s, Reach { srcOrds with promCasFail := .relaxed } 2 s ∧ s.ctrlRace = true :=
  ⟨_, Reach.init
    |>.step (.lend init 0 1 (by decide) (by decide) (by decide) (by decide) (by decide) (by decide) (by decide))
    |>.step (.cloneSeesVec _ 0 (by decide) (by decide) (by decide) (by decide))
    |>.step (.cloneSeesVec _ 1 (by decide) (by decide) (by decide) (by decide))
    |>.step (.casOk _ 1 (by decide) (by decide) (by decide))
    |>.step (.casFail' _ 0 (by decide) (by decide) (by decide))
    |>.step (.arcAdd _ 0 (by decide) (by decide)), by decide⟩

end BytesVerif.Promo
