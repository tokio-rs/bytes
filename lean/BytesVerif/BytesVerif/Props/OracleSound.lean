/-
Soundness of the seq judge's property oracles (Judge/Seq.lean) with respect to M1: if the
implementation behaved exactly like the model, no oracle would fire.  Hence every oracle failure on
a real trace is a deviation of the implementation from M1's guarantees, never an artefact of an
oracle that demands more than the model promises.

`obsOfModel s` (Lemmas/Core/OracleSound.lean) is what the harness would print of the model state `s`,
with addresses as `ledger::find_block` reports them.  Idealisations: distinct regions never share or
reuse addresses (so a stale pointer is never attributed to an unrelated block) and the packing
allocator's shared block boundaries do not occur.  `Typed op s` is the weakest side condition that
excludes the calls the harness cannot issue (see `Witness` below).
-/
import BytesVerif.Judge.Seq
import BytesVerif.Lemmas.Core.Sound
import BytesVerif.Lemmas.Core.OracleSound
import BytesVerif.Props.C07
namespace BytesVerif.Judge.SeqJ
open BytesVerif.Core BytesVerif.Judge

/-- whenever the oracle claims to know whether a well-typed call must
panic, the model agrees (and the model never reaches `ub`). -/
theorem mustPanic_sound (cfg : Cfg) (e : Env) (op : Op) (s : St) (hw : WFx s) (ho : OpOK op)
    (ht : Typed op s) (b : Bool) (h : mustPanic op (obsOfModel s) = some b) :
    (b = true ↔ ∃ s', Core.step cfg e op s = .panic s') ∧ ∀ w s', Core.step cfg e op s ≠ .ub w s' := by
  refine ⟨?_, fun w s' hst => by
    rcases R.sat_cases (step_sound cfg e op s hw ho) with ⟨_, _, h, _⟩ | ⟨_, h, _⟩ <;> rw [hst] at h <;> cases h⟩
  rw [P16.step_cfg cfg cfg0 e op s hw.inv]
  exact (panic_spec e hw.inv ht).2 b h

theorem view_of_abs {s s' : St} (hI : Inv s) (hI' : Inv s') {i : Nat} {x y : Handle}
    (hx : s.hs[i]? = some (some x)) (hy : s'.hs[i]? = some (some y)) (h : (abs s')[i]? = (abs s)[i]?) :
    viewOfL s'.regions y = viewOfL s.regions x := by
  rw [abs_eq, abs_eq] at h
  obtain ⟨v, hv, _⟩ := hI.view hx
  obtain ⟨v', hv', _⟩ := hI'.view hy
  rw [absL_lookup hx hv, absL_lookup hy hv'] at h
  rw [hv, hv', (SH.mk.inj (Option.some.inj (Option.some.inj h))).2]

theorem same_arc_of_same_region {s : St} (hI : Inv s) {i j : Nat} (hij : i ≠ j)
    {arc oarc : Option Nat} {r off len cap orig ooff olen ocap oorig : Nat}
    (hi : s.hs[i]? = some (some (.mut arc (some r) off len cap orig)))
    (hj : s.hs[j]? = some (some (.mut oarc (some r) ooff olen ocap oorig)))
    (hc : cap ≠ 0) (hoc : ocap ≠ 0) : ∃ c, arc = some c ∧ oarc = some c := by
  have ai := hI.anchor_span (r := r) (o := off) (l := cap) hi rfl hc
  have aj := hI.anchor_span (r := r) (o := ooff) (l := ocap) hj rfl hoc
  cases arc with
  | none => exact (hI.alone_direct hi rfl (Ne.symm hij) hj aj).elim
  | some c =>
    cases oarc with
    | none => exact (hI.alone_direct hj rfl hij hi ai).elim
    | some c' =>
      obtain ⟨_, ⟨vlen, vcap, vorig, h1, _⟩, _⟩ := handleOKL_mutA.mp (hI.hok i _ hi)
      obtain ⟨_, ⟨vlen', vcap', vorig', h1', _⟩, _⟩ := handleOKL_mutA.mp (hI.hok j _ hj)
      obtain ⟨e1, he1, hl1, hc1, _, _, hb1⟩ := hI.cok' h1
      obtain ⟨e2, he2, hl2, hc2, _, _, _⟩ := hI.cok' h1'
      simp only [ctrlBufOK] at hb1
      have hown := hI.own r (isHeapLiveL_lt hb1.1)
      simp only [hb1.1, if_true] at hown
      have : c' = c := ctrlCountL_unique (r := r) (by omega) he1 hl1 (by rw [hc1]; rfl) he2 hl2 (by rw [hc2]; rfl)
      subst this
      exact ⟨c', rfl, rfl⟩

theorem addrOf_mut {s : St} {i : Nat} {arc reg : Option Nat} {off len cap orig r o : Nat}
    (h : addrOf (obsOfHandle s i (.mut arc reg off len cap orig)) = some (r, o)) :
    reg = some r ∧ o = off := by
  simp only [addrOf, obsOfHandle, Option.map_eq_some_iff] at h
  obtain ⟨⟨r', o', z⟩, h1, h2⟩ := h
  simp only [Prod.mk.injEq] at h2
  obtain ⟨rfl, rfl⟩ := h2
  obtain ⟨h3, h4, _⟩ := locate_eq_some h1
  exact ⟨h3, h4⟩

theorem orElse_eq_none {α : Type} {a b : Option α} : (a.orElse fun _ => b) = none ↔ a = none ∧ b = none := by
  cases a with
  | none => exact ⟨fun h => ⟨rfl, h⟩, fun h => h.2⟩
  | some x => exact ⟨nofun, nofun⟩

theorem intoMut_unique_ok (cfg : Cfg) (e : Env) {s s' : St} (hw : WFx s) {i : Nat} {v : Val} {repr : BRepr}
    {reg : Option Nat} {off len : Nat} (hi : s.hs[i]? = some (some (.bytes repr reg off len)))
    (hu : PropC08.uniqueB s repr = true)
    (hs : (bytesIntoMut cfg e (.bytes repr reg off len) >>= fun m => setHandle i m >>= fun _ =>
      pure (Val.handle i)) s = .ok v s') :
    NoAllocStep s s' ∧ ∃ arc cap orig, s'.hs[i]? = some (some (.mut arc reg off len cap orig)) := by
  obtain ⟨m, s1, evs, heq, ⟨arc, cap, orig, rfl⟩, hhs, hev, hno⟩ := PropC08.bytesIntoMut_unique hw.inv cfg e hi hu
  simp only [bind_apply, heq, setHandle_apply, pure_apply, R.ok.injEq] at hs
  obtain ⟨_, rfl⟩ := hs
  exact ⟨PropC08.NoAlloc_take hev hno, arc, cap, orig, lookup_set_eq _ (by rw [hhs]; exact hi)⟩

/-- Normal returns (C07 zero-copy, C04 reserve / try_reclaim promises): what
the model does on a well-typed call that returns satisfies every per-operation predicate. -/
theorem opOracle_ok_sound (cfg : Cfg) (e : Env) (op : Op) (s s' : St) (v : Val) (hw : WFx s) (hw' : WFx s')
    (habs : abs s' = Spec.stepOk op v (abs s)) (ht : Typed op s) (hs : Core.step cfg e op s = .ok v s') :
    opOracle op (.ok v) (obsOfModel s) (obsOfModel s') (evsOfModel s s') false = none := by
  unfold Typed typedB at ht
  cases op with
  | fromStatic _ | newVec _ _ | copyFromSlice _ | fromOwner _ _ | mutWithCapacity _ | mutFromSlice _
  | mutZeroed _ | isUnique _ | intoVec _ | extend _ _ | resize _ _ _ | setByte _ _ _ | fillSpare _ _
  | drop _ => cases v <;> rfl
  | fromVec i =>
    obtain ⟨x, hi⟩ := kindAt_live ht
    have key := zc_none_false (delta := 0) hw'.inv hi
      (Core.zero_copy_inplace cfg e _ i s s' hw v x (.inr (.inr (.inr (.inr rfl)))) hi hs)
    cases v <;> exact key
  | clone i =>
    obtain ⟨x, hi⟩ := kindAt_isSome ht
    cases v with
    | handle j =>
      show (if _ then zc _ _ _ _ i j 0 false else none) = none
      split
      · next hk =>
        have hb : kindOf x = .bytes := by simpa [findObs_live hi, obs_kind] using hk
        obtain ⟨hnc, y, x', hy, hx', ha, _⟩ := Core.zero_copy_clone cfg e i s s' hw j x hi hb hs
        exact zc_none_false (delta := 0) hw'.inv hi ⟨hnc, y, hy, ha⟩
      · rfl
    | _ => rfl
  | slice i lo hi' =>
    obtain ⟨x, hi⟩ := kindAt_live ht
    cases v with
    | handle j =>
      exact zc_none_false hw'.inv hi (Core.zero_copy_slice cfg e i lo hi' s s' hw j x hi hs)
    | _ => rfl
  | splitOff i k =>
    rcases (Bool.or_eq_true _ _).mp ht with ht | ht
    · obtain ⟨repr, reg, off, len, hi⟩ := kindAt_bytes ht
      have hI := hw.inv
      rcases splitOff_bytes_spec hi cfg e hI k with ⟨_, heq⟩ | ⟨hk, s1, repr', orepr, heq, hhs, hR⟩
      · rw [heq] at hs; cases hs
      rw [heq] at hs; cases hs
      obtain ⟨hnc, _⟩ := Core.zero_copy_splitOff cfg e i k s _ hw _ _ hi heq
      exact orElse_eq_none.mpr ⟨zc_bytes hI hR hi (by rw [hhs]; exact lookup_new) hk hnc.1,
        zc_bytes (delta := 0) hI hR hi (by rw [hhs]; exact lookup_old hi) (Nat.zero_le _) hnc.1⟩
    · obtain ⟨arc, reg, off, len, cap, orig, hi⟩ := kindAt_mut ht
      obtain ⟨hk, rfl, hno, c, arc', cap', hhs⟩ := splitOff_mut_ok hi cfg e hs
      exact orElse_eq_none.mpr ⟨zc_mut hw'.inv hi (by rw [hhs]; exact lookup_new) hno.1,
        zc_mut (delta := 0) hw'.inv hi (by rw [hhs]; exact lookup_old hi) hno.1⟩
  | splitTo i k =>
    rcases (Bool.or_eq_true _ _).mp ht with ht | ht
    · obtain ⟨repr, reg, off, len, hi⟩ := kindAt_bytes ht
      have hI := hw.inv
      rcases splitTo_bytes_spec hi cfg e hI k with ⟨_, heq⟩ | ⟨hk, s1, repr', crepr, heq, hhs, hR⟩
      · rw [heq] at hs; cases hs
      rw [heq] at hs; cases hs
      obtain ⟨hnc, _⟩ := Core.zero_copy_splitTo cfg e i k s _ hw _ _ hi heq
      exact orElse_eq_none.mpr ⟨zc_bytes (delta := 0) hI hR hi (by rw [hhs]; exact lookup_new) (Nat.zero_le _) hnc.1,
        zc_bytes hI hR hi (by rw [hhs]; exact lookup_old hi) hk hnc.1⟩
    · obtain ⟨arc, reg, off, len, cap, orig, hi⟩ := kindAt_mut ht
      obtain ⟨hk, rfl, hno, c, arc', cap', hhs⟩ := splitTo_mut_ok hi cfg e hs
      exact orElse_eq_none.mpr ⟨zc_mut (delta := 0) hw'.inv hi (by rw [hhs]; exact lookup_new) hno.1,
        zc_mut hw'.inv hi (by rw [hhs]; exact lookup_old hi) hno.1⟩
  | split i =>
    obtain ⟨arc, reg, off, len, cap, orig, hi⟩ := kindAt_mut ht
    rw [show Core.step cfg e (.split i) s = Core.step cfg e (.splitTo i len) s from
      getHandle_bind_eq hi _] at hs
    obtain ⟨hk, rfl, hno, c, arc', cap', hhs⟩ := splitTo_mut_ok hi cfg e hs
    exact zc_mut (delta := 0) hw'.inv hi (by rw [hhs]; exact lookup_new) hno.1
  | truncate i _ | clear i =>
    obtain ⟨x, hi⟩ := kindAt_isSome ht
    have key : (if (findObs (obsOfModel s) i).map (·.kind) != some .vec then
        zc (obsOfModel s) (obsOfModel s') (a1allocOf (evsOfModel s s')) false i i 0 false else none) = none := by
      split
      · obtain ⟨hnc, x', hx', ha⟩ := Core.opTruncate_ok hi hs
        exact zc_none_false hw'.inv hi ⟨Core.noCopy hnc, x', hx', fun _ => ha⟩
      · rfl
    cases v <;> exact key
  | advance i n =>
    rcases (Bool.or_eq_true _ _).mp ht with ht | ht <;>
    · obtain ⟨x, hi⟩ := kindAt_live ht
      have key := zc_none_false hw'.inv hi (Core.zero_copy_advance cfg e i n s s' hw v x hi hs)
      cases v <;> exact key
  | tryIntoMut i =>
    obtain ⟨repr, reg, off, len, hi⟩ := kindAt_bytes ht
    cases v with
    | handle j =>
      rw [show Core.step cfg e (.tryIntoMut i) s = _ from getHandle_bind_eq hi _] at hs
      simp only [bind_apply, PropC08.bytesIsUnique_eq hw.inv hi] at hs
      by_cases hu : PropC08.uniqueB s repr = true
      · rw [if_pos hu] at hs
        obtain ⟨hno, arc, cap, orig, hx'⟩ := intoMut_unique_ok cfg e hw hi hu hs
        exact congrArg (Option.map _) (zc_mut (delta := 0) hw'.inv hi hx' hno)
      · rw [if_neg hu] at hs; cases hs
    | _ => rfl
  | intoMut i =>
    obtain ⟨repr, reg, off, len, hi⟩ := kindAt_bytes ht
    cases v with
    | handle j =>
      show opOracle _ _ _ _ _ _ = none
      rw [opOracle_intoMut]
      split
      · next hq =>
        rw [findObs_live hi, Option.bind_some, obs_uniq_bytes hw.inv hi] at hq
        rw [show Core.step cfg e (.intoMut i) s = _ from getHandle_bind_eq hi _] at hs
        obtain ⟨hno, arc, cap, orig, hx'⟩ := intoMut_unique_ok cfg e hw hi (Option.some.inj (eq_of_beq hq)) hs
        exact congrArg (Option.map _) (zc_mut (delta := 0) hw'.inv hi hx' hno)
      · rfl
    | _ => rfl
  | freeze i =>
    obtain ⟨x, hi⟩ := kindAt_live ht
    have key := zc_none_false (delta := 0) hw'.inv hi
      (Core.zero_copy_inplace cfg e _ i s s' hw v x (.inr (.inr (.inr (.inl rfl)))) hi hs)
    cases v <;> exact key
  | reserve i n =>
    obtain ⟨arc, reg, off, len, cap, orig, hi⟩ := kindAt_mut ht
    have hbig : ¬ isizeMax < len + n := fun hb => by
      rw [PropC08.reserve_huge hw.inv cfg e hi hb] at hs; cases hs
    rw [show Core.step cfg e (.reserve i n) s = _ from getHandle_bind_eq hi _] at hs
    obtain ⟨h', s1, h1, hs⟩ := ok_of_bind hs
    obtain ⟨hhs, hview, arc', reg', off', cap', orig', rfl, hle⟩ := (mutReserve_ps hi hw.inv cfg e n).2 h' s1 h1
    simp only [bind_apply, setHandle_apply, pure_apply, R.ok.injEq] at hs
    obtain ⟨rfl, rfl⟩ := hs
    refine opOracle_reserve_none (findObs_live hi) (findObs_live (lookup_set_eq _ (hhs ▸ hi))) hle rfl ?_ ?_
    · rw [obs_contents, obs_contents, ← hview]
    · show len + n < W
      rw [W_eq]; rw [isizeMax_eq] at hbig; omega
  | tryReclaim i n =>
    obtain ⟨arc, reg, off, len, cap, orig, hi⟩ := kindAt_mut ht
    rw [show Core.step cfg e (.tryReclaim i n) s = _ from getHandle_bind_eq hi _] at hs
    by_cases hadd : n ≤ cap - len
    · simp only [if_pos hadd] at hs; cases hs
      exact opOracle_tryReclaim_true (findObs_live hi) (findObs_live hi) hadd rfl rfl
        (a1alloc_false (NoAllocStep.same rfl))
    · simp only [if_neg hadd] at hs
      rcases PropC08.mri_false hw.inv cfg e hi n with h1 | ⟨R1, off', cap', h1, hle⟩ <;>
        (simp only [bind_apply, h1, setHandle_apply, pure_apply, R.ok.injEq] at hs; obtain ⟨rfl, rfl⟩ := hs)
      · -- gave up: the handle is stored back unchanged
        simp [opOracle, set_self hi, findObs_live hi]
      · -- reclaimed: the same bytes, moved to the front of the buffer
        have hx' := lookup_set_eq (some (Handle.mut arc reg off' len cap' orig)) hi
        refine opOracle_tryReclaim_true (findObs_live hi) (findObs_live hx') hle rfl ?_
          (a1alloc_false (NoAllocStep.same rfl))
        rw [obs_contents, obs_contents, view_of_abs hw.inv hw'.inv hi hx' (by rw [habs]; rfl)]
  | unsplit i j =>
    obtain ⟨hij, arc, reg, off, len, cap, orig, oarc, oreg, ooff, olen, ocap, oorig, hi, hj⟩ := typed_unsplit ht
    show opOracle _ _ _ _ _ _ = none
    rw [opOracle_unsplit, findObs_live hi, findObs_live hj]
    simp only
    split
    · next r o r' o' ha hb =>
      split
      · next hc =>
        simp only [Bool.and_eq_true, beq_iff_eq, decide_eq_true_eq, obs_len, obs_cap, hlen, hcapO,
          Option.getD_some, Option.some.injEq] at hc
        obtain ⟨⟨⟨⟨rfl, ho⟩, hlen0⟩, hcap⟩, hocap⟩ := hc
        obtain ⟨rfl, rfl⟩ := addrOf_mut ha
        obtain ⟨rfl, rfl⟩ := addrOf_mut hb
        -- adjacent halves with capacity in one block share a control block: the model takes the no-copy path
        obtain ⟨c, rfl, rfl⟩ := same_arc_of_same_region hw.inv hij hi hj (by omega) (by omega)
        obtain ⟨hnc, cap', hx'⟩ := Core.zero_copy_unsplit cfg e i j s s' hw v c r o len cap orig _ olen
          ocap oorig hi hj hij (by omega) (by omega) ho hs
        exact zc_none_false hw'.inv hi ⟨hnc, _, hx', fun _ => rfl⟩
      · rfl
    · rfl

def SameSizes (s s' : St) : Prop :=
  ∀ (r : Nat) (rg : Region), s.regions[r]? = some rg → ∃ rg' : Region, s'.regions[r]? = some rg' ∧ rg'.size = rg.size

theorem NC.sameSizes {s s' : St} (h : NC s s') : SameSizes s s' := fun r rg hr =>
  let ⟨rg', h1, _, h2⟩ := h.2 r rg hr; ⟨rg', h1, h2⟩

theorem ite_nop_panic {α : Type} {c : Prop} [Decidable c] {m1 m2 : M α} {s s' : St} (h1 : NoPAt m1 s)
    (hp : (if c then m1 else m2) s = .panic s') : m2 s = .panic s' := by
  split at hp
  · exact (h1 s' hp).elim
  · exact hp

/-- the only way a well-typed `unsplit` panics: the copy of `other` into `self` overflows; `other` has
been consumed and is dropped during unwinding -/
theorem unsplit_panic_shape (cfg : Cfg) (e : Env) {s s' : St} (hI : Inv s) {i j : Nat} (hij : i ≠ j)
    {arc oarc reg oreg : Option Nat} {off len cap orig ooff olen ocap oorig : Nat}
    (hi : s.hs[i]? = some (some (.mut arc reg off len cap orig)))
    (hj : s.hs[j]? = some (some (.mut oarc oreg ooff olen ocap oorig)))
    (hp : Core.step cfg e (.unsplit i j) s = .panic s') :
    s'.hs = s.hs.set j none ∧
      (∀ (k : Nat) (b : Handle), k ≠ j → s.hs[k]? = some (some b) → viewOfL s'.regions b = viewOfL s.regions b) ∧
      SameSizes s s' := by
  rw [show Core.step cfg e (.unsplit i j) s = (if i = j then panic else _) s from rfl, if_neg hij,
    getHandle_bind_eq hi, getHandle_bind_eq hj] at hp
  -- the three branches that only move or drop `other` do not panic
  replace hp := ite_nop_panic (((NoP_killHandle j).bind fun _ => (NoP_mutDrop _ _ _ _ _ _).bind fun _ =>
    NoP_store _ _ _).at s) hp
  replace hp := ite_nop_panic (((NoP_killHandle j).bind fun _ => (NoP_mutDrop _ _ _ _ _ _).bind fun _ =>
    NoP.pure _).at s) hp
  replace hp := ite_nop_panic (((NoP_killHandle j).bind fun _ => (NoP_mutDrop _ _ _ _ _ _).bind fun _ =>
    NoP_store _ _ _).at s) hp
  obtain ⟨vo, hvo, _⟩ := hI.view hj
  obtain ⟨vh, hvh, _⟩ := hI.view hi
  simp only [viewOfL, hreg, hoff, hlen] at hvo hvh
  simp only [bind_apply, readRange_of_rdL hvo, killHandle_apply] at hp
  rcases OpsD.mutExtend_spec hI cfg e hi vo hvh with hx | ⟨h'', R2, C2, heq, _⟩
  · rw [show mutExtend cfg e (.mut arc reg off len cap orig) vo (s.wh (s.hs.set j none) s.events) = _ from
      hx (s.hs.set j none) s.events] at hp
    obtain ⟨R', C', hd, _, hview⟩ := OpsD.mutDrop_spec hI hj
    obtain ⟨ev, h3⟩ := hd (s.hs.set j none) s.events
    have hfr : SameSizes s _ := NC.sameSizes (FrM_mutDrop _ _ _ _ h3).1
    simp only [show mutDrop _ (s.wh (s.hs.set j none) s.events) = _ from h3, panic_apply, R.panic.injEq] at hp
    subst hp
    exact ⟨rfl, hview, hfr⟩
  · obtain ⟨ev1, h1⟩ := heq (s.hs.set j none) s.events
    rw [show mutExtend cfg e (.mut arc reg off len cap orig) vo (s.wh (s.hs.set j none) s.events) = _ from h1] at hp
    exact (((NoP_setHandle _ _).bind fun _ => (NoP_mutDrop _ _ _ _ _ _).bind fun _ => NoP.pure _) _ s' hp).elim

/-- a handle that is literally unchanged, reads the same bytes and whose region kept its size is
`same` for the panic / `try_reclaim = false` checks (liveness of its region follows from the
invariant whenever the handle can touch memory) -/
theorem sameObs_of_frame {s s' : St} (hI : Inv s) (hI' : Inv s') {k : Nat} {b : Handle}
    (hk : s.hs[k]? = some (some b)) (hk' : s'.hs[k]? = some (some b))
    (hview : viewOfL s'.regions b = viewOfL s.regions b)
    (hsize : SameSizes s s') : sameObs (obsOfModel s) (obsOfModel s') k = true := by
  unfold sameObs
  rw [findObs_live hk, findObs_live hk']
  simp only [obs_len, obs_cap, obs_contents, hview, beq_self_eq_true, Bool.true_and, Bool.or_eq_true,
    beq_iff_eq]
  by_cases he : extent b = 0
  · right; exact he
  · left
    obtain ⟨r, z, h1, h2, _⟩ := located_of_inv hI hk he
    obtain ⟨r', z', h1', h2', _⟩ := located_of_inv hI' hk' he
    rw [h1] at h1'; cases h1'
    rw [obs_blk, obs_blk, if_neg (fun h => he h.2), if_neg (fun h => he h.2), h2, h2']
    obtain ⟨_, _, rg, h3, _, _, h4⟩ := locate_eq_some h2
    obtain ⟨_, _, rg', h3', _, _, h4'⟩ := locate_eq_some h2'
    obtain ⟨rg'', h5, h6⟩ := hsize r rg h3
    rw [h3'] at h5; cases h5
    rw [h4, h4', h6]

theorem length_liveHs_kill {hs : List (Option Handle)} {j : Nat} {x : Handle} (hj : hs[j]? = some (some x)) :
    (liveHs (hs.set j none)).length + 1 = (liveHs hs).length := by
  have := countP_filterMap_set (fun _ : Handle => true) hs j (some x) none hj
  simp only [List.countP_true, optCount_some, optCount_none, if_true] at this
  simpa [liveHs] using this

/-- `from_owner` whose `as_ref` panics: the fresh owner is created and dropped again -/
theorem fromOwner_panic_shape (cfg : Cfg) (e : Env) {s s' : St} (bs : List Byte)
    (hp : Core.step cfg e (.fromOwner bs true) s = .panic s') : s'.hs = s.hs ∧ SameSizes s s' := by
  simp only [Core.step, if_true, bind_apply, get_apply, modify_apply, newCtrl_apply, emit_apply] at hp
  split at hp
  · next h5 =>
    cases hp
    have f := FrM_releaseCtrl _ _ _ _ h5
    exact ⟨f.2, (NC.sameSizes f.1 :)⟩
  · next h5 => exact (NoP_releaseCtrl _ _ _ h5).elim
  · cases hp

theorem sizes_refl (s : St) : ∀ (r : Nat) (rg : Region), s.regions[r]? = some rg →
    ∃ rg' : Region, s.regions[r]? = some rg' ∧ rg'.size = rg.size := fun _ rg h => ⟨rg, h, rfl⟩

theorem opOracle_panic_of_frame {s s' : St} (hI : Inv s) (hI' : Inv s') {op : Op}
    (hhs : ∀ (k : Nat) (b : Handle), (movedOf op).contains k = false → s.hs[k]? = some (some b) →
      s'.hs[k]? = some (some b) ∧ viewOfL s'.regions b = viewOfL s.regions b)
    (hsize : SameSizes s s')
    (hlen : (obsOfModel s').length + (movedOf op).length = (obsOfModel s).length ∨ isFromOwner op = true) :
    opOracle op .panic (obsOfModel s) (obsOfModel s') (evsOfModel s s') false = none := by
  rw [opOracle_panic, List.find?_eq_none.mpr]
  · rcases hlen with h | h <;> simp [h]
  intro o ho
  obtain ⟨k, b, hk, rfl⟩ := mem_obsOfModel.mp ho
  rw [obsOfHandle_id]
  cases hm : (movedOf op).contains k with
  | true => simp
  | false =>
    obtain ⟨hk', hv⟩ := hhs k b hm hk
    simp [sameObs_of_frame hI hI' hk hk' hv hsize]

/-- Panic branch (C13): what the model does when a well-typed call panics
satisfies the oracle's "everything intact" check. -/
theorem opOracle_panic_sound (cfg : Cfg) (e : Env) (op : Op) (s s' : St) (hw : WFx s) (hw' : WFx s')
    (habs : abs s' = Spec.stepPanic op (abs s)) (ht : Typed op s) (hp : Core.step cfg e op s = .panic s') :
    opOracle op .panic (obsOfModel s) (obsOfModel s') (evsOfModel s s') false = none := by
  have hI := hw.inv
  have hI' := hw'.inv
  by_cases hu : ∃ i j, op = .unsplit i j
  · obtain ⟨i, j, rfl⟩ := hu
    obtain ⟨hij, arc, reg, off, len, cap, orig, oarc, oreg, ooff, olen, ocap, oorig, hi, hj⟩ := typed_unsplit ht
    obtain ⟨hhs, hview, hsize⟩ := unsplit_panic_shape cfg e hI hij hi hj hp
    refine opOracle_panic_of_frame hI hI' (fun k b hm hk => ?_) hsize (.inl ?_)
    · have hkj : k ≠ j := by simpa [movedOf] using hm
      exact ⟨by rw [hhs, List.getElem?_set_ne (Ne.symm hkj)]; exact hk, hview k b hkj hk⟩
    · rw [obsOfModel_eq, obsOfModel_eq, length_obsList, length_obsList, hhs]
      exact length_liveHs_kill hj
  · have hu' : ∀ i j, op ≠ .unsplit i j := fun i j h => hu ⟨i, j, h⟩
    by_cases hf : ∃ bs, op = .fromOwner bs true
    · obtain ⟨bs, rfl⟩ := hf
      obtain ⟨hhs, hsize⟩ := fromOwner_panic_shape cfg e bs hp
      refine opOracle_panic_of_frame hI hI' (fun k b _ hk => ?_) hsize (.inr rfl)
      have hk' : s'.hs[k]? = some (some b) := by rw [hhs]; exact hk
      exact ⟨hk', view_of_abs hI hI' hk hk' (by rw [show abs s' = abs s from habs])⟩
    · have : s' = s := (panic_spec e hI ht).1 hu' (fun bs h => hf ⟨bs, h⟩) s'
        (by rw [← P16.step_cfg cfg cfg0 e op s hI]; exact hp)
      subst this
      exact opOracle_panic_of_frame hI hI (fun k b _ hk => ⟨hk, rfl⟩) (sizes_refl s')
        (.inl (by cases op <;> first | rfl | exact (hu' _ _ rfl).elim))

/-- (pack = false) whatever the model does on a well-typed call, the
per-operation oracle is silent. -/
theorem opOracle_sound (cfg : Cfg) (e : Env) (op : Op) (s : St) (hw : WFx s) (ho : OpOK op) (ht : Typed op s) :
    match Core.step cfg e op s with
    | .ok v s' => opOracle op (.ok v) (obsOfModel s) (obsOfModel s') (evsOfModel s s') false = none
    | .panic s' => opOracle op .panic (obsOfModel s) (obsOfModel s') (evsOfModel s s') false = none
    | .ub _ _ => False := by
  rcases R.sat_cases (step_sound cfg e op s hw ho) with ⟨v, s', hst, hw', habs⟩ | ⟨s', hst, hw', habs⟩ <;> rw [hst]
  · exact opOracle_ok_sound cfg e op s s' v hw hw' habs ht hst
  · exact opOracle_panic_sound cfg e op s s' hw hw' habs ht hst

theorem other_referrer {s : St} {i : Nat} {h : Handle} {c : Nat}
    (hi : s.hs[i]? = some (some h)) (hc : ctrlOf h = some c) (hne : refCountL s.hs c ≠ 1) :
    ∃ j b, j ≠ i ∧ s.hs[j]? = some (some b) ∧ ctrlOf b = some c := by
  have h1 := refCountL_pos_of hi hc
  have h2 := refCountL_kill c hi
  simp only [hc, if_true] at h2
  have h3 : refCountL (s.hs.set i none) c ≠ 0 := by omega
  rw [Ne, refCountL_eq_zero] at h3
  apply Classical.byContradiction
  intro hcon
  apply h3
  intro j b hj hcb
  by_cases hji : j = i
  · subst hji
    rw [lookup_set_eq _ hi] at hj; cases hj
  · rw [List.getElem?_set_ne (Ne.symm hji)] at hj
    exact hcon ⟨j, b, hji, hj, hcb⟩

theorem anchor_of_blk {s : St} (hI : Inv s) {j : Nat} {b : Handle} (hj : s.hs[j]? = some (some b))
    (hne : (obsOfHandle s j b).len > 0 ∨ ((obsOfHandle s j b).cap.getD 0) > 0) {r o z : Nat}
    (hb : (obsOfHandle s j b).blk = some (r, o, z)) : Anchor s.regions s.ctrls b r := by
  refine hI.anchor_span hj (span_of_blk hb) ?_
  cases b with
  | bytes repr reg off len =>
    have : len > 0 ∨ 0 > 0 := hne
    show len ≠ 0
    omega
  | «mut» _ _ _ len cap _ | vec _ len cap =>
    have : len > 0 ∨ cap > 0 := hne
    have : len ≤ cap := hlen_le_hcap hI hj rfl
    show cap ≠ 0
    omega

theorem unique_alone {s : St} (hI : Inv s) {i j : Nat} {repr : BRepr} {reg : Option Nat} {off len : Nat}
    {b : Handle} (hi : s.hs[i]? = some (some (.bytes repr reg off len)))
    (hu : PropC08.uniqueB s repr = true) (hji : j ≠ i) (hj : s.hs[j]? = some (some b)) {r : Nat}
    (hr : reg = some r) : ¬ Anchor s.regions s.ctrls b r := by
  have hok := hI.hok i _ hi
  subst hr
  have viaCtrl : ∀ c ct, ctrlOf (.bytes repr (some r) off len) = some c → refCount s c = 1 →
      liveCtrlL s.ctrls c = some ct → ctrlRegion ct = some r → ¬ Anchor s.regions s.ctrls b r := by
    intro c ct hc h1 hl hcr
    obtain ⟨e, he, hl', rfl⟩ := liveCtrlL_some_iff.mp hl
    obtain ⟨hrc, _, _⟩ := hI.cok c e he hl'
    exact hI.alone_ctrl hi hc he hl' (by rw [hrc, ← refCount_eq]; exact h1) hcr hji hj
  cases repr with
  | «static» | owned c => simp [PropC08.uniqueB] at hu
  | shared c =>
    obtain ⟨⟨r', cap, h1, h2, _⟩, _⟩ := handleOKL_shared.mp hok
    cases h2
    exact viaCtrl c _ rfl (by simpa [PropC08.uniqueB] using hu) h1 rfl
  | sharedV c =>
    obtain ⟨⟨vlen, vcap, vorig, h1, _⟩, _⟩ := handleOKL_sharedV.mp hok
    exact viaCtrl c _ rfl (by simpa [PropC08.uniqueB] using hu) h1 rfl
  | prom vt oc =>
    cases oc with
    | none => exact hI.alone_direct hi rfl hji hj
    | some c =>
      obtain ⟨⟨r', cap, h1, h2, _⟩, _⟩ := handleOKL_promA.mp hok
      cases h2
      exact viaCtrl c _ rfl (by simpa [PropC08.uniqueB] using hu) h1 rfl

theorem uniq_check {α β : Type} (refs : List α) (sharers : List β) (u : Bool) (a b : String × String)
    (h1 : u = false → refs ≠ []) (h2 : u = true → sharers = []) :
    (if (refs.isEmpty && sharers.isEmpty && !u) = true then some a
     else if (u && !sharers.isEmpty) = true then some b else none) = none := by
  cases u with
  | false =>
    have : refs.isEmpty = false := by
      cases refs with
      | nil => exact absurd rfl (h1 rfl)
      | cons _ _ => rfl
    simp [this]
  | true => simp [h2 rfl]

/-- on every well-formed model state, `is_unique` as the model answers it
is consistent with who refers to and who shares the storage. -/
theorem uniqOracle_sound (s : St) (hw : WFx s) : uniqOracle s (obsOfModel s) = none := by
  have hI := hw.inv
  unfold uniqOracle
  rw [List.findSome?_eq_none_iff]
  intro o ho
  obtain ⟨i, h, hi, rfl⟩ := mem_obsOfModel.mp ho
  rw [obsOfHandle_id, hi]
  cases h with
  | «mut» | vec => rfl
  | bytes repr reg off len =>
    rw [obs_uniq_bytes hI hi]
    -- reported unique: no other handle that can touch memory is located in the same block
    have hsh : PropC08.uniqueB s repr = true →
        ((obsOfModel s).filter fun p => p.id != i && (p.len > 0 || (p.cap.getD 0) > 0) &&
          (match p.blk, (obsOfHandle s i (.bytes repr reg off len)).blk with
           | some (a, _, _), some (b, _, _) => a == b | _, _ => false)) = [] := by
      intro hu
      rw [List.filter_eq_nil_iff]
      intro p hp hcond
      obtain ⟨j, b, hj, rfl⟩ := mem_obsOfModel.mp hp
      simp only [Bool.and_eq_true, bne_iff_ne, ne_eq, obsOfHandle_id, Bool.or_eq_true,
        decide_eq_true_eq] at hcond
      obtain ⟨⟨hji, hne⟩, hblk⟩ := hcond
      split at hblk
      · next r _ _ r' _ _ hpb hob =>
        cases eq_of_beq hblk
        exact unique_alone hI hi hu hji hj (locate_eq_some (locate_of_blk hob)).1 (anchor_of_blk hI hj hne hpb)
      · cases hblk
    -- reported shared: the count of the control block is not 1, so another handle names it
    have hrefs : ∀ c, ctrlOf (.bytes repr reg off len) = some c → refCountL s.hs c ≠ 1 →
        ((s.hs.zipIdx).filter fun (oh, j) => j != i &&
          (match oh with | some h => (some c).isSome && ctrlOf h == some c | none => false)) ≠ [] := by
      intro c hc hne hnil
      obtain ⟨j, b, hji, hj, hcb⟩ := other_referrer hi hc hne
      have := List.filter_eq_nil_iff.mp hnil (some b, j) (List.mem_zipIdx_iff_getElem?.mpr hj)
      simp [hji, hcb] at this
    cases repr with
    | «static» | owned c => rfl
    | shared c | sharedV c =>
      exact uniq_check _ _ _ _ _ (fun hu => hrefs c rfl (by simpa [PropC08.uniqueB, refCount_eq] using hu)) hsh
    | prom vt oc =>
      cases oc with
      | none => exact uniq_check _ _ _ _ _ (fun hu => by cases hu) hsh
      | some c =>
        exact uniq_check _ _ _ _ _ (fun hu => hrefs c rfl (by simpa [PropC08.uniqueB, refCount_eq] using hu)) hsh

theorem bounds_ok_elem {s : St} (hI : Inv s) {o : Obs} (ho : o ∈ obsOfModel s) :
    (o.wild || match o.blk with
      | some (_, off, bsize) => decide (off + (o.cap.getD o.len) > bsize)
      | none => (o.cap.getD o.len) != 0) = false := by
  obtain ⟨i, h, hi, rfl⟩ := mem_obsOfModel.mp ho
  rw [obs_wild, extent_eq]
  by_cases he : extent h = 0
  · simp only [he, bne_self_eq_false, Bool.false_and, Bool.false_or]
    cases hb : (obsOfHandle s i h).blk with
    | none => simp
    | some b =>
      obtain ⟨r, o, z⟩ := b
      obtain ⟨_, _, rg, _, _, h5, h6⟩ := locate_eq_some (locate_of_blk hb)
      simp; omega
  · obtain ⟨r, z, h1, h2, h3⟩ := located_of_inv hI hi he
    have hb : (obsOfHandle s i h).blk = some (r, hoff h, z) := by
      rw [obs_blk, if_neg (fun hh => he hh.2), h2]
    rw [hb]
    simp; omega

/-- on every well-formed model state each handle's range lies inside
one live block and the ranges of mutable handles are exclusive. -/
theorem boundsOracle_sound (s : St) (hw : WFx s) : boundsOracle (obsOfModel s) = none := by
  have hI := hw.inv
  unfold boundsOracle
  simp only []
  rw [List.find?_eq_none.mpr, List.findSome?_eq_none_iff.mpr]
  · intro m hm
    rw [List.findSome?_eq_none_iff]
    intro o ho
    obtain ⟨hm, hmk⟩ := List.mem_filter.mp hm
    obtain ⟨i, a, hi, rfl⟩ := mem_obsOfModel.mp hm
    obtain ⟨j, b, hj, rfl⟩ := mem_obsOfModel.mp ho
    simp only [obsOfHandle_id]
    split
    · rfl
    · next hne =>
      split
      · next sm om zm so oo zo hbm hbo =>
        have hmut : isMutable a = true := by
          cases a with
          | bytes repr reg off len => cases hmk
          | _ => rfl
        -- exclusivity of the mutable handle `a` against `b`, on the spans the observations show
        have hd := disjointB_iff.mp (hI.excl i j a b hi hj (fun h => hne (by rw [h]; exact beq_self_eq_true j)) hmut)
          _ _ _ _ _ _ (span_of_blk hbm) (span_of_blk hbo)
        rw [show ((obsOfHandle s i a).kind == Kind.bytes) = false by simpa using hmk] at hd
        rw [if_neg]
        simp only [rangesDisjoint, Bool.and_eq_true, beq_iff_eq, Bool.not_eq_true', Bool.or_eq_false_iff,
          decide_eq_false_iff_not, beq_eq_false_iff_ne, ne_eq]
        rintro ⟨hs, ⟨⟨h1, h2⟩, h3⟩, h4⟩
        simp only [Bool.false_eq_true, if_false, beq_iff_eq] at hd
        omega
      · rfl
  · exact fun o ho => Bool.eq_false_iff.mp (bounds_ok_elem hI ho)

/-- on every well-formed model state no handle reports a length above
its capacity (`Bytes` reports no capacity; for `BytesMut` / `Vec` this is the handle invariant
`len ≤ cap` that `boundsOracle_sound` also rests on). -/
theorem lenCapOracle_sound {s : St} (h : WFx s) : lenCapOracle (obsOfModel s) = none := by
  unfold lenCapOracle
  rw [List.find?_eq_none.mpr]
  intro o ho
  obtain ⟨i, x, hi, rfl⟩ := mem_obsOfModel.mp ho
  rw [obs_cap, obs_len]
  cases hc : hcapO x with
  | none => simp
  | some c => have := hlen_le_hcap h.inv hi hc; simp; omega

/-- the handles `frameOracle` exempts -/
def involvedOf : Op → List Nat
  | .clone _ | .slice .. | .isUnique _ | .fromStatic _ | .copyFromSlice _ | .newVec .. | .fromOwner ..
  | .mutWithCapacity _ | .mutFromSlice _ | .mutZeroed _ => []
  | .unsplit i j => [i, j]
  | .fromVec i | .splitOff i _ | .splitTo i _ | .split i | .truncate i _ | .clear i | .advance i _
  | .tryIntoMut i | .intoMut i | .intoVec i | .freeze i | .reserve i _ | .tryReclaim i _ | .extend i _
  | .resize i _ _ | .setByte i _ _ | .fillSpare i _ | .drop i => [i]

theorem touched_sub_involved (op : Op) (k : Nat) (h : k ∉ involvedOf op) : k ∉ touched op := by
  cases op with
  | reserve _ _ | tryReclaim _ _ | fillSpare _ _ => exact List.not_mem_nil
  | _ => exact h

theorem frameOracle_eq (op : Op) (pre post : List Obs) :
    frameOracle op pre post =
      match pre.find? fun o => !(involvedOf op).contains o.id &&
        (match findObs post o.id with | some p => p.contents != o.contents || p.len != o.len | none => true) with
      | some o => some ("C01", s!"handle {o.id} changed although the operation was on another handle")
      | none => none := rfl

theorem obs_frame {s s' : St} (hI : Inv s) (hI' : Inv s') {k : Nat} {b : Handle}
    (hk : s.hs[k]? = some (some b))
    (h : ∀ x, Spec.get (abs s) k = some x → Spec.get (abs s') k = some x) :
    ∃ p, findObs (obsOfModel s') k = some p ∧ p.contents = (obsOfHandle s k b).contents ∧
      p.len = (obsOfHandle s k b).len := by
  obtain ⟨v, hv, hvl⟩ := hI.view hk
  have hx : Spec.get (abs s) k = some ⟨kindOf b, v⟩ := by rw [abs_eq]; exact Spec_get_absL hk hv
  have hx' := h _ hx
  rw [abs_eq] at hx'
  obtain ⟨b', hk', _⟩ := OpsD.Spec_get_absL_inv hx'
  obtain ⟨v', hv', hvl'⟩ := hI'.view hk'
  rw [Spec_get_absL hk' hv'] at hx'
  simp only [Option.some.injEq, SH.mk.injEq] at hx'
  obtain ⟨_, rfl⟩ := hx'
  refine ⟨_, findObs_live hk', ?_, ?_⟩
  · rw [obs_contents, obs_contents, hv, hv']
  · rw [obs_len, obs_len, ← hvl, ← hvl']

/-- the handles an operation does not involve show the same contents
and length afterwards, whether the call returns or panics. -/
theorem frameOracle_sound (cfg : Cfg) (e : Env) (op : Op) (s : St) (hw : WFx s) (ho : OpOK op) :
    match Core.step cfg e op s with
    | .ok _ s' => frameOracle op (obsOfModel s) (obsOfModel s') = none
    | .panic s' => frameOracle op (obsOfModel s) (obsOfModel s') = none
    | .ub _ _ => False := by
  have hI := hw.inv
  have key : ∀ s', WFx s' →
      (∀ k, k ∉ touched op → ∀ x, Spec.get (abs s) k = some x → Spec.get (abs s') k = some x) →
      frameOracle op (obsOfModel s) (obsOfModel s') = none := by
    intro s' hw' hfr
    rw [frameOracle_eq, List.find?_eq_none.mpr]
    intro o hoo
    obtain ⟨k, b, hk, rfl⟩ := mem_obsOfModel.mp hoo
    rw [obsOfHandle_id]
    by_cases hin : k ∈ involvedOf op
    · simp [hin]
    · obtain ⟨p, hp, hc, hl⟩ := obs_frame hI hw'.inv hk (hfr k (touched_sub_involved op k hin))
      simp [hp, hc, hl]
  rcases R.sat_cases (step_sound cfg e op s hw ho) with ⟨v, s', hst, hw', habs⟩ | ⟨s', hst, hw', habs⟩ <;> rw [hst]
  · exact key s' hw' fun k hk x hx => by rw [habs]; exact PropC01.frame_ok op v (abs s) k hk x hx
  · exact key s' hw' fun k hk x hx => by rw [habs]; exact PropC01.frame_panic op (abs s) k hk x hx

theorem zc_pack {pre post : List Obs} {a1 : Bool} {src res d : Nat} {ce : Bool}
    (h : zc pre post a1 false src res d ce = none) : zc pre post a1 true src res d ce = none := by
  unfold zc at h ⊢
  split
  · next a b ha hb =>
    rw [ha, hb] at h
    cases a1 with
    | true => simp at h
    | false =>
      simp only [Bool.false_eq_true, if_false, Bool.not_true, Bool.and_false, Bool.false_and, Bool.or_false] at h ⊢
      split
      · next hg =>
        -- the guard without the empty-result clause implies the guard with it
        rw [if_pos (by simp only [Bool.and_eq_true, Bool.or_eq_true] at hg ⊢; exact ⟨.inl hg.1, hg.2⟩)] at h
        exact h
      · rfl
  · rfl

theorem opOracle_pack_weaker (op : Op) (out : Outc) (pre post : List Obs) (evs : List Evt)
    (h : opOracle op out pre post evs false = none) : opOracle op out pre post evs true = none := by
  -- `pack` is only read by `zeroCopy` when it is asked to check empty results: the other branches
  -- do not change
  cases out with
  | panic => exact h
  | ok v =>
    cases op with
    | splitOff i k =>
      cases v with
      | handle j =>
        rw [opOracle_splitOff] at h ⊢
        rw [zc_pack (orElse_eq_none.mp h).1]; exact zc_pack (orElse_eq_none.mp h).2
      | _ => rfl
    | splitTo i k =>
      cases v with
      | handle j =>
        rw [opOracle_splitTo] at h ⊢
        rw [zc_pack (orElse_eq_none.mp h).1]; exact zc_pack (orElse_eq_none.mp h).2
      | _ => rfl
    | tryIntoMut i =>
      cases v with
      | handle j =>
        rw [opOracle_tryIntoMut, Option.map_eq_none_iff] at h ⊢
        exact zc_pack h
      | _ => rfl
    | intoMut i =>
      cases v with
      | handle j =>
        rw [opOracle_intoMut] at h ⊢
        split
        · next hk =>
          rw [if_pos hk, Option.map_eq_none_iff] at h
          rw [Option.map_eq_none_iff]
          exact zc_pack h
        · rfl
      | _ => rfl
    | _ => cases v <;> exact h

theorem stateOracles_step_sound (cfg : Cfg) (e : Env) (op : Op) (s : St) (hw : WFx s) (ho : OpOK op) :
    match Core.step cfg e op s with
    | .ok _ s' => boundsOracle (obsOfModel s') = none ∧ uniqOracle s' (obsOfModel s') = none
    | .panic s' => boundsOracle (obsOfModel s') = none ∧ uniqOracle s' (obsOfModel s') = none
    | .ub _ _ => False := by
  rcases R.sat_cases (step_sound cfg e op s hw ho) with ⟨v, s', hst, hw', _⟩ | ⟨s', hst, hw', _⟩ <;> rw [hst] <;>
    exact ⟨boundsOracle_sound s' hw', uniqOracle_sound s' hw'⟩

theorem lenCapOracle_step_sound (cfg : Cfg) (e : Env) (op : Op) (s : St) (hw : WFx s) (ho : OpOK op) :
    match Core.step cfg e op s with
    | .ok _ s' => lenCapOracle (obsOfModel s') = none
    | .panic s' => lenCapOracle (obsOfModel s') = none
    | .ub _ _ => False := by
  rcases R.sat_cases (step_sound cfg e op s hw ho) with ⟨v, s', hst, hw', _⟩ | ⟨s', hst, hw', _⟩ <;> rw [hst] <;>
    exact lenCapOracle_sound hw'

/-- the state check of `judgeBlock`, `(boundsOracle obs).orElse fun _ => lenCapOracle obs`, is silent
on every well-formed model state -/
theorem boundsLenCap_sound {s : St} (h : WFx s) :
    ((boundsOracle (obsOfModel s)).orElse fun _ => lenCapOracle (obsOfModel s)) = none := by
  rw [boundsOracle_sound s h, lenCapOracle_sound h]; rfl

theorem not_wild (s : St) (hw : WFx s) : ∀ o ∈ obsOfModel s, o.wild = false := by
  intro o ho
  have := bounds_ok_elem hw.inv ho
  simp only [Bool.or_eq_false_iff] at this
  exact this.1

/-! ## why `Typed` is needed

The model turns a call the harness can never issue (operand slot empty, or holding a handle of a type
that does not have the method) into a `panic` without effect.  The oracles, written for real traces,
do not expect such calls: -/

namespace Witness

def cfgD : Cfg := ⟨true, true⟩
def envE : Env := ⟨fun _ => false⟩

/-- the state after `Vec::new()` -/
def oneVec : St := { hs := [some (.vec none 0 0)] }

theorem oneVec_reachable : Core.step cfgD envE (.newVec [] 0) {} = .ok (.handle 0) oneVec := rfl

theorem oneVec_wfx : WFx oneVec := by
  have h := step_sound cfgD envE (.newVec [] 0) {} WFx_init trivial
  unfold StepOKx at h
  rw [oneVec_reachable] at h
  exact h.1

/-- `is_unique` "on a `Vec`": `mustPanic` says "must not panic", the model rejects the call -/
example : mustPanic (.isUnique 0) (obsOfModel oneVec) = some false := rfl
example : Core.step cfgD envE (.isUnique 0) oneVec = .panic oneVec := rfl
example : ¬ Typed (.isUnique 0) oneVec := by decide

/-- `slice(0..0)` "on a `Vec`": in range as far as `mustPanic` can see, rejected by the model -/
example : mustPanic (.slice 0 0 0) (obsOfModel oneVec) = some false := by decide
example : Core.step cfgD envE (.slice 0 0 0) oneVec = .panic oneVec := rfl

/-- `unsplit` with operands that do not exist: the panic branch of `opOracle` counts the moved
operand although nothing was moved -/
example : (opOracle (.unsplit 0 1) .panic (obsOfModel {}) (obsOfModel {}) (evsOfModel {} {}) false).isSome = true := by
  decide
example : Core.step cfgD envE (.unsplit 0 1) {} = .panic {} := rfl

end Witness

/-- in the model `try_into_mut` succeeds exactly when `is_unique`, asked
on the same handle in the state before the call, answers true. -/
theorem tryMutOracle_sound (cfg : Cfg) (e : Env) (op : Op) (s : St) :
    match Core.step cfg e op s with
    | .ok v _ => tryMutOracle op (.ok v) (obsOfModel s) = none
    | .panic _ => tryMutOracle op .panic (obsOfModel s) = none
    | .ub _ _ => True := by
  cases op with
  | tryIntoMut i =>
    cases hst : Core.step cfg e (.tryIntoMut i) s with
    | ub w s' => trivial
    | panic s' => rfl
    | ok v s' =>
      show tryMutOracle _ (.ok v) (obsOfModel s) = none
      obtain ⟨h, s0, hg, hst⟩ := ok_of_bind hst
      obtain ⟨u, s1, hu, hst⟩ := ok_of_bind hst
      rcases getHandle_cases s i with ⟨h', hi, hg'⟩ | ⟨_, hg'⟩ <;> rw [hg'] at hg <;> cases hg
      -- the observation of slot `i` shows what `is_unique` has just answered
      have hobs : (findObs (obsOfModel s) i).bind (·.uniq) = some u := by
        rw [findObs_live hi]
        cases h with
        | bytes repr reg off len => simp only [Option.bind_some, obsOfHandle, hu]
        | _ => cases hu
      cases u with
      | true =>
        obtain ⟨m, s2, _, hst⟩ := ok_of_bind hst
        cases hst
        simp only [tryMutOracle, hobs]
      | false =>
        cases hst
        simp only [tryMutOracle, hobs]
  | _ => split <;> first | rfl | trivial

/-- the oracle is not vacuous: it fires on a success after `is_unique = false` and on a refusal after
`is_unique = true` -/
example : (tryMutOracle (.tryIntoMut 0) (.ok (.handle 0))
    [{ id := 0, kind := .bytes, blk := none, wild := false, len := 0, cap := none, uniq := some false, contents := "" }]).isSome = true := by decide
example : (tryMutOracle (.tryIntoMut 0) (.ok (.err 0))
    [{ id := 0, kind := .bytes, blk := none, wild := false, len := 0, cap := none, uniq := some true, contents := "" }]).isSome = true := by decide

/-! ## why `locate` checks `off ≤ size`

`WFx` does not constrain the stale pointer of an *empty* STATIC handle.  The state below is `WFx`
(though not reachable); its only handle is empty and points 5 bytes into a 1-byte block.  The harness
would not find a block for that address (`find_block` fails, the handle is empty: "none"), and this
is what `obsOfModel` reports.  Had `obsOfModel` copied the convention of the judge's model-side rows
(`modelObs`: "an empty handle has an address while its block is alive"), the observation would be
`blk = some (0, 5, 1)` and `boundsOracle`'s first check `off + 0 > bsize` would fire. -/

namespace Witness

def pastEnd : St :=
  { regions := [⟨1, [some 7], true, .static⟩], hs := [some (.bytes .static (some 0) 5 0)] }

example : wfB pastEnd = true := by decide
example : (obsOfModel pastEnd).map (·.blk) = [none] := by decide
example : ((modelObs pastEnd).map fun o => (o.reg, o.off)) = [(some 0, 5)] := by decide

end Witness

end BytesVerif.Judge.SeqJ
