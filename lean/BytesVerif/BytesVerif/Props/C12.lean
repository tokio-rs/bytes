/-
C12 (read side) — Take, Chain and Reader bound and order exactly as documented, and after any
use the inner buffers are advanced by exactly the number of bytes that went through.
The inner buffers `i`, `a`, `b` are arbitrary trees, so the statements hold for arbitrarily
nested adapters.  (Write side — Limit, Chain as BufMut, Writer — is in Props/C11.lean.)
-/
import BytesVerif.Props.C09
namespace BytesVerif.Buf

/-- `take(n)` exposes exactly the first `min(n, remaining)` bytes of its inner buffer. -/
theorem take_den (i : BufT) (n : Nat) (h : wf i) :
    den (.take i n) = (den i).take (min n (remaining i)) := by
  rw [remaining_eq i h]; exact List.take_eq_take_min

/-- `chain(a, b)` reads all of `a` and then `b`. -/
theorem chain_den (a b : BufT) : den (.chain a b) = den a ++ den b := rfl

/-- Consuming `n` bytes through `Take` (by any consuming operation) leaves a `Take` whose limit
dropped by `n` and whose inner buffer advanced by exactly `n`. -/
theorem take_advance_inner (i : BufT) (lim n : Nat) (h : wf (.take i lim)) (hn : n ≤ remaining (.take i lim)) :
    ∃ i', advance (.take i lim) n = .ok (.take i' (lim - n)) ∧ den i' = (den i).drop n ∧ wf i' := by
  simp only [remaining] at hn
  obtain ⟨i', hi', hd, hw⟩ := advance_ok i n h.1 (by omega)
  exact ⟨i', by simp only [advance, if_pos (show n ≤ lim by omega), hi', Res.map], hd, hw⟩

theorem take_copyToSlice_inner (i : BufT) (lim n : Nat) (h : wf (.take i lim)) (hn : n ≤ remaining (.take i lim)) :
    ∃ i', copyToSlice (.take i lim) n = .ok ((den i).take n, .take i' (lim - n)) ∧ den i' = (den i).drop n ∧ wf i' := by
  obtain ⟨x, hx, hadv⟩ := copyToSliceDefault_adv _ n h hn
  obtain ⟨i', e, hadv'⟩ := hadv.take_shape i lim rfl
  subst e
  simp only [remaining] at hn
  refine ⟨i', hx.trans ?_, hadv'.spec h.1⟩
  simp only [den, List.take_take, Nat.min_eq_left (show n ≤ lim by omega)]

theorem take_copyToBytes_inner (i : BufT) (lim n : Nat) (h : wf (.take i lim)) (hn : n ≤ remaining (.take i lim)) :
    ∃ i', copyToBytes (.take i lim) n = .ok ((den i).take n, .take i' (lim - n)) ∧ den i' = (den i).drop n ∧ wf i' :=
  copyToBytes_take_aux i lim n (fun n hn => copyToBytes_ok i n h.1 hn) hn

/-- Consuming `n` bytes through `Chain` advances `a` by `min n |a|` and `b` by the rest. -/
theorem chain_advance_inner (a b : BufT) (n : Nat) (h : wf (.chain a b)) (hn : n ≤ remaining (.chain a b)) :
    ∃ a' b', advance (.chain a b) n = .ok (.chain a' b') ∧
      den a' = (den a).drop n ∧ den b' = (den b).drop (n - (den a).length) ∧ wf a' ∧ wf b' :=
  advance_chain_aux a b n h.1 h.2.1 (fun n hn => advance_ok a n h.1 hn)
    (fun n hn => advance_ok b n h.2.1 hn) (remaining_chain h ▸ hn)

theorem chain_copyToSlice_inner (a b : BufT) (n : Nat) (h : wf (.chain a b)) (hn : n ≤ remaining (.chain a b)) :
    ∃ a' b', copyToSlice (.chain a b) n = .ok ((den a ++ den b).take n, .chain a' b') ∧
      den a' = (den a).drop n ∧ den b' = (den b).drop (n - (den a).length) ∧ wf a' ∧ wf b' := by
  obtain ⟨x, hx, hadv⟩ := copyToSliceDefault_adv _ n h hn
  obtain ⟨a', b', rfl, rest⟩ := hadv.chain_shape a b rfl h
  exact ⟨a', b', hx, rest⟩

theorem chain_copyToBytes_inner (a b : BufT) (n : Nat) (h : wf (.chain a b)) (hn : n ≤ remaining (.chain a b)) :
    ∃ a' b', copyToBytes (.chain a b) n = .ok ((den a ++ den b).take n, .chain a' b') ∧
      den a' = (den a).drop n ∧ den b' = (den b).drop (n - (den a).length) ∧ wf a' ∧ wf b' :=
  copyToBytes_chain_aux a b n h (fun n hn => copyToBytes_ok a n h.1 hn)
    (fun n hn => copyToBytes_ok b n h.2.1 hn) hn

/-- `Reader::read(dst)` transfers `min(available, requested)` bytes and never fails. -/
theorem readerRead_spec (b : BufT) (n : Nat) (h : wf b) :
    ∃ b', readerRead b n = .ok ((den b).take (min (remaining b) n), b') ∧
      den b' = (den b).drop (min (remaining b) n) ∧ wf b' :=
  copyToSlice_ok b (min (remaining b) n) h (Nat.min_le_left _ _)

/-- `BufRead::fill_buf` shows a non-empty prefix while bytes remain; `consume` is `advance`. -/
theorem readerFillBuf_spec (b : BufT) (h : wf b) :
    readerFillBuf b <+: den b ∧ (readerFillBuf b = [] ↔ den b = []) := by
  refine ⟨chunk_prefix b h, ?_⟩
  simp only [readerFillBuf]
  rw [chunk_nil_iff b h, remaining_eq b h]
  exact List.length_eq_zero_iff

end BytesVerif.Buf
