/-
C06 — all uses of a buffer happen-before its deallocation or exclusive reuse; C05 — handles can be
cloned, read, converted and dropped concurrently.  Theorems over M5 (Model/Conc.lean): any number of
threads, handles and steps, every interleaving, every stale-read / missing-synchronisation outcome
the release/acquire view semantics allows, for every assignment of orderings that satisfies the
decidable lower bound `Sufficient`.  The invariant behind them is that of M5p, of which M5 is
the part after the root handle has been re-labelled (Lemmas/ConcPromo.lean).
-/
import BytesVerif.Lemmas.ConcPromo
namespace BytesVerif.Conc

/-- total number of handles held by the first `n` threads -/
def totalHandles (s : St) (n : Nat) : Nat := ((List.range n).map fun t => (s.th t).handles).sum

/-- statements count handles with the plain list sum, the proofs with `sumTo` -/
theorem totalHandles_eq (s : St) (n : Nat) : totalHandles s n = Promo.total s.emb n :=
  sum_range_eq _ n

/-- C06: no data race on buffer memory (reads vs. exclusive writes vs. the deallocation), no access
after the deallocation, no double free — in every reachable state. -/
theorem ra_safe (o : Ords) (hs : Sufficient o = true) (n : Nat) (s : St) (hr : Reach o n s) :
    s.race = false ∧ s.uaf = false ∧ s.doubleFree = false := by
  rcases Nat.eq_zero_or_pos n with rfl | hn
  · rw [reach_zero hr]; exact ⟨rfl, rfl, rfl⟩
  · have h := (reach_inv hs hn hr).safe
    exact ⟨h.1, h.2.2⟩

/-- C05: the buffer is only deallocated when no handle is left anywhere. -/
theorem freed_no_handles (o : Ords) (hs : Sufficient o = true) (n : Nat) (s : St) (hr : Reach o n s)
    (hf : s.freed = true) : totalHandles s n = 0 := by
  rcases Nat.eq_zero_or_pos n with rfl | hn
  · rfl
  · have h := reach_inv hs hn hr
    rw [totalHandles_eq]
    exact (h.freed_cases hf).2.elim (fun hc => (h.ctrlFreed_dead hc).2) nofun

/-- C05 / C08 under concurrency: a holder whose `uniqueLoad` load returns 1 really is the unique owner: no other
thread holds a handle or is in the middle of copying through one. -/
theorem unique_is_sole (o : Ords) (hs : Sufficient o = true) (n : Nat) (s : St) (hr : Reach o n s)
    (t k : Nat) (s' : St) (ht : t < n) (hh : 0 < (s.th t).handles) (hp : (s.th t).pc = .idle)
    (hl : load s t o.uniqueLoad k = some (s', 1)) :
    ∀ u, u < n → u ≠ t → (s.th u).handles = 0 ∧ (s.th u).pc ≠ .failedToVec := by
  have h := reach_inv hs (Nat.lt_of_le_of_lt (Nat.zero_le t) ht) hr
  obtain ⟨m, hk, hm, hvm, _⟩ := load_spec hl
  obtain rfl := h.read_one ht hh hk hm hvm.symm
  have h1 : (Promo.latest s.emb).val = 1 := hvm.symm
  intro u hu hne
  obtain ⟨h0, hpu, _⟩ := (h.sole ht hh h1).2.2 u hu hne
  exact ⟨h0, fun hf => by rw [show (s.emb.th u).pc = (s.th u).pc.emb from rfl, hf] at hpu; cases hpu⟩

/-- C05: the control block is freed, or dismantled by the zero-copy conversion to `Vec`, only when no handle is left. -/
theorem toVec_exclusive (o : Ords) (hs : Sufficient o = true) (n : Nat) (s : St) (hr : Reach o n s)
    (hc : s.ctrlFreed = true) : totalHandles s n = 0 := by
  rcases Nat.eq_zero_or_pos n with rfl | hn
  · rfl
  · rw [totalHandles_eq]
    exact ((reach_inv hs hn hr).ctrlFreed_dead hc).2

/-- The scenario of the tightness theorems: thread 0 clones and hands the clone to thread 1, which reads the buffer and
drops its handle (the counter goes 2 → 1).  What thread 0 does next races unless both sides synchronise. -/
def readerGone (o : Ords) : { s : St // Reach o 2 s } :=
  ⟨_, Reach.init
    |>.step (.clone init 0 (by decide) (by decide) (by decide))
    |>.step (.send _ 0 1 (by decide) (by decide) (by decide) (Nat.succ_pos _) rfl)
    |>.step (.read _ 1 (by decide) (Nat.succ_pos _) rfl)
    |>.step (.dropSub _ 1 (by decide) (Nat.succ_pos _) rfl)⟩

/-- thread 0 then drops the last handle (1 → 0), loads and frees -/
def lastDropped (o : Ords) : { s : St // Reach o 2 s } :=
  ⟨_, (readerGone o).2
    |>.step (.dropSub _ 0 (by decide) (Nat.succ_pos _) rfl)
    |>.step (.dropLoad' _ 0 3 (by decide) rfl rfl)
    |>.step (.dropFree _ 0 (by decide) rfl)⟩

/-- `dropSub ⊒ Release` is necessary: thread 1's relaxed decrement publishes nothing, so thread 1's read is not in the
clock of thread 0 when it frees -/
theorem relaxed_drop_races :
    ∃ s, Reach { cloneAdd := .relaxed, dropSub := .relaxed, dropLoad := .acquire, toVecCasOk := .acqRel,
                 toVecCasFail := .relaxed, uniqueLoad := .acquire } 2 s ∧ s.race = true :=
  ⟨_, (lastDropped _).2, by decide⟩

/-- `dropLoad ⊒ Acquire` is necessary -/
theorem relaxed_dropLoad_races :
    ∃ s, Reach { cloneAdd := .relaxed, dropSub := .release, dropLoad := .relaxed, toVecCasOk := .acqRel,
                 toVecCasFail := .relaxed, uniqueLoad := .acquire } 2 s ∧ s.race = true :=
  ⟨_, (lastDropped _).2, by decide⟩

/-- `toVecCasOk ⊒ Acquire` is necessary -/
theorem relaxed_toVecCas_races :
    ∃ s, Reach { cloneAdd := .relaxed, dropSub := .release, dropLoad := .acquire, toVecCasOk := .release,
                 toVecCasFail := .relaxed, uniqueLoad := .acquire } 2 s ∧ s.race = true :=
  ⟨_, (readerGone _).2.step (.toVecOk _ 0 (by decide) (by decide) (by decide) (by decide)), by decide⟩

/-- `uniqueLoad ⊒ Acquire` is necessary -/
theorem relaxed_uniqueLoad_races :
    ∃ s, Reach { cloneAdd := .relaxed, dropSub := .release, dropLoad := .acquire, toVecCasOk := .acqRel,
                 toVecCasFail := .relaxed, uniqueLoad := .relaxed } 2 s ∧ s.race = true :=
  ⟨_, (readerGone _).2.step (.uniqueOk' _ 0 2 (by decide) (by decide) (by decide) (by decide) (by decide)), by decide⟩

/-- the orderings found in the source -/
example : Sufficient { cloneAdd := .relaxed, dropSub := .release, dropLoad := .acquire, toVecCasOk := .acqRel,
                       toVecCasFail := .relaxed, uniqueLoad := .acquire } = true := by decide

end BytesVerif.Conc
