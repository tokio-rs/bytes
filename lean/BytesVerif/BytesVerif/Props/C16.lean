/-
C16 — results do not depend on the build profile (overflow checks, debug assertions) nor on the
address parity the allocator hands out.  (The feature-set dimension is covered by T1's cfg-site
inventory and T2's differential runs; see DESIGN.md.)
-/
import BytesVerif.Lemmas.Core.Sound
import BytesVerif.Lemmas.Core.PropC16
import BytesVerif.Props.C01
namespace BytesVerif.Core

/-- Build profile: under the invariant no unchecked `+`/`-` of the model ever leaves the `usize`
range and no `debug_assert!` ever fails, so the profile cannot be observed — the two runs are
*equal*, state and outcome. -/
theorem cfg_irrelevant (cfg₁ cfg₂ : Cfg) (e : Env) (op : Op) (ho : OpOK op) (s : St) (h : WFx s) :
    step cfg₁ e op s = step cfg₂ e op s :=
  P16.step_cfg cfg₁ cfg₂ e op s h.inv

/-- forget address parity: all heap regions even, all promotable handles on the EVEN vtable -/
def eraseRegion (rg : Region) : Region :=
  match rg.kind with
  | .heap _ => { rg with kind := .heap false }
  | _ => rg

def eraseHandle : Handle → Handle
  | .bytes (.prom _ c) reg off len => .bytes (.prom false c) reg off len
  | h => h

def erase (s : St) : St :=
  { s with regions := s.regions.map eraseRegion, hs := s.hs.map (Option.map eraseHandle) }

def eraseR {α : Type} : R α → R α
  | .ok a s => .ok a (erase s)
  | .panic s => .panic (erase s)
  | .ub w s => .ub w (erase s)

def evenEnv : Env := ⟨fun _ => false⟩

/-! The parity proofs live in Lemmas/Core/PropC16.lean, which states them for its own copies of the
definitions above (it cannot import this file); the copies unfold to the same terms, so its theorems
apply as they stand. -/

/-- Address parity: running with any allocator and then forgetting parity is the same as forgetting
parity first and running with the all-even allocator — same outcome, same state up to parity. -/
theorem parity_irrelevant (cfg : Cfg) (e : Env) (op : Op) (ho : OpOK op) (s : St) (h : WFx s) :
    eraseR (step cfg e op s) = step cfg evenEnv op (erase s) :=
  P16.step_simAt cfg e op s h.inv

theorem erase_WFx (s : St) (h : WFx s) : WFx (erase s) :=
  (P16.Inv_erase h.inv).wfx

/-- what a caller can observe (contents, lengths, kinds) does not see parity -/
theorem abs_erase (s : St) : abs (erase s) = abs s :=
  P16.abs_erase' s

theorem run_sim {cfg cfg' : Cfg} {e e' : Env} {f : St → St}
    (hstep : ∀ op s, OpOK op → WFx s →
      step cfg' e' op (f s) = match step cfg e op s with
        | .ok v s' => .ok v (f s')
        | .panic s' => .panic (f s')
        | .ub w s' => .ub w (f s'))
    (ops : List Op) (hops : ∀ op ∈ ops, OpOK op) (s : St) (h : WFx s) :
    (run cfg e ops s).map (fun r => (f r.1, r.2)) = run cfg' e' ops (f s) := by
  induction ops generalizing s with
  | nil => rfl
  | cons op ops ih =>
    have ho := hops op List.mem_cons_self
    have ih := ih fun o h' => hops o (List.mem_cons_of_mem _ h')
    have hs := step_sound cfg e op s h ho
    unfold StepOKx at hs
    rcases R.sat_cases hs with ⟨v, s', hst, hw, _⟩ | ⟨s', hst, hw, _⟩ <;>
      simp only [run, hstep op s ho h, hst, ← ih s' hw, Option.map_map] <;> rfl

/-- Any script, from any well-formed state: the run (final state and every outcome, incl. which calls
panic) is the same under both build profiles. -/
theorem cfg_irrelevant_run (cfg₁ cfg₂ : Cfg) (e : Env) (ops : List Op) (hops : ∀ op ∈ ops, OpOK op)
    (s : St) (h : WFx s) : run cfg₁ e ops s = run cfg₂ e ops s := by
  refine Eq.trans ?_ (run_sim (cfg := cfg₁) (e := e) (f := id) (fun op s ho h => ?_) ops hops s h)
  · cases run cfg₁ e ops s <;> rfl
  · rw [id, ← cfg_irrelevant cfg₁ cfg₂ e op ho s h]; cases step cfg₁ e op s <;> rfl

/-- Any script, from any well-formed state: running under any allocator parity and forgetting parity at
the end is the same as running the parity-erased state under the all-even allocator — same outcomes,
same final state up to parity. -/
theorem parity_irrelevant_run (cfg : Cfg) (e : Env) (ops : List Op) (hops : ∀ op ∈ ops, OpOK op)
    (s : St) (h : WFx s) :
    (run cfg e ops s).map (fun r => (erase r.1, r.2)) = run cfg evenEnv ops (erase s) :=
  run_sim (fun op s ho h => by
    rw [← parity_irrelevant cfg e op ho s h]; cases step cfg e op s <;> rfl) ops hops s h

/-- … so the outcomes and what every handle reads at the end are the same for every allocator parity. -/
theorem parity_observations (cfg : Cfg) (e₁ e₂ : Env) (ops : List Op) (hops : ∀ op ∈ ops, OpOK op)
    (s : St) (h : WFx s) :
    (run cfg e₁ ops s).map (fun r => (abs r.1, r.2)) = (run cfg e₂ ops s).map (fun r => (abs r.1, r.2)) := by
  have key : ∀ e, (run cfg e ops s).map (fun r => (abs r.1, r.2)) =
      (run cfg evenEnv ops (erase s)).map (fun r => (abs r.1, r.2)) := fun e => by
    simp only [← parity_irrelevant_run cfg e ops hops s h, Option.map_map, Function.comp_def, abs_erase]
  rw [key e₁, key e₂]

end BytesVerif.Core
