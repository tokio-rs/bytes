/-
C11 — every `BufMut` in the crate appends exactly the encoded bytes, within bounds; and the
write side of C12 (Limit, Chain as BufMut, Writer).  Property theorems only; helper lemmas are in
Lemmas/BufMut.lean.  Statements quantify over every target tree (any nesting), every `Env`
(growth decisions of `Vec::reserve` / `BytesMut::reserve`), every source and value.
-/
import BytesVerif.Lemmas.BufMut
namespace BytesVerif.BufMut
open BytesVerif.Buf BytesVerif.Codec BytesVerif.PutCodec

/-- `put_slice` appends exactly `src` at the write cursor, in order, and nothing else; the room
shrinks by exactly the number of bytes written.  (`ordM t`: the state respects write order, i.e.
in every `chain a b` the part `b` is untouched while `a` has room; without it `written` of a
chain is not in write order, see the counterexamples in Lemmas/BufMut.lean.) -/
theorem putSlice_ok (e : Env) (he : e.ok) (t : MutT) (src : Bs) (h : wfM t) (ho : ordM t)
    (hf : fits t src.length) (hl : noHardLimit t (src.length + 64)) (hw : src.length < W) :
    ∃ t', putSlice e t src = .ok t' ∧ written t' = written t ++ src ∧ wfM t' ∧
      roomOpt t' = (roomOpt t).map (· - src.length) := by
  obtain ⟨t', h1, h2, h3, h4, _⟩ := putSlice_ok_aux e he t src ⟨h, hf, hl⟩ hw
  exact ⟨t', h1, (h4 ho).1, h2, h3⟩

/-- A write that does not fit panics. -/
theorem putSlice_panic (e : Env) (t : MutT) (src : Bs) (h : wfM t) (hn : remainingMut t < src.length) :
    putSlice e t src = .panic := by
  -- `h` is only passed along: the statement holds without `wfM`
  induction t with
  | grow k pre w spare =>
    exact if_pos (Nat.lt_of_le_of_lt (le_remainingMut_grow k pre w spare) hn)
  | fixed k w room | chain a b _ _ | limit i n _ => exact if_pos hn
  | refMut i ih | box i ih => simp only [putSlice, ih h hn]; rfl

/-- For fixed-size targets `remaining_mut()` is exactly the room (`hl`: a growable target under a
`limit` is not within `r` bytes of its hard limit; otherwise `remaining_mut()` is smaller). -/
theorem remainingMut_fixed (t : MutT) (h : wfM t) (r : Nat) (hr : roomOpt t = some r) (hW : r < W)
    (hl : noHardLimit t r) : remainingMut t = r := by
  have := remainingMut_le_room hr
  have := min_room_le_remainingMut hW h hl hr
  omega

/-- `chunk_mut()` is empty only when `remaining_mut()` is 0, never longer than it, and writes
nothing. -/
theorem chunkMut_spec (e : Env) (he : e.ok) (t : MutT) (h : wfM t) (hl : noHardLimit t 64) :
    ((chunkMut e t).1 = 0 ↔ remainingMut t = 0) ∧ (chunkMut e t).1 ≤ remainingMut t ∧
      written (chunkMut e t).2 = written t ∧ roomOpt (chunkMut e t).2 = roomOpt t ∧ wfM (chunkMut e t).2 := by
  have hlen := chunkMut_len e he t h hl
  have hk := chunkMut_keeps e t
  exact ⟨hlen.1, hlen.2, hk.2.1, hk.2.2.1, wfM_chunkMut e he t h hl⟩

/-- `put_bytes(val, cnt)` appends `cnt` copies of `val`. -/
theorem putBytes_ok (e : Env) (he : e.ok) (t : MutT) (val cnt : Nat) (h : wfM t) (ho : ordM t)
    (hf : fits t cnt) (hl : noHardLimit t (cnt + 64)) (hw : cnt < W) :
    ∃ t', putBytes e t val cnt = .ok t' ∧ written t' = written t ++ List.replicate cnt val ∧ wfM t' := by
  have hlen : (List.replicate cnt val).length = cnt := List.length_replicate
  obtain ⟨t', h1, h2, h3, _⟩ := putSlice_ok e he t (List.replicate cnt val) h ho
    (hlen.symm ▸ hf) (hlen.symm ▸ hl) (hlen.symm ▸ hw)
  exact ⟨t', h1, h2, h3⟩

/-- `put(src: impl Buf)` appends exactly the source's byte sequence and drains the source. -/
theorem putBuf_ok (e : Env) (he : e.ok) (t : MutT) (src : BufT) (h : wfM t) (ho : ordM t) (hs : wf src)
    (hf : fits t (remaining src)) (hl : noHardLimit t (remaining src + 64)) :
    ∃ t' src', putBuf e t src = .ok (t', src') ∧ written t' = written t ++ den src ∧ den src' = [] ∧ wfM t' := by
  rcases putBuf_run e he t src hs ⟨h, hf, hl⟩ with
    ⟨k, p, w, sp, t', src', rfl, h1, -, h2, h3, h4⟩ | ⟨t', src', h1, hwr, h3⟩
  · exact ⟨t', src', h1, h4, h3, h2⟩
  · exact ⟨t', src', h1, ((hwr.spec he).2.2.2 ho).1, h3, (hwr.spec he).1 h⟩

theorem putBuf_panic (e : Env) (t : MutT) (src : BufT) (hn : remainingMut t < remaining src) :
    putBuf e t src = .panic := by
  cases t <;> simp only [putBuf, hn, ↓reduceIte]

/-- `encode` produces `size` bytes, each `< 256`. -/
theorem encode_length (s : Spec) (v : Int) (nbytes : Nat) : (encode s v nbytes).length = s.size nbytes := by
  unfold encode
  cases s.endian <;> simp only [leBytes_length, beBytes_length]

theorem encode_bytes (s : Spec) (v : Int) (nbytes : Nat) : ∀ x ∈ encode s v nbytes, x < 256 := by
  unfold encode
  cases s.endian <;> simp only [beBytes, List.mem_reverse] <;> exact leBytes_lt _ _

/-- Every typed `put_X` whose row is accepted by the decision procedure appends exactly the
byte-order encoding of the value chosen from the method name. -/
theorem put_ok (e : Env) (he : e.ok) (r : PutRow) (hr : putRowOK r = true) (v : Int) (nbytes : Nat)
    (hn : nbytes ≤ 8) (t : MutT) (h : wfM t) (ho : ordM t)
    (hf : fits t (r.spec.size nbytes)) (hl : noHardLimit t (r.spec.size nbytes + 64)) :
    ∃ t', evalPut e r.body v nbytes t = .ok t' ∧ written t' = written t ++ encode r.spec v nbytes ∧ wfM t' := by
  have hb := bodyBytes_eq_encode r hr v nbytes fun _ => hn
  have hlen := encode_length r.spec v nbytes
  have h16 := size_le_16 r hr nbytes fun _ => hn
  obtain ⟨t', h1, h2, h3, _⟩ := putSlice_ok e he t (encode r.spec v nbytes) h ho
    (hlen.symm ▸ hf) (hlen.symm ▸ hl) (by rw [hlen, W_eq]; omega)
  exact ⟨t', by simp only [evalPut, hb, h1], h2, h3⟩

/-- `nbytes > 8` panics. -/
theorem put_too_wide (e : Env) (r : PutRow) (hr : putRowOK r = true) (v : Int) (nbytes : Nat)
    (hk : r.spec.kind = .varUint ∨ r.spec.kind = .varInt) (hn : 8 < nbytes) (t : MutT) :
    evalPut e r.body v nbytes t = .panic := by
  simp only [evalPut, bodyBytes_too_wide r hr v nbytes hk hn]

/-- Reading back with the matching `get_X` returns the value that was put: `decode ∘ encode = id`
on the value range of the method (including `nbytes` truncation for put_uint / put_int). -/
theorem decode_encode (s : Spec) (v : Int) (nbytes : Nat) (hn : nbytes ≤ 8)
    (hsz : match s.kind with | .int n _ => 0 < n | .float n => 0 < n | _ => True)
    (hv : inRange s v nbytes) :
    decode s (encode s v nbytes) = v := by
  have _ := hn; have _ := hsz  -- not needed: `inRange` alone suffices
  have hu := unsignedVal_encode s v nbytes
  have hl := encode_length s v nbytes
  obtain ⟨t, kind, e⟩ := s
  simp only at hu
  cases kind with
  | int n sg =>
    cases sg
    · simp only [decode, hu, Bool.false_eq_true, ↓reduceIte]
      exact toUnsigned_of_range _ v hv
    · simp only [decode, hu, ↓reduceIte]
      exact toSigned_toUnsigned _ v hv
  | float n => simp only [decode, hu]; exact toUnsigned_of_range _ v hv
  | varUint => simp only [decode, hu]; exact toUnsigned_of_range _ v hv
  | varInt =>
    simp only [decode, hu, hl]
    exact toSigned_toUnsigned _ v hv

/-! ### C12, write side -/

/-- `limit(n)` accepts at most `n` bytes. -/
theorem limit_room (i : MutT) (n : Nat) : remainingMut (.limit i n) = min (remainingMut i) n := rfl

/-- After writing `src` through `Limit`, the limit dropped by exactly `src.length` and the inner
target received exactly `src`. -/
theorem limit_putSlice_inner (e : Env) (he : e.ok) (i : MutT) (lim : Nat) (src : Bs) (h : wfM (.limit i lim))
    (ho : ordM i)
    (hf : fits (.limit i lim) src.length) (hl : noHardLimit i (src.length + 64)) (hw : src.length < W) :
    ∃ i', putSlice e (.limit i lim) src = .ok (.limit i' (lim - src.length)) ∧
      written i' = written i ++ src ∧ wfM i' := by
  have hi : Inv (.limit i lim) src.length := ⟨h, hf, hl⟩
  obtain ⟨t', h1, hwr⟩ := putLoop_wr e he (src.length + 1) _ src (Nat.le_succ _) hi hw
  obtain ⟨i', rfl⟩ := hwr.limit_shape i lim rfl
  refine ⟨i', ?_, ((hwr.spec he).2.2.2 ho).1, ((hwr.spec he).1 h).1⟩
  rw [putSlice_limit, putSliceDefault, if_neg (Nat.not_lt.mpr (hi.rem_ge hw)), h1]

/-- `chain(a, b)` as a `BufMut` fills all of `a` and then `b`. -/
theorem chain_putSlice_inner (e : Env) (he : e.ok) (a b : MutT) (ra : Nat) (src : Bs) (h : wfM (.chain a b))
    (hoa : ordM a) (hob : ordM b)
    (hra : roomOpt a = some ra) (hf : fits (.chain a b) src.length)
    (hl : noHardLimit (.chain a b) (src.length + 64)) (hw : src.length < W) :
    ∃ a' b', putSlice e (.chain a b) src = .ok (.chain a' b') ∧
      written a' = written a ++ src.take ra ∧ written b' = written b ++ src.drop ra ∧ wfM a' ∧ wfM b' := by
  have hi : Inv (.chain a b) src.length := ⟨h, hf, hl⟩
  obtain ⟨t', h1, hwr⟩ := putLoop_wr e he (src.length + 1) _ src (Nat.le_succ _) hi hw
  obtain ⟨a', b', rfl, ha', -⟩ := hwr.chain_shape he a b rfl hoa
  obtain ⟨_, _, e2, hb'⟩ := hwr.chain_right he a b ra rfl hra hob
  cases e2
  refine ⟨a', b', ?_, ha' ra hra, hb', (hwr.spec he).1 h⟩
  rw [putSlice_chain, putSliceDefault, if_neg (Nat.not_lt.mpr (hi.rem_ge hw)), h1]

/-- `Writer::write` transfers `min(remaining_mut, requested)` bytes and never fails. -/
theorem writerWrite_spec (e : Env) (he : e.ok) (t : MutT) (src : Bs) (h : wfM t) (ho : ordM t)
    (hl : noHardLimit t (src.length + 64)) (hw : src.length < W) (hr : ∀ r, roomOpt t = some r → r < W) :
    ∃ t', writerWrite e t src = .ok (min (remainingMut t) src.length, t') ∧
      written t' = written t ++ src.take (min (remainingMut t) src.length) ∧ wfM t' := by
  have _ := hr  -- not needed
  simp only [writerWrite]
  have hnl : min (remainingMut t) src.length ≤ src.length := Nat.min_le_right _ _
  have hnr : min (remainingMut t) src.length ≤ remainingMut t := Nat.min_le_left _ _
  generalize min (remainingMut t) src.length = n at hnl hnr ⊢
  have hlen : (src.take n).length = n := by rw [List.length_take]; omega
  obtain ⟨t', h1, h2, h3, _⟩ := putSlice_ok e he t (src.take n) h ho
    (hlen.symm ▸ fits_of_le hnr) (hlen.symm ▸ noHardLimit_mono (by omega) hl) (by rw [hlen]; omega)
  exact ⟨t', by rw [h1]; rfl, h2, h3⟩

-- Non-vacuity: a nested target with a write straddling the chain boundary and a limit.
def sampleTarget : MutT := .limit (.chain (.fixed .slice [] 2) (.box (.grow .vec [9] [] 0))) 5
example : wfM sampleTarget := by simp [sampleTarget, wfM, growLen, isizeMax, W_eq]
example : (putSlice defaultEnv sampleTarget [1, 2, 3]).map written = .ok [1, 2, 3] := by decide
example : putSlice defaultEnv sampleTarget [1, 2, 3, 4, 5, 6] = .panic := by decide
example : encode ⟨false, .int 2 true, .le⟩ (-2) 0 = [254, 255] := by decide
example : decode ⟨false, .varInt, .be⟩ (encode ⟨false, .varInt, .be⟩ (-129) 2) = -129 := by decide

end BytesVerif.BufMut
