/-
C01 — every handle always reads exactly the bytes its API history says it holds; C02 (model level) —
no sequence of safe calls reaches undefined behaviour; both for every script, every environment
(allocator parity), every build configuration, every argument value.  Corollaries of
`step_sound` (Lemmas/Core/Sound.lean) by induction over the script.
-/
import BytesVerif.Lemmas.Core.Sound
import BytesVerif.Lemmas.Core.PropC01
namespace BytesVerif.Core

/-- what the caller sees of one call -/
inductive Outcome
  | ok (v : Val)
  | panic
  deriving Repr, DecidableEq, Inhabited

/-- Run a script on the model; `none` = undefined behaviour was reached. -/
def run (cfg : Cfg) (e : Env) : List Op → St → Option (St × List Outcome)
  | [], s => some (s, [])
  | op :: ops, s =>
    match step cfg e op s with
    | .ok v s' => (run cfg e ops s').map fun (sf, outs) => (sf, .ok v :: outs)
    | .panic s' => (run cfg e ops s').map fun (sf, outs) => (sf, .panic :: outs)
    | .ub _ _ => none

/-- The reference model run on the same script with the same outcomes: every handle an independent
`Vec<u8>` value. -/
def Spec.run : List Op → List Outcome → Spec.St → Spec.St
  | op :: ops, .ok v :: outs, a => Spec.run ops outs (Spec.stepOk op v a)
  | op :: ops, .panic :: outs, a => Spec.run ops outs (Spec.stepPanic op a)
  | _, _, a => a

/-- C01 + C02: from any well-formed state, any script runs without undefined behaviour, ends in a
well-formed state, and every live handle reads exactly what the reference model says. -/
theorem refines (cfg : Cfg) (e : Env) (ops : List Op) (hops : ∀ op ∈ ops, OpOK op) (s : St) (h : WFx s) :
    ∃ sf outs, run cfg e ops s = some (sf, outs) ∧ outs.length = ops.length ∧ WFx sf ∧
      abs sf = Spec.run ops outs (abs s) := by
  induction ops generalizing s with
  | nil => exact ⟨s, [], rfl, rfl, h, rfl⟩
  | cons op ops ih =>
    have hs := step_sound cfg e op s h (hops op List.mem_cons_self)
    unfold StepOKx at hs
    have hops' : ∀ op' ∈ ops, OpOK op' := fun o ho => hops o (List.mem_cons_of_mem _ ho)
    rcases R.sat_cases hs with ⟨v, s', hst, hw, ha⟩ | ⟨s', hst, hw, ha⟩
    · obtain ⟨sf, outs, hr, hl, hwf, hab⟩ := ih hops' s' hw
      refine ⟨sf, .ok v :: outs, ?_, by simp [hl], hwf, ?_⟩
      · simp [run, hst, hr]
      · rw [hab, ha]; rfl
    · obtain ⟨sf, outs, hr, hl, hwf, hab⟩ := ih hops' s' hw
      refine ⟨sf, .panic :: outs, ?_, by simp [hl], hwf, ?_⟩
      · simp [run, hst, hr]
      · rw [hab, ha]; rfl

theorem refines_init (cfg : Cfg) (e : Env) (ops : List Op) (hops : ∀ op ∈ ops, OpOK op) :
    ∃ sf outs, run cfg e ops {} = some (sf, outs) ∧ outs.length = ops.length ∧ WF sf ∧
      abs sf = Spec.run ops outs [] := by
  obtain ⟨sf, outs, hr, hl, hwf, hab⟩ := refines cfg e ops hops {} WFx_init
  exact ⟨sf, outs, hr, hl, hwf.wf, hab⟩

/-- C02 at the model level: a safe call on a reachable state never reaches undefined behaviour
(read / write / free outside a live allocation, double free, free with a wrong size, use after
free, misdecoded tag bit). -/
theorem no_ub (cfg : Cfg) (e : Env) (op : Op) (ho : OpOK op) (s : St) (h : WFx s) :
    ∀ w s', step cfg e op s ≠ .ub w s' := by
  intro w s' hst
  have hs := step_sound cfg e op s h ho
  unfold StepOKx at hs
  rw [hst] at hs
  exact hs

/-- C01 "an operation on one handle never changes what any other live handle reads". -/
theorem frame (cfg : Cfg) (e : Env) (op : Op) (ho : OpOK op) (s : St) (h : WFx s) (j : Nat)
    (hj : j ∉ touched op) (x : SH) (hx : Spec.get (abs s) j = some x) :
    match step cfg e op s with
    | .ok _ s' => Spec.get (abs s') j = some x
    | .panic s' => Spec.get (abs s') j = some x
    | .ub _ _ => False := by
  have hs := step_sound cfg e op s h ho
  unfold StepOKx at hs
  rcases R.sat_cases hs with ⟨v, s', hst, _, ha⟩ | ⟨s', hst, _, ha⟩
  · rw [hst]
    show Spec.get (abs s') j = some x
    rw [ha]
    exact PropC01.frame_ok op v (abs s) j hj x hx
  · rw [hst]
    show Spec.get (abs s') j = some x
    rw [ha]
    exact PropC01.frame_panic op (abs s) j hj x hx

/-- C01 "the contents of a Bytes never change after it is created": whatever happens to other
handles, and under every operation on the handle itself that keeps it a `Bytes`, what it reads is a
sub-range of what it read before. -/
theorem bytes_immutable (cfg : Cfg) (e : Env) (op : Op) (ho : OpOK op) (s : St) (h : WFx s) (j : Nat)
    (x : SH) (hx : Spec.get (abs s) j = some x) (hk : x.kind = .bytes) :
    match step cfg e op s with
    | .ok _ s' => ∀ y, Spec.get (abs s') j = some y → ∃ a b, y.val = (x.val.drop a).take b
    | .panic s' => Spec.get (abs s') j = some x
    | .ub _ _ => False := by
  by_cases hw : PropC01.writesTo j op
  · obtain ⟨repr, reg, off, len, hh⟩ := PropC01.bytes_of_abs hx hk
    rw [PropC01.writes_panic cfg e op s j hh hw]
    exact hx
  · have hs := step_sound cfg e op s h ho
    unfold StepOKx at hs
    rcases R.sat_cases hs with ⟨v, s', hst, _, ha⟩ | ⟨s', hst, _, ha⟩
    · rw [hst]
      show ∀ y, Spec.get (abs s') j = some y → ∃ a b, y.val = (x.val.drop a).take b
      rw [ha]
      exact PropC01.immut_ok op v (abs s) j hw x hx
    · rw [hst]
      show Spec.get (abs s') j = some x
      rw [ha]
      exact PropC01.immut_panic op (abs s) j x hx hk

/-- C13: a call that panics leaves every handle with its previous contents, length and kind (the one
handle moved into `unsplit` is consumed), the state stays well-formed (so every handle stays fully
usable and all storage is still released exactly once, by C03), and no undefined behaviour occurs. -/
theorem panic_atomic (cfg : Cfg) (e : Env) (op : Op) (ho : OpOK op) (s : St) (h : WFx s) (s' : St)
    (hp : step cfg e op s = .panic s') :
    WFx s' ∧ abs s' = Spec.stepPanic op (abs s) := by
  have hs := step_sound cfg e op s h ho
  unfold StepOKx at hs
  rw [hp] at hs
  exact hs

def sampleScript : List Op :=
  [.copyFromSlice [1, 2, 3, 4], .clone 0, .splitOff 0 2, .intoMut 1, .extend 1 [9], .freeze 1, .drop 0, .slice 1 1 3, .drop 2, .drop 1, .drop 3]
example : (run ⟨true, true⟩ ⟨fun _ => false⟩ sampleScript {}).isSome = true := by decide

end BytesVerif.Core
