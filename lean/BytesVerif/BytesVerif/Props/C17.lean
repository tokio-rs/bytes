/-
C17 — a safe-but-lying `Buf` source cannot drive the crate's consumers into undefined behaviour.
Stated over M6 (Model/Adv.lean): for every script of lies, every argument, every fuel, no consumer
evaluates to `.ub`; what they return was read inside the slice the adversary really handed out, and
growing destinations keep `len ≤ cap`.  The last section shows the `ub` outcome is not vacuous: the
same loop with the reservation taken from `remaining()` instead of the chunk's real length does reach it.
-/
import BytesVerif.Model.Adv
import BytesVerif.Lemmas.Adv
namespace BytesVerif.Adv

def NoUB {α : Type} (r : Res α) : Prop := ∀ w, r ≠ .ub w

theorem tryCopyLoop_no_ub (fuel : Nat) (b : AdvBuf) (need : Nat) (acc : Bs) : NoUB (tryCopyLoop fuel b need acc) := by
  induction fuel generalizing b need acc with
  | zero => exact safe_hang
  | succ fuel ih =>
    simp only [tryCopyLoop]
    apply Safe.ite (fun _ => safe_ok _) fun _ => ?_
    refine Safe.bind (chunk_safe b) fun src _ => ?_
    refine Safe.bind (sliceTo_safe _ _) fun part _ => ?_
    exact Safe.bind (advance_safe _ _) fun b' _ => ih _ _ _

theorem tryCopyToSlice_no_ub (fuel : Nat) (b : AdvBuf) (n : Nat) : NoUB (tryCopyToSlice fuel b n) := by
  unfold tryCopyToSlice
  refine Safe.bind (remaining_safe b) fun r _ => ?_
  apply Safe.ite (fun _ => safe_ok _) fun _ => ?_
  exact Safe.bind (tryCopyLoop_no_ub _ _ _ _) fun ⟨bs, b'⟩ _ => safe_ok _

theorem copyToSlice_no_ub (fuel : Nat) (b : AdvBuf) (n : Nat) : NoUB (copyToSlice fuel b n) := by
  unfold copyToSlice
  refine Safe.bind (tryCopyToSlice_no_ub _ _ _) fun p _ => ?_
  obtain ⟨o, b'⟩ := p
  cases o <;> simp

/-- the typed getters' fast path: the unsafe array read never leaves the slice `chunk()` returned,
whatever `remaining()` claimed -/
theorem tryGetFixed_no_ub (fuel : Nat) (b : AdvBuf) (size : Nat) : NoUB (tryGetFixed fuel b size) := by
  unfold tryGetFixed
  refine Safe.bind (remaining_safe b) fun r _ => ?_
  apply Safe.ite (fun _ => safe_ok _) fun _ => ?_
  refine Safe.bind (chunk_safe b) fun c _ => ?_
  apply Safe.ite (fun hc => ?_) fun _ => ?_
  · refine Safe.bind (unsafeRead_safe_of_le ?_) fun bytes _ => ?_
    · simp [List.length_take]; omega
    · exact Safe.bind (advance_safe _ _) fun b' _ => safe_ok _
  · exact Safe.bind (copyToSlice_no_ub _ _ _) fun ⟨bs, b'⟩ _ => safe_ok _

theorem tryGetVar_no_ub (fuel : Nat) (b : AdvBuf) (nbytes : Nat) : NoUB (tryGetVar fuel b nbytes) := by
  unfold tryGetVar
  exact Safe.ite (fun _ => safe_panic) (fun _ => tryCopyToSlice_no_ub _ _ _)

theorem getU8_no_ub (b : AdvBuf) : NoUB (getU8 b) := by
  unfold getU8
  refine Safe.bind (remaining_safe b) fun r _ => ?_
  apply Safe.ite (fun _ => safe_panic) fun _ => ?_
  refine Safe.bind (chunk_safe b) fun c _ => ?_
  cases c with
  | nil => exact safe_panic
  | cons x xs => exact Safe.bind (advance_safe _ _) fun b' _ => safe_ok _

theorem putFixedLoop_no_ub (fuel : Nat) (b : AdvBuf) (room : Nat) (acc : Bs) :
    NoUB (putFixedLoop fuel b room acc) := by
  induction fuel generalizing b room acc with
  | zero => exact safe_hang
  | succ fuel ih =>
    simp only [putFixedLoop]
    refine Safe.bind (remaining_safe b) fun r _ => ?_
    apply Safe.ite (fun _ => safe_ok _) fun _ => ?_
    refine Safe.bind (chunk_safe b) fun s _ => ?_
    refine Safe.bind (sliceTo_safe _ _) fun part _ => ?_
    apply Safe.ite (fun _ => safe_panic) fun _ => ?_
    refine Safe.bind (advance_safe _ _) fun b' _ => ?_
    exact ih _ _ _

theorem putFixed_no_ub (fuel : Nat) (b : AdvBuf) (room : Nat) : NoUB (putFixed fuel b room) := by
  unfold putFixed
  refine Safe.bind (remaining_safe b) fun r _ => ?_
  exact Safe.ite (fun _ => safe_panic) fun _ => putFixedLoop_no_ub _ _ _ _

/-- growing destinations (`BytesMut::put`, `Vec::put`): every unsafe copy fits the capacity reserved for
the chunk's real length -/
theorem putGrowLoop_safe (fuel : Nat) (b : AdvBuf) (len cap : Nat) : NoUB (putGrowLoop fuel b len cap) := by
  induction fuel generalizing b len cap with
  | zero => exact safe_hang
  | succ fuel ih =>
    simp only [putGrowLoop]
    refine Safe.bind (remaining_safe b) fun r _ => ?_
    apply Safe.ite (fun _ => safe_ok _) fun _ => ?_
    refine Safe.bind (chunk_safe b) fun s _ => ?_
    refine Safe.bind (unsafeWrite_safe_of_le ?_) fun _ _ => ?_
    · split <;> omega
    · refine Safe.bind (advance_safe _ _) fun b' _ => ?_
      exact ih _ _ _

theorem putGrowLoop_no_ub (fuel : Nat) (b : AdvBuf) (len cap : Nat) (h : len ≤ cap) :
    NoUB (putGrowLoop fuel b len cap) :=
  -- `h` is not needed: `reserve` restores `len + chunk ≤ cap` by itself
  putGrowLoop_safe fuel b len cap

theorem putGrowLoop_len_le_cap (fuel : Nat) (b : AdvBuf) (len cap len' cap' : Nat) (h : len ≤ cap)
    (hr : putGrowLoop fuel b len cap = .ok (len', cap')) : len' ≤ cap' := by
  induction fuel generalizing b len cap with
  | zero => simp [putGrowLoop] at hr
  | succ fuel ih =>
    simp only [putGrowLoop] at hr
    obtain ⟨r, _, hr⟩ := bind_eq_ok hr
    split at hr
    · cases hr
      exact h
    · obtain ⟨s, _, hr⟩ := bind_eq_ok hr
      obtain ⟨_, _, hr⟩ := bind_eq_ok hr
      obtain ⟨b1, _, hr⟩ := bind_eq_ok hr
      refine ih _ _ _ ?_ hr
      split <;> omega

theorem iterNext_no_ub (b : AdvBuf) : NoUB (iterNext b) := by
  unfold iterNext
  refine Safe.bind (remaining_safe b) fun r _ => ?_
  apply Safe.ite (fun _ => safe_ok _) fun _ => ?_
  refine Safe.bind (chunk_safe b) fun c _ => ?_
  cases c with
  | nil => exact safe_panic
  | cons x xs => exact Safe.bind (advance_safe _ _) fun b' _ => safe_ok _

theorem readerRead_no_ub (fuel : Nat) (b : AdvBuf) (n : Nat) : NoUB (readerRead fuel b n) := by
  unfold readerRead
  exact Safe.bind (remaining_safe b) fun r _ => copyToSlice_no_ub _ _ _

theorem takeChunksVectored_no_ub (b : AdvBuf) (limit dstLen : Nat) : NoUB (takeChunksVectored b limit dstLen) := by
  unfold takeChunksVectored
  apply Safe.ite (fun _ => safe_ok _) fun _ => ?_
  apply Safe.ite (fun _ => safe_ok _) fun _ => ?_
  refine Safe.bind (remaining_safe b) fun r _ => ?_
  apply Safe.ite (fun _ => safe_ok _) fun _ => ?_
  exact Safe.bind (chunk_safe b) fun c _ => safe_ok _

/-! ### what comes back is exactly as long as the destination, and was read inside the adversary's memory -/

theorem tryCopyLoop_length (fuel : Nat) (b b' : AdvBuf) (need : Nat) (acc bs : Bs)
    (hr : tryCopyLoop fuel b need acc = .ok (bs, b')) : bs.length = acc.length + need := by
  induction fuel generalizing b need acc with
  | zero => simp [tryCopyLoop] at hr
  | succ fuel ih =>
    simp only [tryCopyLoop] at hr
    split at hr
    · cases hr; omega
    · obtain ⟨src, _, hr⟩ := bind_eq_ok hr
      obtain ⟨part, hp, hr⟩ := bind_eq_ok hr
      obtain ⟨b1, _, hr⟩ := bind_eq_ok hr
      have hl := sliceTo_length hp
      have := ih _ _ _ hr
      simp only [List.length_append, hl] at this
      omega

theorem tryCopyToSlice_length (fuel : Nat) (b b' : AdvBuf) (n : Nat) (bs : Bs)
    (hr : tryCopyToSlice fuel b n = .ok (some bs, b')) : bs.length = n := by
  unfold tryCopyToSlice at hr
  obtain ⟨r, _, hr⟩ := bind_eq_ok hr
  split at hr
  · cases hr
  · obtain ⟨⟨bs1, b1⟩, h1, hr⟩ := bind_eq_ok hr
    have := tryCopyLoop_length _ _ _ _ _ _ h1
    cases hr
    simpa using this

theorem copyToSlice_length (fuel : Nat) (b b' : AdvBuf) (n : Nat) (bs : Bs)
    (hr : copyToSlice fuel b n = .ok (bs, b')) : bs.length = n := by
  unfold copyToSlice at hr
  obtain ⟨⟨o, b1⟩, h1, hr⟩ := bind_eq_ok hr
  cases o with
  | none => simp at hr
  | some bs1 =>
    cases hr
    exact tryCopyToSlice_length _ _ _ _ _ h1

theorem tryGetFixed_length (fuel : Nat) (b b' : AdvBuf) (size : Nat) (bs : Bs)
    (hr : tryGetFixed fuel b size = .ok (some bs, b')) : bs.length = size := by
  unfold tryGetFixed at hr
  obtain ⟨r, _, hr⟩ := bind_eq_ok hr
  split at hr
  · cases hr
  · obtain ⟨c, _, hr⟩ := bind_eq_ok hr
    split at hr
    · obtain ⟨bytes, hb, hr⟩ := bind_eq_ok hr
      obtain ⟨b1, _, hr⟩ := bind_eq_ok hr
      cases hr
      exact unsafeRead_length hb
    · obtain ⟨⟨bs1, b1⟩, h1, hr⟩ := bind_eq_ok hr
      cases hr
      exact copyToSlice_length _ _ _ _ _ h1

/-- a fixed destination is never written past its end: the bytes written plus the room left is the room it had -/
theorem putFixedLoop_room (fuel : Nat) (b : AdvBuf) (room room' : Nat) (acc out : Bs)
    (hr : putFixedLoop fuel b room acc = .ok (out, room')) : out.length + room' = acc.length + room := by
  induction fuel generalizing b room acc with
  | zero => simp [putFixedLoop] at hr
  | succ fuel ih =>
    simp only [putFixedLoop] at hr
    obtain ⟨r, _, hr⟩ := bind_eq_ok hr
    split at hr
    · cases hr
      rfl
    · obtain ⟨s, _, hr⟩ := bind_eq_ok hr
      obtain ⟨part, hp, hr⟩ := bind_eq_ok hr
      have hl := sliceTo_length hp
      split at hr
      · cases hr
      · obtain ⟨b1, _, hr⟩ := bind_eq_ok hr
        have := ih _ _ _ hr
        simp only [List.length_append, hl] at this
        omega

/-! ### `Take` / `Chain` / `Limit` wrapped around the adversary -/

/-- `BytesMut::put(adv.take(limit))`: the unsafe copy of `extend_from_slice` always fits what `reserve` made room for -/
theorem putGrowTakeLoop_no_ub (fuel : Nat) (b : AdvBuf) (limit len cap : Nat) :
    NoUB (putGrowTakeLoop fuel b limit len cap) := by
  induction fuel generalizing b limit len cap with
  | zero => exact safe_hang
  | succ fuel ih =>
    simp only [putGrowTakeLoop]
    refine Safe.bind (takeRemaining_safe b limit) fun r _ => ?_
    apply Safe.ite (fun _ => safe_ok _) fun _ => ?_
    refine Safe.bind (takeChunk_safe b limit) fun s _ => ?_
    refine Safe.bind (unsafeWrite_safe_of_le (reserveCap_ge _ _ _)) fun _ _ => ?_
    refine Safe.bind (takeAdvance_safe _ _ _) fun p _ => ?_
    exact ih _ _ _ _

/-- … and `Take` bounds it: at most `limit` bytes are appended whatever `remaining()` / `chunk()` claim; `len ≤ cap` is kept -/
theorem putGrowTakeLoop_bound (fuel : Nat) (b : AdvBuf) (limit len cap len' cap' : Nat) (h : len ≤ cap)
    (hr : putGrowTakeLoop fuel b limit len cap = .ok (len', cap')) : len' ≤ len + limit ∧ len ≤ len' ∧ len' ≤ cap' := by
  induction fuel generalizing b limit len cap with
  | zero => simp [putGrowTakeLoop] at hr
  | succ fuel ih =>
    simp only [putGrowTakeLoop] at hr
    obtain ⟨r, _, hr⟩ := bind_eq_ok hr
    split at hr
    · cases hr
      omega
    · obtain ⟨s, hs, hr⟩ := bind_eq_ok hr
      obtain ⟨_, _, hr⟩ := bind_eq_ok hr
      obtain ⟨⟨b1, l1⟩, ha, hr⟩ := bind_eq_ok hr
      have hsl := takeChunk_length hs
      obtain ⟨_, rfl⟩ := takeAdvance_eq_ok ha
      have hm := add_le_reserveCap len cap s.length h
      have := ih _ _ _ _ hm hr
      omega

theorem defaultCopyToBytes_no_ub (fuel : Nat) (b : AdvBuf) (len : Nat) : NoUB (defaultCopyToBytes fuel b len) := by
  unfold defaultCopyToBytes
  refine Safe.bind (remaining_safe b) fun r _ => ?_
  apply Safe.ite (fun _ => safe_panic) fun _ => ?_
  exact Safe.bind (putGrowTakeLoop_no_ub _ _ _ _ _) fun _ _ => safe_ok _

/-- the `Bytes` it returns is never longer than requested (it may be shorter: wrong data is allowed, UB is not) -/
theorem defaultCopyToBytes_len_le (fuel : Nat) (b : AdvBuf) (len n : Nat)
    (hr : defaultCopyToBytes fuel b len = .ok n) : n ≤ len := by
  unfold defaultCopyToBytes at hr
  obtain ⟨r, _, hr⟩ := bind_eq_ok hr
  split at hr
  · cases hr
  · obtain ⟨⟨n', c'⟩, hp, hr⟩ := bind_eq_ok hr
    cases hr
    have := putGrowTakeLoop_bound _ _ _ _ _ _ _ (Nat.zero_le _) hp
    omega

theorem takeCopyToBytes_no_ub (fuel : Nat) (b : AdvBuf) (lim len : Nat) : NoUB (takeCopyToBytes fuel b lim len) := by
  unfold takeCopyToBytes
  refine Safe.bind (takeRemaining_safe b lim) fun r _ => ?_
  exact Safe.ite (fun _ => safe_panic) fun _ => defaultCopyToBytes_no_ub _ _ _

theorem chainCopyToBytes_no_ub (fuel : Nat) (b : AdvBuf) (bLen len : Nat) : NoUB (chainCopyToBytes fuel b bLen len) := by
  unfold chainCopyToBytes
  refine Safe.bind (remaining_safe b) fun r _ => ?_
  apply Safe.ite (fun _ => defaultCopyToBytes_no_ub _ _ _) fun _ => ?_
  apply Safe.ite (fun _ => Safe.ite (fun _ => safe_panic) fun _ => safe_ok _) fun _ => ?_
  apply Safe.ite (fun _ => safe_panic) fun _ => ?_
  refine Safe.bind (putGrowLoop_safe _ _ _ _) fun p _ => ?_
  refine Safe.bind (unsafeWrite_safe_of_le ?_) fun _ _ => safe_ok _
  simpa using reserveCap_ge p.1 p.2 (len - r)

theorem chainChunksVectored_no_ub (b : AdvBuf) (bLen : Nat) : NoUB (chainChunksVectored b bLen) := by
  unfold chainChunksVectored
  refine Safe.bind (remaining_safe b) fun r _ => ?_
  apply Safe.ite (fun _ => safe_ok _) fun _ => ?_
  exact Safe.bind (chunk_safe b) fun _ _ => safe_ok _

theorem chainChunksVectored_count (b : AdvBuf) (bLen n : Nat) (hr : chainChunksVectored b bLen = .ok n) : n ≤ 2 := by
  unfold chainChunksVectored at hr
  obtain ⟨r, _, hr⟩ := bind_eq_ok hr
  split at hr
  · cases hr; split <;> omega
  · obtain ⟨c, _, hr⟩ := bind_eq_ok hr
    cases hr
    split
    · split <;> omega
    · omega

/-- `Chain<&[u8], Adv>::get_u64()` and friends: short first half, the rest through `copy_to_slice` -/
theorem chainGetFixed_no_ub (fuel : Nat) (pre : Bs) (b : AdvBuf) (size : Nat) : NoUB (chainGetFixed fuel pre b size) := by
  unfold chainGetFixed
  refine Safe.bind (remaining_safe b) fun r _ => ?_
  apply Safe.ite (fun _ => safe_panic) fun _ => ?_
  exact Safe.bind (tryCopyLoop_no_ub _ _ _ _) fun _ _ => safe_ok _

theorem chainGetFixed_length (fuel : Nat) (pre : Bs) (b : AdvBuf) (size : Nat) (bs : Bs) (hp : pre.length ≤ size)
    (hr : chainGetFixed fuel pre b size = .ok bs) : bs.length = size := by
  unfold chainGetFixed at hr
  obtain ⟨r, _, hr⟩ := bind_eq_ok hr
  split at hr
  · cases hr
  · obtain ⟨⟨bs', b'⟩, hl, hr⟩ := bind_eq_ok hr
    cases hr
    have := tryCopyLoop_length _ _ _ _ _ _ hl
    omega

theorem putLimitLoop_no_ub (fuel : Nat) (b : AdvBuf) (limit len cap : Nat) :
    NoUB (putLimitLoop fuel b limit len cap) := by
  induction fuel generalizing b limit len cap with
  | zero => exact safe_hang
  | succ fuel ih =>
    simp only [putLimitLoop]
    refine Safe.bind (remaining_safe b) fun r _ => ?_
    apply Safe.ite (fun _ => safe_ok _) fun _ => ?_
    refine Safe.bind (chunk_safe b) fun s _ => ?_
    refine Safe.bind (sliceTo_safe _ _) fun _ _ => ?_
    apply Safe.ite (fun _ => safe_panic) fun _ => ?_
    apply Safe.ite (fun _ => safe_panic) fun _ => ?_
    refine Safe.bind (advance_safe _ _) fun b' _ => ?_
    exact ih _ _ _ _

theorem putLimit_no_ub (fuel : Nat) (b : AdvBuf) (limit len cap : Nat) : NoUB (putLimit fuel b limit len cap) := by
  unfold putLimit
  refine Safe.bind (remaining_safe b) fun r _ => ?_
  exact Safe.ite (fun _ => safe_panic) fun _ => putLimitLoop_no_ub _ _ _ _ _

/-- `Limit` holds against a lying source: bytes written + limit left = limit before, and `len ≤ cap` is kept -/
theorem putLimitLoop_bound (fuel : Nat) (b : AdvBuf) (limit len cap len' cap' limit' : Nat) (h : len ≤ cap)
    (hr : putLimitLoop fuel b limit len cap = .ok (len', cap', limit')) :
    len' + limit' = len + limit ∧ len' ≤ cap' := by
  induction fuel generalizing b limit len cap with
  | zero => simp [putLimitLoop] at hr
  | succ fuel ih =>
    simp only [putLimitLoop] at hr
    obtain ⟨r, _, hr⟩ := bind_eq_ok hr
    split at hr
    · cases hr
      exact ⟨rfl, h⟩
    · obtain ⟨s, _, hr⟩ := bind_eq_ok hr
      obtain ⟨_, _, hr⟩ := bind_eq_ok hr
      split at hr
      · cases hr
      · split at hr
        · cases hr
        · obtain ⟨b1, _, hr⟩ := bind_eq_ok hr
          have hc : len ≤ chunkMutCap len cap := by unfold chunkMutCap; split <;> omega
          have := ih _ _ _ _ (by omega) hr
          omega

/-! ### `ub` is reachable in this model: the reservation-from-`remaining()` variant -/

/-- the copy loop of `putGrowLoop` without the per-chunk `reserve`: each chunk is copied unchecked -/
def putGrowBadLoop : Nat → AdvBuf → Nat → Nat → Res (Nat × Nat)
  | 0, _, _, _ => .hang
  | fuel + 1, b, len, cap => do
    let r ← remaining b
    if r = 0 then pure (len, cap)
    else do
      let s ← chunk b
      unsafeWrite (cap - len) s
      let b' ← advance b s.length
      putGrowBadLoop fuel b' (len + s.length) cap

/-- … entered after one `reserve(src.remaining())` up front -/
def putGrowBad (fuel : Nat) (b : AdvBuf) (len cap : Nat) : Res (Nat × Nat) := do
  let r ← remaining b
  let cap' := if cap - len ≥ r then cap else max (2 * cap) (len + r)
  putGrowBadLoop fuel b len cap'

def liar : AdvBuf := { script := [⟨1, 80, 0⟩], backing := List.replicate 512 0 }

/- The three witnesses below are closed test vectors: the kernel evaluates the consumers on `liar`. -/

theorem putGrowBad_reaches_ub : ∃ w, putGrowBad 10 liar 0 8 = .ub w := by
  -- `remaining()` claims 1 byte, so 8 bytes of capacity look enough; `chunk()` then hands out 80
  exact ⟨"write past the end of the destination", by decide +kernel⟩

theorem putGrow_same_input_fine : ∃ r, putGrowLoop 10 liar 0 8 = .ok r := by
  exact ⟨(80, 80), by decide +kernel⟩

/-- on the same backing memory the Take-bounded copy really runs and is cut at the limit -/
theorem defaultCopyToBytes_liar : ∃ n, defaultCopyToBytes 10 { liar with script := [⟨5, 80, 0⟩] } 4 = .ok n ∧ n = 4 := by
  exact ⟨4, by decide +kernel, rfl⟩

end BytesVerif.Adv
