/-
C15 — Debug, hex and serde output round-trip to the exact contents.
The chains come from Generated/FmtTables.lean; Cert/C15.lean evaluates `debugChainOK` /
`hexChainOK` on them.
-/
import BytesVerif.Model.Fmt
namespace BytesVerif.Fmt

theorem parse1_plain (c : Char) (t : List Char) (hc : c ≠ '\\') :
    parse1 (c :: t) = if 32 ≤ c.toNat ∧ c.toNat < 127 ∧ c.toNat ≠ 34 ∧ c.toNat ≠ 92 then some (c.toNat, t) else none := by
  unfold parse1
  split
  -- the tenth alternative of `parse1` is the plain character; the others need `c = '\\'` or an empty list
  case h_10 heq => cases heq; rfl
  all_goals rename_i heq; cases heq
  all_goals exact absurd rfl hc

/-- `parse1` consumes a non-empty prefix and never looks beyond it. -/
theorem parse1_split (l : List Char) (b : Nat) (r : List Char) (h : parse1 l = some (b, r)) :
    ∃ p, l = p ++ r ∧ p ≠ [] ∧ ∀ t, parse1 (p ++ t) = some (b, t) := by
  unfold parse1 at h
  split at h
  -- alternatives of `parse1`: 1–7 the two-character escapes, 8 `\xHH`, 9 a lone backslash, 10 a plain character, 11 `[]`
  case h_8 x y r' =>
    cases hx : hexVal x <;> cases hy : hexVal y <;> simp only [hx, hy] at h <;> cases h
    exact ⟨['\\', 'x', x, y], rfl, List.cons_ne_nil _ _, fun t => by simp only [List.cons_append, List.nil_append, parse1, hx, hy]⟩
  case h_10 c r' _ _ _ _ _ _ _ _ hc =>
    dsimp only at h
    split at h <;> cases h
    exact ⟨[c], rfl, List.cons_ne_nil _ _, fun t => by rw [List.cons_append, List.nil_append, parse1_plain c _ hc, if_pos ‹_ ∧ _›]⟩
  all_goals cases h
  all_goals exact ⟨[_, _], rfl, List.cons_ne_nil _ _, fun t => by simp only [List.cons_append, List.nil_append, parse1]⟩

/-- The reason why an escape followed by any other text (e.g. `\0` followed by a digit) still decodes
to the same byte. -/
theorem parse1_append (l t : List Char) (b : Nat) (r : List Char)
    (h : parse1 l = some (b, r)) : parse1 (l ++ t) = some (b, r ++ t) := by
  obtain ⟨p, rfl, _, hp⟩ := parse1_split l b r h
  rw [List.append_assoc]
  exact hp _

theorem parse1_length (l : List Char) (b : Nat) (r : List Char) (h : parse1 l = some (b, r)) :
    r.length < l.length := by
  obtain ⟨p, rfl, hne, _⟩ := parse1_split l b r h
  have := List.length_pos_iff.mpr hne
  rw [List.length_append]
  omega

theorem parseBody_step (fuel : Nat) (c : Char) (r : List Char) (hc : c ≠ '"') :
    parseBody (fuel + 1) (c :: r) =
      match parse1 (c :: r) with
      | some (b, r') => (parseBody fuel r').map (b :: ·)
      | none => none := by
  simp [parseBody, hc]
  cases parse1 (c :: r) <;> rfl

/-- What `debugChainOK` says about one byte. -/
theorem debugChainOK_byte (ch : Chain) (h : debugChainOK ch = true) (b : Nat) (hb : b < 256) :
    ∃ cs, fmtByte ch b = some cs ∧ parse1 cs = some (b, []) ∧ cs.head? ≠ some '"' := by
  unfold debugChainOK at h
  simp only [Bool.and_eq_true, List.all_eq_true, List.mem_range] at h
  have hb' := h.2 b hb
  cases hf : fmtByte ch b with
  | none => simp [hf] at hb'
  | some cs =>
    simp only [hf, Bool.and_eq_true, beq_iff_eq, bne_iff_ne] at hb'
    exact ⟨cs, rfl, hb'.1, hb'.2⟩

theorem body_roundtrip (ch : Chain) (h : debugChainOK ch = true) (bs : List Nat)
    (hbs : ∀ b ∈ bs, b < 256) :
    ∃ body, fmtBody ch bs = some body ∧
      ∀ fuel, (body ++ ['"']).length ≤ fuel → parseBody fuel (body ++ ['"']) = some bs := by
  induction bs with
  | nil =>
    refine ⟨[], rfl, ?_⟩
    intro fuel hf
    cases fuel with
    | zero => simp at hf
    | succ f => simp [parseBody]
  | cons b bs ih =>
    obtain ⟨rest, hrest, hparse⟩ := ih (fun x hx => hbs x (List.mem_cons_of_mem _ hx))
    obtain ⟨cs, hcs, hp1, hq⟩ := debugChainOK_byte ch h b (hbs b (List.mem_cons_self ..))
    refine ⟨cs ++ rest, by simp [fmtBody, hcs, hrest], ?_⟩
    intro fuel hf
    cases cs with
    | nil => exact absurd (parse1_length _ _ _ hp1) (Nat.lt_irrefl _)
    | cons c cs' =>
      have hc : c ≠ '"' := by intro hc; subst hc; simp at hq
      cases fuel with
      | zero => simp at hf
      | succ f =>
        have happ := parse1_append (c :: cs') (rest ++ ['"']) b [] hp1
        simp only [List.nil_append] at happ
        rw [List.append_assoc, List.cons_append, parseBody_step f c _ hc, ← List.cons_append, happ]
        simp only
        rw [hparse f (by simp at hf ⊢; omega)]
        rfl

/-- **Debug round-trip**: for every chain accepted by the decision procedure and every byte string,
the Debug output is a byte-string literal (in the strict grammar of `parseLit`) that decodes to
exactly the contents. -/
theorem debug_roundtrip (ch : Chain) (h : debugChainOK ch = true) (bs : List Nat)
    (hbs : ∀ b ∈ bs, b < 256) :
    ∃ s, fmtAll ch bs = some s ∧ parseLit s = some bs := by
  obtain ⟨body, hbody, hparse⟩ := body_roundtrip ch h bs hbs
  have hpre : ch.pre = ['b', '"'] ∧ ch.post = ['"'] := by
    unfold debugChainOK at h
    simp only [Bool.and_eq_true, beq_iff_eq] at h
    exact ⟨h.1.1, h.1.2⟩
  refine ⟨ch.pre ++ body ++ ch.post, by simp [fmtAll, hbody], ?_⟩
  rw [hpre.1, hpre.2]
  simp only [List.cons_append, List.nil_append, parseLit]
  exact hparse _ (by simp)

theorem hexDigit_val (up : Bool) (n : Nat) (hn : n < 16) : hexValCase up (hexDigit up n) = some n := by
  have : ∀ (u : Bool) (k : Fin 16), hexValCase u (hexDigit u k.val) = some k.val := by decide
  exact this up ⟨n, hn⟩

/-- **Hex round-trip**: exactly two digits of the requested case per byte, in order, decoding to the
contents. -/
theorem hex_roundtrip (up : Bool) (ch : Chain) (h : hexChainOK up ch = true) (bs : List Nat)
    (hbs : ∀ b ∈ bs, b < 256) :
    ∃ s, fmtAll ch bs = some s ∧ parseHexStr up s = some bs ∧ s.length = 2 * bs.length := by
  unfold hexChainOK at h
  simp only [Bool.and_eq_true, List.all_eq_true, List.mem_range, beq_iff_eq] at h
  obtain ⟨⟨hpre, hpost⟩, hbyte⟩ := h
  suffices hs : ∃ s, fmtBody ch bs = some s ∧ parseHexStr up s = some bs ∧ s.length = 2 * bs.length by
    obtain ⟨s, h1, h2, h3⟩ := hs
    exact ⟨s, by simp [fmtAll, h1, hpre, hpost], h2, h3⟩
  induction bs with
  | nil => exact ⟨[], rfl, rfl, rfl⟩
  | cons b bs ih =>
    obtain ⟨s, h1, h2, h3⟩ := ih (fun x hx => hbs x (List.mem_cons_of_mem _ hx))
    have hb := hbs b (List.mem_cons_self ..)
    have hf := hbyte b hb
    refine ⟨hex2 up b ++ s, by simp [fmtBody, hf, h1], ?_, ?_⟩
    · simp only [hex2, List.cons_append, List.nil_append, parseHexStr]
      rw [hexDigit_val up (b / 16) (by omega), hexDigit_val up (b % 16) (by omega), h2]
      simp only [Option.some.injEq, List.cons.injEq, and_true]
      omega
    · simp [hex2, h3]; omega

/-- serde visitor rows: the value holds exactly the bytes handed to the visitor method. -/
theorem serde_visit_sound (r : SerdeRow) (_h : serdeRowOK r = true) (hv : r.body = .contentsOfInput)
    (inp : List Nat) : serdeVisit r inp = some inp := by
  simp [serdeVisit, hv]

-- Non-vacuity: the chain of the pinned source is accepted, and a chain that prints 0x7f raw is not.
def sampleChain : Chain :=
  { arms := [(.eq 10, [.lit ['\\', 'n']]), (.eq 13, [.lit ['\\', 'r']]), (.eq 9, [.lit ['\\', 't']]),
             (.eq2 92 34, [.lit ['\\'], .argChar]), (.eq 0, [.lit ['\\', '0']]), (.range 32 127, [.argChar])],
    dflt := [.lit ['\\', 'x'], .argHexLower], pre := ['b', '"'], post := ['"'] }
example : debugChainOK sampleChain = true := by decide +kernel
example : debugChainOK { sampleChain with arms := sampleChain.arms.dropLast ++ [(.range 32 128, [.argChar])] } = false := by
  decide +kernel
example : fmtAll sampleChain [0, 48, 34, 255] = some "b\"\\00\\\"\\xff\"".toList := by decide +kernel

end BytesVerif.Fmt
